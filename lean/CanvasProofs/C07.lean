import CanvasGen.CoreK
import CanvasGen.BezierK
import CanvasProofs.Lemmas.C07Basics
import CanvasProofs.Lemmas.C07Eigen
import CanvasProofs.Lemmas.C07Arc
import CanvasProofs.Lemmas.C07Decompose
import CanvasProofs.Lemmas.C07Pred
import CanvasProofs.Lemmas.C07Form
import CanvasProofs.Lemmas.C07Real
import Mathlib.Tactic.NormNum.Basic
import Mathlib.Tactic.NormNum.Ineq
import Mathlib.Tactic.NormNum.Inv
import Mathlib.Tactic.NormNum.Pow
import Mathlib.Tactic.NormNum.Eq

/-! # C07 — Matrix algebra and affine images of Bézier segments
The first part is about the *generated* translations of /repo/util.go and /repo/path_util.go (`GenK`),
over an arbitrary linearly ordered field `K`. The second part (from `rotate_dot` on) is about the
hand-written model `Canvas.C07` (CanvasModel/C07.lean) of `Matrix.Rotate`, `solveQuadraticFormula`,
`Matrix.Eigen`, the ArcTo case and the loop of `Path.Transform`, and `Matrix.ToSVG`, instantiated with the
generated definitions (`C07.opsK`); that model is compared with the real functions on every run. The
theorems at the end (`isTranslation_iff` to `isRigid_det_and_similarity`) are again about generated
definitions, the predicates of util.go.
Hypotheses used: `Laws K` (CanvasProofs/Lemmas/C07Basics.lean: `sqrt(x)² = x` for `x ≥ 0`,
`hypot(x,y)² = x²+y²`, addition formulas, `atan2` is the angle of a vector, `π ≠ 0` — satisfied by the
real functions, `C07.lawsReal`) and, where stated, exact comparisons `Env.epsilon = 0`. -/
set_option linter.unusedSectionVars false
namespace C07
open Canvas GenK Canvas.C07
variable {K : Type} [Field K] [LinearOrder K] [IsStrictOrderedRing K] [Env K]

def ident : Mat K := Mat.mk 1 0 0 0 1 0

theorem mul_assoc (m q r : Mat K) : Matrix.Mul (Matrix.Mul m q) r = Matrix.Mul m (Matrix.Mul q r) :=
  Aff.mul_assoc m q r

theorem identity_mul (m : Mat K) : Matrix.Mul ident m = m := Aff.one_mul m

theorem mul_identity (m : Mat K) : Matrix.Mul m ident = m := Aff.mul_one m

/-- Mul composes right-to-left: (m·q)·p = m·(q·p). -/
theorem dot_mul (m q : Mat K) (p : Pt K) : Matrix.Dot (Matrix.Mul m q) p = Matrix.Dot m (Matrix.Dot q p) :=
  Aff.dot_mul m q p

theorem det_mul (m q : Mat K) : Matrix.Det (Matrix.Mul m q) = Matrix.Det m * Matrix.Det q :=
  Aff.det_mul m q

theorem inv_mul (m : Mat K) (h : Matrix.Det m ≠ 0) : Matrix.Mul (Matrix.Inv m) m = ident :=
  Aff.inv_mul m h

theorem mul_inv (m : Mat K) (h : Matrix.Det m ≠ 0) : Matrix.Mul m (Matrix.Inv m) = ident :=
  Aff.mul_inv m h

/-- Inv inverts: applying m then Inv m returns every point. -/
theorem inv_dot (m : Mat K) (p : Pt K) (h : Matrix.Det m ≠ 0) : Matrix.Dot (Matrix.Inv m) (Matrix.Dot m p) = p :=
  Aff.inv_dot m p h

theorem dot_inv (m : Mat K) (p : Pt K) (h : Matrix.Det m ≠ 0) : Matrix.Dot m (Matrix.Dot (Matrix.Inv m) p) = p :=
  Aff.dot_inv m p h

/-- T transposes the linear part and is an involution. -/
theorem T_T (m : Mat K) : Matrix.T (Matrix.T m) = m := by
  cases m; simp [Matrix.T]

theorem T_entries (m : Mat K) : (Matrix.T m).a = m.a ∧ (Matrix.T m).b = m.d ∧ (Matrix.T m).d = m.b ∧ (Matrix.T m).e = m.e := by
  cases m; simp [Matrix.T]

theorem det_T (m : Mat K) : Matrix.Det (Matrix.T m) = Matrix.Det m := by
  cases m; simp [Matrix.T, Matrix.Det]; ring

/-- the elementary transformations act on points as documented, and post-multiply -/
theorem translate_dot (m : Mat K) (x y : K) (p : Pt K) :
    Matrix.Dot (Matrix.Translate m x y) p = Matrix.Dot m (Pt.mk (p.x + x) (p.y + y)) :=
  Aff.translate_dot m x y p

theorem scale_dot (m : Mat K) (sx sy : K) (p : Pt K) :
    Matrix.Dot (Matrix.Scale m sx sy) p = Matrix.Dot m (Pt.mk (sx * p.x) (sy * p.y)) :=
  Aff.scale_dot m sx sy p

theorem shear_dot (m : Mat K) (sx sy : K) (p : Pt K) :
    Matrix.Dot (Matrix.Shear m sx sy) p = Matrix.Dot m (Pt.mk (p.x + sx * p.y) (sy * p.x + p.y)) :=
  Aff.shear_dot m sx sy p

theorem reflectX_dot (m : Mat K) (p : Pt K) :
    Matrix.Dot (Matrix.ReflectX m) p = Matrix.Dot m (Pt.mk (-p.x) p.y) :=
  Aff.reflectX_dot m p

theorem reflectY_dot (m : Mat K) (p : Pt K) :
    Matrix.Dot (Matrix.ReflectY m) p = Matrix.Dot m (Pt.mk p.x (-p.y)) :=
  Aff.reflectY_dot m p

/-- `*About` variants fix their centre. -/
theorem scaleAbout_fixes (sx sy x y : K) :
    Matrix.Dot (Matrix.ScaleAbout ident sx sy x y) (Pt.mk x y) = Pt.mk x y := by
  simp only [Aff.scaleAbout_dot, sub_self, mul_zero, add_zero]
  exact Aff.one_dot _

theorem shearAbout_fixes (sx sy x y : K) :
    Matrix.Dot (Matrix.ShearAbout ident sx sy x y) (Pt.mk x y) = Pt.mk x y := by
  simp only [Aff.shearAbout_dot, sub_self, mul_zero, add_zero]
  exact Aff.one_dot _

theorem reflectXAbout_dot (x : K) (p : Pt K) :
    Matrix.Dot (Matrix.ReflectXAbout ident x) p = Pt.mk (2 * x - p.x) p.y :=
  (Aff.reflectXAbout_dot ident x p).trans (Aff.one_dot _)

theorem reflectYAbout_dot (y : K) (p : Pt K) :
    Matrix.Dot (Matrix.ReflectYAbout ident y) p = Pt.mk p.x (2 * y - p.y) :=
  (Aff.reflectYAbout_dot ident y p).trans (Aff.one_dot _)

/-- Affine maps commute with Bézier evaluation: the transformed control polygon traces exactly
the image of the segment, at the same parameter (so in the same direction). -/
theorem quad_bezier_affine (m : Mat K) (p0 p1 p2 : Pt K) (t : K) :
    quadraticBezierPos (Matrix.Dot m p0) (Matrix.Dot m p1) (Matrix.Dot m p2) t
      = Matrix.Dot m (quadraticBezierPos p0 p1 p2 t) := by
  simp only [quadraticBezierPos, Point.Mul, Point.Add, Matrix.Dot]; congr 1 <;> ring

theorem cube_bezier_affine (m : Mat K) (p0 p1 p2 p3 : Pt K) (t : K) :
    cubicBezierPos (Matrix.Dot m p0) (Matrix.Dot m p1) (Matrix.Dot m p2) (Matrix.Dot m p3) t
      = Matrix.Dot m (cubicBezierPos p0 p1 p2 p3 t) := by
  simp only [cubicBezierPos, Point.Mul, Point.Add, Matrix.Dot]; congr 1 <;> ring

theorem line_affine (m : Mat K) (p q : Pt K) (t : K) :
    Point.Interpolate (Matrix.Dot m p) (Matrix.Dot m q) t = Matrix.Dot m (Point.Interpolate p q t) :=
  Aff.dot_interpolate m t p q

/-- The sweep flag of an arc is flipped exactly for orientation-reversing maps: `Path.Transform`
tests `xscale*yscale < 0` with the scales of `Decompose`, and that product is the determinant
(for any `sqrt` with `sqrt(x)^2 = x` on non-negative arguments). -/
theorem decompose_scale_product (m : Mat K)
    (hs : ∀ x : K, 0 ≤ x → Env.sqrt x * Env.sqrt x = x) :
    (Matrix.Decompose m).2.2.2.1 * (Matrix.Decompose m).2.2.2.2.1 = Matrix.Det m := by
  cases m with | mk a b c d e f =>
  simp only [Matrix.Decompose, Matrix.Det]
  have h : ∀ x y : K, Env.sqrt (x * x + y * y) * Env.sqrt (x * x + y * y) = x * x + y * y := fun x y =>
    hs _ (add_nonneg (mul_self_nonneg x) (mul_self_nonneg y))
  rw [← mul_self_sub_mul_self, h, h]; ring

/-- `Rect.Transform` returns a box containing the image of every point of the rectangle. -/
theorem rect_transform_contains (m : Mat K) (r : Rct K) (p : Pt K)
    (hx : r.x0 ≤ p.x ∧ p.x ≤ r.x1) (hy : r.y0 ≤ p.y ∧ p.y ≤ r.y1) :
    (Rect.Transform r m).x0 ≤ (Matrix.Dot m p).x ∧ (Matrix.Dot m p).x ≤ (Rect.Transform r m).x1 ∧
    (Rect.Transform r m).y0 ≤ (Matrix.Dot m p).y ∧ (Matrix.Dot m p).y ≤ (Rect.Transform r m).y1 :=
  Aff.rect_transform_contains m r p hx hy

theorem det_inv (m : Mat K) (h : Matrix.Det m ≠ 0) : Matrix.Det (Matrix.Inv m) = 1 / Matrix.Det m := by
  refine eq_div_of_mul_eq h ?_
  rw [← det_mul, inv_mul m h]
  simp [ident, Matrix.Det]

/-- the inverse is unique: any left inverse is `Inv m` -/
theorem inv_unique (m q : Mat K) (h : Matrix.Det m ≠ 0) (hq : Matrix.Mul q m = ident) : q = Matrix.Inv m := by
  have h1 : Matrix.Mul (Matrix.Mul q m) (Matrix.Inv m) = Matrix.Inv m := by rw [hq, identity_mul]
  rw [mul_assoc, mul_inv m h, mul_identity] at h1
  exact h1

theorem inv_inv (m : Mat K) (h : Matrix.Det m ≠ 0) : Matrix.Inv (Matrix.Inv m) = m := by
  have hd : Matrix.Det (Matrix.Inv m) ≠ 0 := by
    rw [det_inv m h]; exact one_div_ne_zero h
  exact (inv_unique (Matrix.Inv m) m hd (mul_inv m h)).symm

/-- the inverse of a product is the product of the inverses in the opposite order (undoing a composed
view/transform stack) -/
theorem inv_of_mul (m q : Mat K) (hm : Matrix.Det m ≠ 0) (hq : Matrix.Det q ≠ 0) :
    Matrix.Inv (Matrix.Mul m q) = Matrix.Mul (Matrix.Inv q) (Matrix.Inv m) := by
  have hd : Matrix.Det (Matrix.Mul m q) ≠ 0 := by rw [det_mul]; exact mul_ne_zero hm hq
  refine (inv_unique (Matrix.Mul m q) _ hd ?_).symm
  rw [mul_assoc, ← mul_assoc (Matrix.Inv m) m q, inv_mul m hm, identity_mul, inv_mul q hq]

/-- an invertible matrix is injective on points: distinct points never collapse -/
theorem dot_injective (m : Mat K) (hm : Matrix.Det m ≠ 0) (p q : Pt K)
    (h : Matrix.Dot m p = Matrix.Dot m q) : p = q := by
  have := congrArg (Matrix.Dot (Matrix.Inv m)) h
  rwa [inv_dot m p hm, inv_dot m q hm] at this

theorem pos_translate (x y : K) : Matrix.Pos (Matrix.Translate ident x y) = (x, y) := by
  simp [Matrix.Pos, Matrix.Translate, Matrix.Mul, ident]

/-- Rotate post-multiplies by the rotation matrix: the point is rotated first, then mapped by `m` -/
theorem rotate_dot (m : Mat K) (s c : K) (p : Pt K) :
    Matrix.Dot (rotateSC m s c) p = Matrix.Dot m (Pt.mk (c * p.x - s * p.y) (s * p.x + c * p.y)) :=
  Aff.rotate_dot m s c p

theorem rotate_det (m : Mat K) (s c : K) (h : c * c + s * s = 1) : Matrix.Det (rotateSC m s c) = Matrix.Det m := by
  rw [rotateSC, ops_mmul, det_mul]
  simp only [Matrix.Det, rotMat, neg_mul, sub_neg_eq_add, h, mul_one]

/-- two rotations compose by the angle-addition formulas -/
theorem rotate_compose (m : Mat K) (s1 c1 s2 c2 : K) :
    rotateSC (rotateSC m s1 c1) s2 c2 = rotateSC m (s1 * c2 + c1 * s2) (c1 * c2 - s1 * s2) := by
  simp only [rotateSC, ops_mmul, mul_assoc]
  congr 1
  simp only [Matrix.Mul, rotMat]; congr 1 <;> ring

/-- `RotateAbout(rot, x, y)` fixes `(x, y)`, whatever the sine and cosine are -/
theorem rotateAbout_fixes (rot x y : K) :
    Matrix.Dot (rotateAbout (Canvas.C07.identity : Mat K) rot x y) (Pt.mk x y) = Pt.mk x y := by
  rw [rotateAbout, rotate, ops_mtranslate, ops_mtranslate, translate_dot, rotate_dot, translate_dot, identity, Aff.one_dot]
  congr 1 <;> ring

/-- the Go function never returns `(NaN, x)`: the model's NaN test on the first result is complete -/
theorem solveQuadratic_fst_none (a b c : K) (h : (solveQuadratic a b c).1 = none) : (solveQuadratic a b c).2 = none :=
  -- branch by branch, in the order of the Go code: `a = 0` (`b = 0` (`c = 0`)), `c = 0` (`b = 0`), the discriminant
  ite_fst_none
    (ite_fst_none (ite_fst_none (fun _ => rfl) (fun _ => rfl)) (fun _ => rfl))
    (ite_fst_none (ite_fst_none (fun _ => rfl) (fun h => nomatch h))
      (ite_fst_none (fun _ => rfl) (ite_fst_none (fun _ => rfl)
        (ite_fst_none (fun h => nomatch h) (fun h => nomatch h))))) h

/-- monic polynomial with positive discriminant: two results, both roots, sum `-B`, product `C` -/
theorem solveQuadratic_monic_roots (L : Laws K) (h0 : (Env.epsilon : K) = 0) (B C : K) (hd : 0 < B * B - 4 * C) :
    ∃ x1 x2 : K, solveQuadratic 1 B C = (some x1, some x2) ∧ x1 + x2 = -B ∧ x1 * x2 = C ∧
      x1 * x1 + B * x1 + C = 0 ∧ x2 * x2 + B * x2 + C = 0 := by
  obtain ⟨x1, x2, h, hs, hp⟩ := solveQuadratic_monic L h0 hd
  exact ⟨x1, x2, h, hs, hp, by linear_combination x1 * hs - hp, by linear_combination x2 * hs - hp⟩

/-- `Eigen` of a symmetric matrix: real eigenvalues (trace and determinant as sum and product), unit
eigenvectors with `Q v = λ v`, and the spectral decomposition. -/
theorem eigen_symmetric (L : Laws K) (h0 : (Env.epsilon : K) = 0) (m : Mat K) (hsym : m.b = m.d) :
    ∃ l1 l2 : K, (eigen m).l1 = some l1 ∧ (eigen m).l2 = some l2 ∧ l1 + l2 = m.a + m.e ∧ l1 * l2 = Matrix.Det m ∧
      SpecAt m l1 l2 (eigen m).v1 ∧ SpecAt m l2 l1 (eigen m).v2 ∧
      (m.a * (eigen m).v1.x + m.b * (eigen m).v1.y = l1 * (eigen m).v1.x ∧ m.d * (eigen m).v1.x + m.e * (eigen m).v1.y = l1 * (eigen m).v1.y) ∧
      (m.a * (eigen m).v2.x + m.b * (eigen m).v2.y = l2 * (eigen m).v2.x ∧ m.d * (eigen m).v2.x + m.e * (eigen m).v2.y = l2 * (eigen m).v2.y) := by
  obtain ⟨l1, l2, h1, h2, hs, hp, S1, S2⟩ := eigen_spectral L h0 hsym
  exact ⟨l1, l2, h1, h2, hs, hp, S1, S2, S1.eigvec hsym, S2.eigvec hsym⟩

/-- branch 4 of the model of `Eigen` (neither off-diagonal entry usable although the diagonal test failed)
is unreachable, for every tolerance: the Go code never falls through both `if !Equal(..)` with the
vectors left zero -/
theorem eigen_branch_ne_4 (m : Mat K) : (eigen m).branch ≠ 4 := by
  unfold eigen
  simp only [ops_equal]
  split_ifs with h0 hd hb
  · simp
  · cases (eigenvalues m).1 <;> simp
  · cases (eigenvalues m).1 <;> simp
  · -- both `!Equal(d,0)` and `!Equal(b,0)` false: that is the diagonal test, which failed
    simp only [Bool.not_eq_true', Bool.not_eq_false, Bool.and_eq_true] at hd hb h0
    exact absurd ⟨hd, hb⟩ h0

/-- Real eigenvalues whenever the off-diagonal entries have the same sign (in particular for every
symmetric matrix), for every tolerance and without any assumption on `sqrt`: `Eigen` never answers "no real
eigenvalue" there, whatever `solveQuadraticFormula` made of the discriminant (repaired by 2c3bd2a; before,
a discriminant rounded below zero gave NaN radii in `Path.Transform`). -/
theorem eigen_real_of_same_sign (m : Mat K) (h : 0 ≤ m.b * m.d) :
    (eigenvalues m).1 ≠ none ∧ (eigen m).l1 ≠ none := by
  have hv : (eigenvalues m).1 ≠ none := by
    simp only [eigenvalues]
    split
    · simp [h]
    · rename_i x hx; rw [hx]; simp
  refine ⟨hv, ?_⟩
  unfold eigen
  simp only [ops_equal]
  cases hr : (eigenvalues m).1 with
  | none => exact absurd hr hv
  | some l1 => split_ifs <;> simp

/-- Arc re-parametrisation is exact. For invertible `m`, positive radii and a unit axis `(c, s)` the
new radii and axis returned by the model of the Go code describe the ellipse whose quadratic form is the
push-forward `M⁻ᵀ q M⁻¹` of the original one. Hypotheses: exact comparisons, `sqrt(x)² = x` (x ≥ 0),
`hypot(x,y)² = x² + y²` (fields of `L`). -/
theorem arc_transform_form (L : Laws K) (h0 : (Env.epsilon : K) = 0) (m : Mat K) (rx ry s c : K)
    (hcs : c * c + s * s = 1) (hdet : Matrix.Det m ≠ 0) (hrx : 0 < rx) (hry : 0 < ry) :
    ∃ r : ArcR K, arcCore m rx ry (s, c) = some r ∧
      ellipseForm r.rx r.ry r.v.x r.v.y = (ellipseForm rx ry c s).push m.a m.b m.d m.e ∧
      r.v.x * r.v.x + r.v.y * r.v.y = 1 := by
  have hσ : 0 < rx * ry * |Matrix.Det m| := by
    have := abs_pos.mpr hdet
    positivity
  have hQ := arcQ_spec hcs hdet hrx hry
  obtain ⟨l1, l2, hl1, hl2, hsum, hprod, hS1, hS2⟩ := eigen_spectral L h0 hQ.symm
  have hpos : 0 < l1 ∧ 0 < l2 := by
    rcases pos_and_pos_or_neg_and_neg_of_mul_pos (hQ.det_pos.trans_eq hprod.symm) with h | h
    · exact h
    · linarith [h.1, h.2, hQ.tr_nonneg.trans_eq hsum.symm]
  unfold arcCore
  simp only [hl1, hl2, ops_sqrt, ops_abs, ops_mdet]
  split_ifs with hlt
  · exact ⟨_, rfl, ellipseForm_of_spec L hσ hpos.2 hpos.1 hS2 hQ.a hQ.b hQ.e, hS2.2.2.2⟩
  · exact ⟨_, rfl, ellipseForm_of_spec L hσ hpos.1 hpos.2 hS1 hQ.a hQ.b hQ.e, hS1.2.2.2⟩

/-- Point-set equality: `p` (relative to the centre) lies on the original ellipse iff its image under the
linear part of `m` lies on the ellipse `Path.Transform` writes (relative to the mapped centre). -/
theorem arc_transform_points (L : Laws K) (h0 : (Env.epsilon : K) = 0) (m : Mat K) (rx ry s c : K)
    (hcs : c * c + s * s = 1) (hdet : Matrix.Det m ≠ 0) (hrx : 0 < rx) (hry : 0 < ry) :
    ∃ r : ArcR K, arcCore m rx ry (s, c) = some r ∧ ∀ x y : K,
      ((ellipseForm rx ry c s).eval x y = 1 ↔
        (ellipseForm r.rx r.ry r.v.x r.v.y).eval (m.a * x + m.b * y) (m.d * x + m.e * y) = 1) := by
  obtain ⟨r, hr, hf, _⟩ := arc_transform_form L h0 m rx ry s c hcs hdet hrx hry
  refine ⟨r, hr, fun x y => ?_⟩
  rw [hf, push_eval hdet]

/-- the sweep flag flips exactly for orientation-reversing maps -/
theorem flips_iff_det_neg (L : Laws K) (m : Mat K) : flips m = true ↔ Matrix.Det m < 0 := by
  simp only [flips, ops_decompose, decide_eq_true_iff]
  rw [decompose_scale_product m L.sqrt_sq]

/-- the command values of /repo/path.go: `MoveToCmd = 1.0`, …, `ArcToCmd = 16.0`, `CloseCmd = 32.0` -/
def cmdKind : Cmd K → Nat
  | .M _ => 1 | .L _ => 2 | .Q _ _ => 4 | .C _ _ _ => 8 | .A .. => 16 | .Z _ => 32

def cmdEnd : Cmd K → Pt K
  | .M p => p | .L p => p | .Z p => p | .Q _ p => p | .C _ _ p => p | .A _ _ _ _ _ _ p => p

def cmdIsArc : Cmd K → Bool
  | .A .. => true
  | _ => false

/-- point of the segment a non-arc drawing command traces from `p0`, at parameter `t` -/
def segPos (p0 : Pt K) : Cmd K → K → Option (Pt K)
  | .L p, t => some (Point.Interpolate p0 p t)
  | .Z p, t => some (Point.Interpolate p0 p t)
  | .Q cp p, t => some (quadraticBezierPos p0 cp p t)
  | .C cp1 cp2 p, t => some (cubicBezierPos p0 cp1 cp2 p t)
  | _, _ => none

theorem transform_length (m : Mat K) (cs : List (Cmd K)) : (transform m cs).length = cs.length :=
  List.length_map _

/-- the command structure is preserved -/
theorem transform_kinds (m : Mat K) (cs : List (Cmd K)) : (transform m cs).map cmdKind = cs.map cmdKind := by
  simp only [transform, List.map_map]
  refine List.map_congr_left fun c _ => ?_
  cases c with
  | A rx ry phi sc large sweep p =>
    obtain ⟨_, _, _, _, h⟩ := transformCmd_arc m (flips m) rx ry phi sc large sweep p
    simp only [Function.comp, h, cmdKind]
  | _ => rfl

/-- every command's end point is mapped by `m` (arcs included) -/
theorem transform_endpoints (m : Mat K) (cs : List (Cmd K)) :
    (transform m cs).map cmdEnd = cs.map (fun c => Matrix.Dot m (cmdEnd c)) := by
  simp only [transform, List.map_map]
  refine List.map_congr_left fun c _ => ?_
  cases c with
  | A rx ry phi sc large sweep p =>
    obtain ⟨_, _, _, _, h⟩ := transformCmd_arc m (flips m) rx ry phi sc large sweep p
    simp only [Function.comp, h, cmdEnd]
  | _ => rfl

/-- Segment by segment, same direction: the transformed line/quadratic/cubic command traced from the
mapped start point passes, at every parameter `t`, through the image of the original point at `t`. -/
theorem transform_segment_points (m : Mat K) (fl : Bool) (p0 : Pt K) (c : Cmd K) (t : K) :
    segPos (Matrix.Dot m p0) (transformCmd m fl c) t = (segPos p0 c t).map (Matrix.Dot m) := by
  cases c with
  | M p => rfl
  | L p => simp only [transformCmd, segPos, ops_mdot, Option.map, line_affine]
  | Z p => simp only [transformCmd, segPos, ops_mdot, Option.map, line_affine]
  | Q cp p => simp only [transformCmd, segPos, ops_mdot, Option.map, quad_bezier_affine]
  | C cp1 cp2 p => simp only [transformCmd, segPos, ops_mdot, Option.map, cube_bezier_affine]
  | A rx ry phi sc large sweep p =>
    obtain ⟨_, _, _, _, h⟩ := transformCmd_arc m fl rx ry phi sc large sweep p
    rw [h]; rfl

/-- transforming by a product is transforming twice (paths without arcs: exact, command by command) -/
theorem transform_comp_noarc (m q : Mat K) (cs : List (Cmd K)) (h : ∀ c ∈ cs, cmdIsArc c = false) :
    transform (Matrix.Mul m q) cs = transform m (transform q cs) := by
  simp only [transform, List.map_map]
  refine List.map_congr_left fun c hc => ?_
  cases c with
  | A => cases h _ hc
  | _ => simp only [Function.comp, transformCmd, ops_mdot, dot_mul]

theorem transform_identity_noarc (cs : List (Cmd K)) (h : ∀ c ∈ cs, cmdIsArc c = false) :
    transform (ident : Mat K) cs = cs := by
  conv_rhs => rw [← List.map_id cs]
  refine List.map_congr_left fun c hc => ?_
  have hd : ∀ p : Pt K, Matrix.Dot ident p = p := Aff.one_dot
  cases c with
  | A => cases h _ hc
  | _ => simp only [transformCmd, ops_mdot, hd, id]

/-- `Path.Transform` works command by command: transforming a concatenation (what `Path.Append`/`Join`
build from raw arrays) is concatenating the transforms -/
theorem transform_append (m : Mat K) (cs ds : List (Cmd K)) :
    transform m (cs ++ ds) = transform m cs ++ transform m ds :=
  List.map_append

/-- a path without arcs stays without arcs -/
theorem transform_noarc (m : Mat K) (cs : List (Cmd K)) (h : ∀ c ∈ cs, cmdIsArc c = false) :
    ∀ c ∈ transform m cs, cmdIsArc c = false := by
  intro c hc
  obtain ⟨c0, hc0, rfl⟩ := List.mem_map.mp hc
  cases c0 with
  | A => cases h _ hc0
  | _ => rfl

/-- Round trip: transforming by an invertible `m` and then by `m.Inv()` gives the path back
(paths without arcs: exact, command by command) -/
theorem transform_inv_noarc (m : Mat K) (hd : Matrix.Det m ≠ 0) (cs : List (Cmd K))
    (h : ∀ c ∈ cs, cmdIsArc c = false) :
    transform (Matrix.Inv m) (transform m cs) = cs := by
  rw [← transform_comp_noarc _ _ _ h, inv_mul m hd, transform_identity_noarc _ h]

/-- The other round trip: by `m.Inv()` first, then by `m` (paths without arcs) -/
theorem transform_after_inv_noarc (m : Mat K) (hd : Matrix.Det m ≠ 0) (cs : List (Cmd K))
    (h : ∀ c ∈ cs, cmdIsArc c = false) :
    transform m (transform (Matrix.Inv m) cs) = cs := by
  rw [← transform_comp_noarc _ _ _ h, mul_inv m hd, transform_identity_noarc _ h]

/-- An ArcTo command under `Path.Transform`: the large-arc flag is kept, the sweep flag flips iff
`det m < 0`, the end point is mapped by `m`, and the new radii/axis describe exactly the image ellipse. -/
theorem transform_arc (L : Laws K) (h0 : (Env.epsilon : K) = 0) (m : Mat K) (rx ry phi s c : K) (large sweep : Bool) (p : Pt K)
    (hcs : c * c + s * s = 1) (hdet : Matrix.Det m ≠ 0) (hrx : 0 < rx) (hry : 0 < ry) :
    ∃ r : ArcR K,
      transformCmd m (flips m) (.A rx ry phi (s, c) large sweep p) =
        .A r.rx r.ry (canonPhi r.v) (r.v.y, r.v.x) large (if Matrix.Det m < 0 then !sweep else sweep) (Matrix.Dot m p) ∧
      ellipseForm r.rx r.ry r.v.x r.v.y = (ellipseForm rx ry c s).push m.a m.b m.d m.e ∧
      r.v.x * r.v.x + r.v.y * r.v.y = 1 := by
  obtain ⟨r, hr, hf, hu⟩ := arc_transform_form L h0 m rx ry s c hcs hdet hrx hry
  refine ⟨r, ?_, hf, hu⟩
  have hfl : flips m = decide (Matrix.Det m < 0) := by
    rw [Bool.eq_iff_iff, flips_iff_det_neg L, decide_eq_true_iff]
  simp only [transformCmd, hr, ops_mdot, hfl, decide_eq_true_eq]

/-- Soundness: if the verdict accepts with tolerance `rel`, then every point of the original ellipse
(`centre + R(c,s)·(rx·x, ry·y)`, `x² + y² = 1`) is mapped by `M` to a point where the produced ellipse's
form is within `2·rel` of 1. -/
theorem arcOK_sound (ma mb md me rx ry c s rx' ry' c' s' rel : K)
    (h : arcOK ma mb md me rx ry c s rx' ry' c' s' rel = true) (x y : K) (hxy : x * x + y * y = 1) :
    |(ellipseForm rx' ry' c' s').eval (ma * (c * (rx * x) - s * (ry * y)) + mb * (s * (rx * x) + c * (ry * y)))
        (md * (c * (rx * x) - s * (ry * y)) + me * (s * (rx * x) + c * (ry * y))) - 1| ≤ 2 * rel := by
  have := nearId_eval h hxy
  -- `frame` is the product `m · (R(c,s) · diag(rx, ry))`: pulling back along it is evaluating at the image, factor by factor
  simp only [frame_eq, pull_comp, pull_eval] at this
  -- the statement brackets the products the other way
  simpa only [_root_.mul_assoc, neg_mul, ← sub_eq_add_neg] using this

/-- the verdict is monotone in the tolerance -/
theorem arcOK_mono (ma mb md me rx ry c s rx' ry' c' s' rel rel' : K) (hle : rel ≤ rel')
    (h : arcOK ma mb md me rx ry c s rx' ry' c' s' rel = true) : arcOK ma mb md me rx ry c s rx' ry' c' s' rel' = true := by
  unfold arcOK at h ⊢
  rw [nearId_iff] at h ⊢
  exact ⟨h.1.trans hle, h.2.1.trans hle, h.2.2.trans hle⟩

/-- Completeness at tolerance 0: what the model of `Path.Transform` returns passes the verdict exactly. -/
theorem arcOK_complete (L : Laws K) (h0 : (Env.epsilon : K) = 0) (m : Mat K) (rx ry s c : K)
    (hcs : c * c + s * s = 1) (hdet : Matrix.Det m ≠ 0) (hrx : 0 < rx) (hry : 0 < ry) :
    ∃ r : ArcR K, arcCore m rx ry (s, c) = some r ∧
      arcOK m.a m.b m.d m.e rx ry c s r.rx r.ry r.v.x r.v.y 0 = true := by
  obtain ⟨r, hr, hf, _⟩ := arc_transform_form L h0 m rx ry s c hcs hdet hrx hry
  exact ⟨r, hr, arcOK_of_image hcs hdet hrx.ne' hry.ne' hf⟩

/-- Recomposition for any tolerance `Epsilon ≥ 0` and every matrix — singular ones, reflections and the
merged-rotation branch included: every entry of `Identity.Translate(tx,ty).Rotate(phi).Scale(sx,sy).Rotate(theta)`
is within `2·Epsilon` of `m` (exact outside the merged-rotation branch). -/
theorem decompose_recompose_within (L : Laws K) (h0 : (0 : K) ≤ Env.epsilon) (m : Mat K) :
    MatWithin (recompose (Matrix.Decompose m)) m (2 * Env.epsilon) := by
  cases m with | mk a b c d e f =>
  simp only [Matrix.Decompose]
  -- `Decompose` takes the polar coordinates of `(E, H)` and of `(F, G)`, so `m` is the matrix with that polar data
  have hm : Mat.mk a b c d e f = polarMat _ _ _ _ c f :=
    ((polarMat_atan2 L ((a + e) / 2) ((a - e) / 2) ((d + b) / 2) ((d - b) / 2) c f).trans (by congr 1 <;> ring)).symm
  rw [hm]
  split_ifs with hs
  · -- both scales `Q ± R` within Epsilon of 1, so `|R| ≤ Epsilon`; the one angle that is left is still `a2` in radians
    obtain ⟨h1, h2⟩ := hs
    rw [equal_iff_abs, abs_le] at h1 h2
    refine recompose_polar_within L ?_ (abs_le.mpr ⟨by linarith [h1.1, h2.2], by linarith [h1.2, h2.1]⟩)
    rw [zero_mul, zero_div, zero_add, add_mul, add_div, L.deg_rad, L.deg_rad]
    ring
  · exact MatWithin.of_eq (recompose_polar L (by rw [L.deg_rad, L.deg_rad]; ring)
      (by rw [L.deg_rad, L.deg_rad]; ring)) (by linarith)

/-- Full recomposition (exact comparisons): `Identity.Translate(tx,ty).Rotate(phi).Scale(sx,sy).Rotate(theta) = m` -/
theorem decompose_recompose (L : Laws K) (h0 : (Env.epsilon : K) = 0) (m : Mat K) :
    recompose (Matrix.Decompose m) = m := by
  have := decompose_recompose_within L h0.ge m
  rw [h0, mul_zero] at this
  exact this.eq

/-- the `matrix(...)` notation of `ToSVG(h)` denotes `T(0,h)·G·m·G` -/
theorem toSVG_matrix_target (m : Mat K) (h : K) : svgInterp [toSVGMatrix m h] = svgTarget m h := by
  simp only [svgInterp, toSVGMatrix, SvgOp.mat, svgTarget, List.foldl, ops_mmul, identity]
  exact Aff.one_mul _

/-- full statement: the decomposed notation of `ToSVG(h)` denotes `T(0,h)·G·m·G` for every `m`, `h` -/
def toSVG_decomposed_target_statement (K : Type) [Field K] [LinearOrder K] [IsStrictOrderedRing K] [Env K] : Prop :=
  ∀ (m : Mat K) (h : K), svgInterp (toSVGParts m h) = svgTarget m h

/-- proved part: all `m`, `h` except zero translation with non-zero height (known defect
C07-tosvg-height-dropped: `translate(0,h)` is not written) -/
theorem toSVG_decomposed_target_partial (L : Laws K) (h0 : (Env.epsilon : K) = 0) (m : Mat K) (h : K)
    (hcls : ¬ (m.c = 0 ∧ m.f = 0) ∨ h = 0) : svgInterp (toSVGParts m h) = svgTarget m h := by
  have hrot : ∀ x : K, (!Equal x 0) = false → (SvgOp.rotate (-x)).mat = identity := by
    intro x hx
    simp only [Bool.not_eq_false', equal_iff_eq h0] at hx
    simp [SvgOp.mat, rotMat, identity, hx, L.sin_zero, L.cos_zero]
  have hrec := decompose_recompose L h0 m
  obtain ⟨hp1, hp2⟩ := decompose_translation m
  unfold toSVGParts
  simp only [ops_decompose, ops_equal]
  rcases hd : Matrix.Decompose m with ⟨tx, ty, phi, sx, sy, theta⟩
  rw [hd] at hrec hp1 hp2
  simp only at hp1 hp2 ⊢
  subst hp1 hp2
  -- an operation that is not written would have been the identity
  rw [svgInterp_parts, optMat_of ?t, optMat_of (hrot phi), optMat_of ?s, optMat_of (hrot theta),
    svgTarget_recompose L, hrec]
  case t =>
    intro hc
    simp only [Bool.or_eq_false_iff, Bool.not_eq_false', equal_iff_eq h0] at hc
    rw [hc.1, hc.2, hcls.resolve_left (not_not_intro hc), sub_zero]
    rfl
  case s =>
    intro hs
    simp only [Bool.or_eq_false_iff, Bool.not_eq_false', equal_iff_eq h0] at hs
    rw [hs.1, hs.2]
    rfl

/-- witness of the defect: for zero translation the decomposed notation leaves the origin where it is,
the target moves it to `(0, h)` -/
theorem toSVG_drops_height (h0 : (Env.epsilon : K) = 0) (m : Mat K) (h : K) (hc : m.c = 0) (hf : m.f = 0) (hh : h ≠ 0) :
    svgInterp (toSVGParts m h) ≠ svgTarget m h := by
  have h1 : (svgInterp (toSVGParts m h)).f = 0 := by
    unfold toSVGParts
    simp only [ops_decompose, ops_equal, equal_eq_decide h0, hc, hf, decide_true, Bool.not_true, Bool.or_self]
    rw [svgInterp_parts]
    exact (mul_linear (mul_linear (mul_linear ⟨rfl, rfl⟩ (optMat_linear ⟨rfl, rfl⟩)) (optMat_linear ⟨rfl, rfl⟩))
      (optMat_linear ⟨rfl, rfl⟩)).2
  intro heq
  rw [heq] at h1
  exact hh (by simpa [svgTarget, hf] using h1)

theorem isTranslation_iff (h0 : (Env.epsilon : K) = 0) (m : Mat K) :
    Matrix.IsTranslation m = true ↔ ∀ p : Pt K, Matrix.Dot m p = Pt.mk (p.x + m.c) (p.y + m.f) := by
  rw [isTranslation_iff_rows h0, translates_iff]

/-- `IsRigid` ⇔ every distance is preserved -/
theorem isRigid_iff_isometry (h0 : (Env.epsilon : K) = 0) (m : Mat K) :
    Matrix.IsRigid m = true ↔ ∀ p q : Pt K, dist2 (Matrix.Dot m p) (Matrix.Dot m q) = dist2 p q := by
  rw [isRigid_iff_rows h0, ← scales_iff_rows m 1]
  simp only [one_mul]

/-- `IsSimilarity` ⇔ all squared distances are scaled by one factor -/
theorem isSimilarity_iff_scaling (h0 : (Env.epsilon : K) = 0) (m : Mat K) :
    Matrix.IsSimilarity m = true ↔ ∃ k : K, ∀ p q : Pt K, dist2 (Matrix.Dot m p) (Matrix.Dot m q) = k * dist2 p q := by
  rw [isSimilarity_iff_rows h0]
  constructor
  · rintro ⟨h1, h3⟩
    exact ⟨m.a * m.a + m.b * m.b, (scales_iff_rows m _).mpr ⟨rfl, h1.symm, h3⟩⟩
  · rintro ⟨k, hk⟩
    obtain ⟨g1, g2, g3⟩ := (scales_iff_rows m k).mp hk
    exact ⟨g1.trans g2.symm, g3⟩

theorem equals_iff (h0 : (Env.epsilon : K) = 0) (m q : Mat K) : Matrix.Equals m q = true ↔ m = q := by
  simp only [Matrix.Equals, decide_eq_true_iff, equal_iff_eq h0]
  cases m; cases q
  simp only [Mat.mk.injEq]
  tauto

/-- for any tolerance `Epsilon ≥ 0` exact translations / rigid maps / similarities are recognised, and
`Equals` is reflexive -/
theorem predicates_complete (h0 : (0 : K) ≤ Env.epsilon) (m : Mat K) :
    (m.a = 1 ∧ m.b = 0 ∧ m.d = 0 ∧ m.e = 1 → Matrix.IsTranslation m = true) ∧
    (m.a * m.a + m.b * m.b = 1 ∧ m.d * m.d + m.e * m.e = 1 ∧ m.a * m.d + m.b * m.e = 0 → Matrix.IsRigid m = true) ∧
    (m.a * m.a + m.b * m.b = m.d * m.d + m.e * m.e ∧ m.a * m.d + m.b * m.e = 0 → Matrix.IsSimilarity m = true) ∧
    Matrix.Equals m m = true := by
  refine ⟨?_, ?_, ?_, ?_⟩
  · rintro ⟨h1, h2, h3, h4⟩
    simp [Matrix.IsTranslation, h1, h2, h3, h4, equal_self h0]
  · rintro ⟨h1, h2, h3⟩
    simp [Matrix.IsRigid, h1, h2, h3, equal_self h0]
  · rintro ⟨h1, h3⟩
    simp [Matrix.IsSimilarity, h1, h3, equal_self h0]
  · simp [Matrix.Equals, equal_self h0]

/-- a rotation is recognised as rigid for every tolerance `Epsilon ≥ 0` -/
theorem rotate_isRigid (h0 : (0 : K) ≤ Env.epsilon) (s c : K) (h : c * c + s * s = 1) :
    Matrix.IsRigid (rotateSC (Canvas.C07.identity : Mat K) s c) = true := by
  apply (predicates_complete h0 _).2.1
  rw [rotateSC_eq]
  simp only [Canvas.C07.identity]
  refine ⟨by linear_combination h, by linear_combination h, by ring⟩

/-- a rigid map has determinant ±1 and is a similarity -/
theorem isRigid_det_and_similarity (h0 : (Env.epsilon : K) = 0) (m : Mat K) (h : Matrix.IsRigid m = true) :
    Matrix.Det m * Matrix.Det m = 1 ∧ Matrix.IsSimilarity m = true := by
  rw [isRigid_iff_rows h0] at h
  obtain ⟨h1, h2, h3⟩ := h
  constructor
  · simp only [Matrix.Det]
    linear_combination (m.d * m.d + m.e * m.e) * h1 + h2 - (m.a * m.d + m.b * m.e) * h3
  · rw [isSimilarity_iff_rows h0]
    exact ⟨by rw [h1, h2], h3⟩

section NonVacuity
attribute [local instance] envReal

/-- `Laws` holds of the real functions, with exact comparisons -/
example : Laws ℝ ∧ (Env.epsilon : ℝ) = 0 := ⟨lawsReal, epsReal⟩

/-- `arc_transform_form`: a shear with a reflection applied to a 2×1 ellipse rotated by a 3-4-5 angle -/
example : ∃ r : ArcR ℝ, arcCore (Mat.mk (-1) 2 5 0 1 7) 2 1 (3 / 5, 4 / 5) = some r ∧
    ellipseForm r.rx r.ry r.v.x r.v.y = (ellipseForm 2 1 (4 / 5) (3 / 5)).push (-1) 2 0 1 :=
  let ⟨r, h1, h2, _⟩ := arc_transform_form lawsReal epsReal (Mat.mk (-1) 2 5 0 1 7) 2 1 (3 / 5) (4 / 5)
    (by norm_num) (by simp [Matrix.Det]) (by norm_num) (by norm_num)
  ⟨r, h1, h2⟩

/-- `eigen_symmetric`: a symmetric non-diagonal matrix -/
example : (Mat.mk (2 : ℝ) 1 0 1 3 0).b = (Mat.mk (2 : ℝ) 1 0 1 3 0).d := rfl

/-- `decompose_recompose` applies to a reflection: `ReflectX` recomposes to itself -/
example : recompose (Matrix.Decompose (Mat.mk (-1 : ℝ) 0 0 0 1 0)) = Mat.mk (-1) 0 0 0 1 0 :=
  decompose_recompose lawsReal epsReal _

/-- `toSVG_decomposed_target_partial`: the excluded class is not everything (a translation satisfies the hypothesis) -/
example : ¬ ((Mat.mk (1 : ℝ) 0 3 0 1 4).c = 0 ∧ (Mat.mk (1 : ℝ) 0 3 0 1 4).f = 0) ∨ (10 : ℝ) = 0 := by
  left; simp

/-- `toSVG_drops_height`: the defect class is inhabited (`Rotate(90)` with `h = 10`) -/
example : svgInterp (toSVGParts (Mat.mk (0 : ℝ) (-1) 0 1 0 0) 10) ≠ svgTarget (Mat.mk (0 : ℝ) (-1) 0 1 0 0) 10 :=
  toSVG_drops_height epsReal _ 10 rfl rfl (by norm_num)

/-- `solveQuadratic_monic_roots`: `x² - 5x + 6` has positive discriminant -/
example : (0 : ℝ) < (-5) * (-5) - 4 * 6 := by norm_num

/-- `rotate_det`, `rotate_isRigid`, `arc_*`: a unit axis vector that is not a coordinate axis -/
example : ((4 : ℚ) / 5) * (4 / 5) + (3 / 5) * (3 / 5) = 1 := by norm_num

end NonVacuity

/-- `isRigid_iff_isometry`: a reflection is rigid (over ℚ with `Epsilon = 0`) -/
example : (1 : ℚ) * 1 + 0 * 0 = 1 ∧ (0 : ℚ) * 0 + (-1) * (-1) = 1 ∧ (1 : ℚ) * 0 + 0 * (-1) = 0 := by norm_num

/-- `transform_comp_noarc`: the hypothesis holds of a path with a line and a cubic -/
example : ∀ c ∈ ([Cmd.M ⟨0, 0⟩, Cmd.L ⟨1, 2⟩, Cmd.C ⟨1, 3⟩ ⟨2, 3⟩ ⟨3, 0⟩] : List (Cmd ℚ)), cmdIsArc c = false := by
  intro c hc
  simp only [List.mem_cons, List.mem_nil_iff, or_false] at hc
  rcases hc with rfl | rfl | rfl <;> rfl

/-- `arcOK_sound`: the verdict accepts the exact image of the unit circle under `diag(2, 3)` -/
example : arcOK (2 : ℚ) 0 0 3 1 1 1 0 2 3 1 0 0 = true := by
  simp [arcOK, frame, ellipseForm, Form.pull, Form.nearId]

/-- non-vacuity: an invertible matrix exists and `inv_dot` applies to it (with the no-arc path above: the
hypotheses of `transform_inv_noarc`) -/
example : Matrix.Det (Mat.mk (2 : ℚ) 1 0 0 1 3) ≠ 0 := by simp [Matrix.Det]

end C07
