import CanvasProofs.Lemmas.C05FixStart
import CanvasProofs.Lemmas.C05Refine

/-! # C05 — dashing cuts the path by arc length according to the pattern

Theorems about the hand-written model `CanvasModel/C05.lean` of `dashStart`, `dashCanonical` and the
per-subpath bookkeeping of `Path.Dash` (/repo/path.go), over an arbitrary linearly ordered
field `K` with `Epsilon = 0` (exact arithmetic), against the pattern semantics `DrawnE` of an
even-length pattern (`Drawn` is `DrawnE` of the doubled pattern).
The model is tied to the real code by bit-exact correspondence (`Drv/C05.lean`, `harness/c05`). -/
set_option linter.unusedSectionVars false
namespace C05
open Canvas.C05 C05L
variable {K : Type} [Field K] [LinearOrder K] [IsStrictOrderedRing K]

/-- With `Epsilon = 0`, `Equal` is equality. -/
theorem equal_exact (a b : K) : equal 0 a b = true ↔ a = b := equal_zero_iff a b

/-- `dashStart` for EVERY offset (negative, beyond one or many periods — repaired by e14817f): piece
`i0` of the pattern starts at path position `pos0 ≤ 0`, the start of the path lies inside that piece
(`-pos0 < d[i0]`), and the position has the right phase: `offset + pos0` is the start phase of a
piece `J ≡ i0 (mod n)` up to `m` whole periods (`m = 0` for `offset ≥ 0`). `fmod` is `math.Mod`, of
which only `FmodSpec` is used. -/
theorem start_invariant (fmod : K → K → K) (d : List K) (hne : d ≠ []) (hnn : ∀ x ∈ d, 0 ≤ x)
    (hmod : FmodSpec fmod d) (fuel : Nat) (offset : K) (i0 : Nat) (pos0 : K)
    (h : dashStart fmod fuel offset d = some (i0, pos0)) :
    pos0 ≤ 0 ∧ i0 < d.length ∧
      ∃ J m : Nat, J % d.length = i0 ∧ -pos0 < cyc d J ∧
        offset + pos0 + pre d (m * d.length) = pre d J ∧ (0 ≤ offset → m = 0) :=
  C05L.start_invariant fmod d hne hnn hmod fuel offset i0 pos0 h

/-- The loop of `dashStart` terminates: `fuel+1` iterations suffice as soon as `fuel · m` exceeds the
offset and one period, for a positive lower bound `m` of the pattern entries (in an Archimedean field
such a `fuel` exists; `dashCanonical` guarantees `m > 0`). For negative offsets the bound does not
depend on how many periods the offset lies below zero. -/
theorem start_terminates (fmod : K → K → K) (d : List K) (hne : d ≠ []) (m : K) (hm : 0 < m)
    (hd : ∀ x ∈ d, m ≤ x) (hmod : FmodSpec fmod d)
    (fuel : Nat) (offset : K) (h : offset < (fuel : K) * m) (hp : period d ≤ (fuel : K) * m) :
    (dashStart fmod (fuel + 1) offset d).isSome = true := by
  obtain ⟨_, _, _, _, hlt⟩ := reducedOffset_spec fmod d hmod offset
  rw [dashStart_isSome, ← Nat.zero_mod d.length]
  apply dashStartLoop_terminates hne hm hd
  rcases lt_or_ge offset 0 with hneg | hnn
  · exact lt_of_lt_of_le (hlt hneg) hp
  · rwa [reducedOffset, if_neg (not_lt.mpr hnn)]

/-- Purity of `dashCanonical` (repaired by a6207f9, finding C05-impure-dashCanonical): for every
pattern and every `Epsilon` the caller's array holds the same values after the call as before. The
model's `canonArg` is compared bit-exactly with the real argument slice after the call on every
run, and the harness compares the slice before/after independently. -/
theorem canonical_pure (eps : K) (d : List K) : canonArg eps d = d := rfl

/-- Selection of the pieces `pd[0..nt]` (`j0`/`endsInDash` in `Path.Dash`): piece `k` is kept iff
its distance to the last piece has the parity that makes its pattern index even, where `i` is the
pattern index of the last piece. -/
theorem kept_iff (nt i k : Nat) : kept nt i k = true ↔ k ≤ nt ∧ (nt - k + i) % 2 = 0 :=
  kept_eq_true_iff nt i k

/-- The position list `t` of `Dash` (the loop `for pos+d[i]+Epsilon < length`): started with pattern
piece `J0` at path position `pos0`, the loop makes `m` steps through the positions `cpos k`
(consecutive gaps follow `d` cyclically from `i0 = J0 mod n`) and stops at the first that is not below
`length - ε`; `t` is the list of the positive ones, strictly increasing inside `(0,length)`; the final
index is `(J0+m) mod n`. -/
theorem positions_follow_pattern (eps : K) (heps : 0 ≤ eps) (d : List K) (hne : d ≠ [])
    (hpos : ∀ x ∈ d, 0 < x) (length : K) (fuel J0 : Nat) (pos0 : K) (t : List K) (iEnd : Nat)
    (h : positionsLoop eps d length fuel (J0 % d.length) pos0 [] = some (t, iEnd)) :
    ∃ m, iEnd = (J0 + m) % d.length ∧
      t = ((List.range m).map (fun k => cpos d J0 pos0 (k + 1))).filter (fun x => decide (0 < x)) ∧
      (∀ k, cpos d J0 pos0 (k + 1) = cpos d J0 pos0 k + cyc d (J0 + k)) ∧
      (∀ k < m, cpos d J0 pos0 (k + 1) + eps < length) ∧
      ¬ (cpos d J0 pos0 (m + 1) + eps < length) ∧
      t.Pairwise (· < ·) ∧ (∀ x ∈ t, 0 < x ∧ x < length) ∧ t.length ≤ m := by
  obtain ⟨m, e1, e2, e3, e4⟩ := positionsLoop_spec hne h
  rw [List.nil_append] at e2
  refine ⟨m, e1, e2, cpos_succ d J0 pos0, e3, e4, ?_, ?_, ?_⟩
  · rw [e2]
    exact ((List.pairwise_lt_range).map _ fun a b hab =>
      cpos_strictMono d hne hpos J0 pos0 (Nat.succ_lt_succ hab)).filter _
  · intro x hx
    rw [e2, List.mem_filter, List.mem_map] at hx
    obtain ⟨⟨k, hk, rfl⟩, hx0⟩ := hx
    exact ⟨of_decide_eq_true hx0,
      lt_of_le_of_lt (le_add_of_nonneg_right heps) (e3 k (List.mem_range.mp hk))⟩
  · rw [e2]
    exact (List.length_filter_le _ _).trans (by rw [List.length_map, List.length_range])

/-- A point `x` of the `k`-th piece of the walk lies in pattern piece `J0+k`, provided the start is
phase-aligned (`start_invariant` supplies the alignment hypothesis). -/
theorem walk_piece_in_pattern (d : List K) (offset pos0 : K) (J0 M : Nat)
    (hal : offset + pos0 + pre d (M * d.length) = pre d J0) (k : Nat) (x : K)
    (hx : cpos d J0 pos0 k ≤ x ∧ x < cpos d J0 pos0 (k + 1)) :
    InPiece d (J0 + k) (offset + x + pre d (M * d.length)) := by
  show pre d (J0 + k) ≤ _ ∧ _ < pre d (J0 + (k + 1))
  rw [pre_walk hal k, pre_walk hal (k + 1)]
  exact ⟨add_le_add (add_le_add (le_refl _) hx.1) (le_refl _),
    add_lt_add_of_lt_of_le (add_lt_add_of_le_of_lt (le_refl _) hx.2) (le_refl _)⟩

/-- `Dash` keeps exactly the drawn pieces (even-length pattern `d` with non-negative entries, exact
cuts): piece `k` of the `nt+1` pieces that `SplitAt` returns is the walk piece `(m - nt) + k` (the
first `m - nt` positions were ≤ 0 and dropped), every point `x` of it is drawn by the pattern iff
`kept` selects the piece. `iEnd` is the pattern index used for the last piece; only its parity
matters (`iEnd = (J0+m) mod n` from `positions_follow_pattern` when every cut is made). -/
theorem kept_pieces_are_drawn (d : List K) (hnn : ∀ x ∈ d, 0 ≤ x) (heven : d.length % 2 = 0)
    (offset pos0 : K) (J0 M m nt iEnd : Nat)
    (hal : offset + pos0 + pre d (M * d.length) = pre d J0)
    (hend : iEnd % 2 = (J0 + m) % 2) (hnt : nt ≤ m) (k : Nat) (hk : k ≤ nt) (x : K)
    (hx : cpos d J0 pos0 (m - nt + k) ≤ x ∧ x < cpos d J0 pos0 (m - nt + k + 1)) :
    kept nt iEnd k = true ↔ DrawnE d (offset + x) :=
  (kept_iff_even hk
      (by rw [Nat.add_assoc, Nat.add_assoc, Nat.add_sub_cancel' hk, Nat.sub_add_cancel hnt, hend])).trans
    (drawnE_iff_of_inPiece hnn heven (walk_piece_in_pattern d offset pos0 J0 M hal _ x hx)).symm

/-- The final index of the position loop has the parity `kept_pieces_are_drawn` asks for. -/
theorem end_index_parity (n J0 m iEnd : Nat) (heven : n % 2 = 0) (hend : iEnd = (J0 + m) % n) :
    iEnd % 2 = (J0 + m) % 2 := by
  rw [hend]; exact mod_mod_even heven

/-- 8a98a46: when `SplitAt` makes only the first `made ≤ nt` of the `nt` requested cuts (the others
lie beyond the end it measures), `Dash` selects among the `made+1` returned pieces with the pattern
index stepped back by the cuts not made, `iEnd + nt - made`. The selection is still right on every
stretch between two requested cuts: piece `k ≤ made` (up to the first cut not made, for `k = made`)
is kept iff it is drawn. -/
theorem kept_pieces_are_drawn_cuts_made (d : List K) (hnn : ∀ x ∈ d, 0 ≤ x) (heven : d.length % 2 = 0)
    (offset pos0 : K) (J0 M m nt made iEnd : Nat)
    (hal : offset + pos0 + pre d (M * d.length) = pre d J0)
    (hend : iEnd % 2 = (J0 + m) % 2) (hnt : nt ≤ m) (hmade : made ≤ nt) (k : Nat) (hk : k ≤ made) (x : K)
    (hx : cpos d J0 pos0 (m - nt + k) ≤ x ∧ x < cpos d J0 pos0 (m - nt + k + 1)) :
    kept made (iEnd + nt - made) k = true ↔ DrawnE d (offset + x) := by
  -- with the cuts not made left out the walk has `m - nt + made` positions, all of them cut at, and
  -- the index stepped back has the parity of its last piece
  refine kept_pieces_are_drawn d hnn heven offset pos0 J0 M (m - nt + made) made _ hal ?_
    (Nat.le_add_left _ _) k hk x (by rwa [Nat.add_sub_cancel])
  rw [Nat.add_sub_assoc hmade]
  apply add_mod_two_swap
  rw [Nat.add_assoc, Nat.add_assoc, Nat.add_sub_cancel' hmade, Nat.sub_add_cancel hnt, hend]

/-- Refinement of the per-subpath part of `Dash` (position loop, selection of the pieces, join over
the start point of a closed subpath, output order) to the pattern semantics, for every pattern with
positive entries and even length, every phase-aligned start `(J0, pos0)` with `pos0 ≤ 0`, every
subpath length, open or closed, with exact cuts and `Epsilon = 0`: the set of arc-length positions
covered by the returned pieces is exactly the pattern's drawn set inside `[0, length)`. -/
theorem subpath_refines_pattern (d : List K) (hne : d ≠ []) (hpos : ∀ x ∈ d, 0 < x)
    (heven : d.length % 2 = 0) (offset pos0 : K) (J0 M : Nat)
    (hal : offset + pos0 + pre d (M * d.length) = pre d J0) (hp0 : pos0 ≤ 0)
    (length : K) (fuel : Nat) (closed : Bool) (out : List (K × K))
    (h : subpathIntervals 0 fuel d (J0 % d.length) pos0 length closed = some out)
    (x : K) (hx0 : 0 ≤ x) (hxl : x < length) :
    DrawnBy length out x ↔ DrawnE d (offset + x) := by
  unfold subpathIntervals at h
  split at h
  · cases h
  · next t iEnd hloop =>
    cases h
    induction fuel generalizing J0 pos0 with
    | zero => cases hloop
    | succ f ih =>
      by_cases h1 : 0 < pos0 + cyc d J0
      · obtain ⟨e1, R⟩ := Run.of_loop hne hpos hp0 h1 hloop
        have hF := R.lo_lt_hi (lt_of_le_of_lt hx0 hxl)
        -- inside `[0, length)` piece `k` is walk piece `k`, for which selection and pattern agree
        have hkeep : ∀ k ≤ t.length, Covers length (bounds t length k) x →
            (kept t.length iEnd k = true ↔ DrawnE d (offset + x)) := fun k hkn hin =>
          kept_pieces_are_drawn d (fun y hy => le_of_lt (hpos y hy)) heven offset pos0 J0 M t.length
            t.length iEnd hal (end_index_parity d.length J0 _ iEnd heven e1) (le_refl _) k hkn x
            (by rw [Nat.sub_self, Nat.zero_add]; exact (R.covers_iff hkn hx0 hxl).mp hin)
        rw [assemble_covers (hF 0 (Nat.zero_le _)) (hF _ (le_refl _))
          R.first_lt_last]
        constructor
        · rintro ⟨k, hk, hin⟩
          exact (hkeep k ((kept_iff _ _ _).mp hk).1 hin).mp hk
        · intro hd
          obtain ⟨k, hkn, hin⟩ := R.exists_piece hx0 hxl
          exact ⟨k, (hkeep k hkn hin).mpr hd, hin⟩
      · -- the first position is dropped: the same run as from the next piece, which is aligned too
        have hle := not_lt.mp h1
        refine ih (pos0 + cyc d J0) (J0 + 1) ?_ hle ?_
        · rw [pre_succ, ← hal]; ring
        · rwa [positionsLoop_skip hne h1
            (by rw [add_zero]; exact lt_of_le_of_lt hle (lt_of_le_of_lt hx0 hxl))] at hloop

/-- Since `dashStart` returns a start inside piece `i0` (`-pos0 < d[i0]`, `start_invariant`), the
first position of the loop is already positive: the `if 0.0 < pos` filter of path.go never drops a
position (the branch is unreachable since e14817f; the generators cannot reach it either), and the
final pattern index is the start index advanced by the number of cuts. -/
theorem positions_none_skipped (d : List K) (hne : d ≠ []) (hpos : ∀ x ∈ d, 0 < x) (length : K)
    (fuel J0 : Nat) (pos0 : K) (t : List K) (iEnd : Nat) (hp0 : pos0 ≤ 0) (hin : -pos0 < cyc d J0)
    (h : positionsLoop 0 d length fuel (J0 % d.length) pos0 [] = some (t, iEnd)) :
    iEnd = (J0 + t.length) % d.length :=
  (Run.of_loop hne hpos hp0 (neg_lt_iff_pos_add'.mp hin) h).1

/-- `Dash` on one subpath, from the offset: with the start computed by `dashStart` (any offset, also
negative or many periods) the returned pieces cover exactly the points `x ∈ [0, length)` whose
phase `offset + x` the (canonical, even-length, positive) pattern draws. This is the composition of
`start_invariant` and `subpath_refines_pattern`; it holds for every subpath independently because
`Dash` restarts every subpath from the same `(i0, pos0)`. -/
theorem dash_subpath_refines_pattern (fmod : K → K → K) (d : List K) (hne : d ≠ []) (hpos : ∀ x ∈ d, 0 < x)
    (heven : d.length % 2 = 0) (hmod : FmodSpec fmod d) (offset : K) (fuel : Nat) (i0 : Nat) (pos0 : K)
    (hs : dashStart fmod fuel offset d = some (i0, pos0))
    (length : K) (closed : Bool) (out : List (K × K))
    (h : subpathIntervals 0 fuel d i0 pos0 length closed = some out)
    (x : K) (hx0 : 0 ≤ x) (hxl : x < length) :
    DrawnBy length out x ↔ DrawnE d (offset + x) := by
  obtain ⟨hp0, _, J, M, hJ, _, hal, _⟩ :=
    start_invariant fmod d hne (fun y hy => le_of_lt (hpos y hy)) hmod fuel offset i0 pos0 hs
  rw [← hJ] at h
  exact subpath_refines_pattern d hne hpos heven offset pos0 J M hal hp0 length fuel closed out h x hx0 hxl

/-- Soundness of the executable verdict's classifier: `drawnAt` (the parity of the piece index that
`dashStart` finds for the phase) decides the pattern semantics `DrawnE`, for every phase. -/
theorem phase_drawn_iff (fmod : K → K → K) (d : List K) (hne : d ≠ []) (hnn : ∀ x ∈ d, 0 ≤ x)
    (heven : d.length % 2 = 0) (hmod : FmodSpec fmod d) (fuel : Nat) (φ : K) (b : Bool)
    (h : drawnAt fmod fuel d φ = some b) : b = true ↔ DrawnE d φ := by
  unfold drawnAt at h
  split at h
  · next i0 pos0 hs =>
    cases h
    obtain ⟨hp0, _, J, M, hJ, hlt, hal, _⟩ := start_invariant fmod d hne hnn hmod fuel φ i0 pos0 hs
    -- the start of the path lies in walk piece 0
    have hin := walk_piece_in_pattern d φ pos0 J M hal 0 0
      ⟨by rw [cpos_zero]; exact hp0, by rw [cpos_one]; exact neg_lt_iff_pos_add'.mp hlt⟩
    rw [add_zero φ, Nat.add_zero] at hin
    rw [drawnE_iff_of_inPiece hnn heven hin, beq_iff_eq, ← hJ, mod_mod_even heven]
  · cases h

/-- The verdict is monotone in the tolerance: a sample point accepted with `τ` is accepted with
every `τ' ≥ τ`. -/
theorem sampleOk_mono (fmod : K → K → K) (fuel : Nat) (offset : K) (d : List K) (length τ τ' : K)
    (obs : List (K × K)) (ends : List K) (x : K) (hτ : τ ≤ τ')
    (h : sampleOk fmod fuel offset d length τ obs ends x = true) :
    sampleOk fmod fuel offset d length τ' obs ends x = true := by
  unfold sampleOk at h ⊢
  generalize drawnAt fmod fuel d (offset + x) = r at h ⊢
  cases r with
  | none => cases h
  | some b =>
    rw [Bool.or_eq_true] at h ⊢
    exact h.imp_right (nearB_mono hτ)

/-- `coversB` is the executable form of `Covers`. -/
theorem coversB_iff (length : K) (ab : K × K) (x : K) : coversB length ab x = true ↔ Covers length ab x := by
  unfold coversB Covers
  simp only [Bool.or_eq_true, Bool.and_eq_true, decide_eq_true_eq, and_assoc]

/-- Unit independence of the position list (exact arithmetic): with pattern, start position and
subpath length multiplied by `s > 0`, `Dash` computes `s` times the same cut positions and the same
final index. Together with `start_scale_invariant`: the bookkeeping of `Dash` does not depend on
the unit of the coordinates, so `Dash(s·p, s·offset, s·d) = s·Dash(p, offset, d)` can only fail
through `SplitAt`/`Length` or the absolute `Epsilon` — the harness checks that law on the real code
for `s = 2^k`. -/
theorem positions_scale_invariant (s : K) (hs : 0 < s) (d : List K) (length : K) (fuel i : Nat) (pos : K) :
    positionsLoop 0 (d.map (s * ·)) (s * length) fuel i (s * pos) [] =
      (positionsLoop 0 d length fuel i pos []).map (fun r => (r.1.map (s * ·), r.2)) :=
  positionsLoop_scale s hs d length fuel i pos []

/-- Unit independence of the loop of `dashStart`: same piece index, remaining offset times `s`. -/
theorem start_scale_invariant (s : K) (hs : 0 < s) (d : List K) (fuel i : Nat) (off : K) :
    dashStartLoop (d.map (s * ·)) fuel i (s * off) =
      (dashStartLoop d fuel i off).map (fun r => (r.1, s * r.2)) := by
  induction fuel generalizing i off with
  | zero => rfl
  | succ f ih =>
    rw [dashStartLoop, dashStartLoop, List.getElem?_map, List.length_map]
    cases d[i]? with
    | none => rfl
    | some di =>
      simp only [Option.map_some, ← mul_sub, mul_le_mul_iff_right₀ hs]
      split
      · rw [← ih]
      · rfl

/-- The pattern `Dash` walks over (after the odd-length doubling) has even length, as
`kept_pieces_are_drawn` requires. -/
theorem doubled_even (d : List K) : (doubled d).length % 2 = 0 := by
  unfold doubled
  split
  · rw [List.length_append, ← Nat.two_mul, Nat.mul_mod_right]
  · next h => exact Nat.mod_two_ne_one.mp h

/-- Full statement of C05.canonical_preserves_pattern. Not proved in general (the zero-merging
rewriting steps are checked on the real function by the harness oracle `checkCanonSemantics`);
`canonical_shape_partial` proves the shape of the result. -/
def canonical_preserves_pattern_statement : Prop :=
  ∀ (d : List K) (offset o' : K) (d' : List K), (∀ x ∈ d, 0 ≤ x) →
    dashCanonical 0 offset d = some (o', d') →
      (d' = [] ∧ (d = [] ∨ ∀ x, Drawn offset d x)) ∨
      (d' = [0] ∧ ∀ x, ¬ Drawn offset d x) ∨
      ((∀ y ∈ d', 0 < y) ∧ ∀ x, Drawn offset d x ↔ Drawn o' d' x)

/-- Shape of the canonical pattern: `dashCanonical` returns the documented degenerate results `[]`
(solid) / `[0]` (nothing), or a pattern whose entries are all positive — which is what
`start_terminates`, `positions_follow_pattern` and `kept_pieces_are_drawn` need. -/
theorem canonical_shape_partial (d : List K) (offset o' : K) (d' : List K)
    (h : dashCanonical 0 offset d = some (o', d')) :
    d' = [] ∨ d' = [0] ∨ (d' ≠ [] ∧ ∀ y ∈ d', 0 < y) := by
  unfold dashCanonical at h
  split at h
  · cases h; exact Or.inl rfl
  · split at h
    · next hfz => cases h; exact Or.inr (Or.inl (firstZero_ret hfz))
    · split at h
      · cases h
      · next hlz => cases h; exact Or.inl (lastZero_ret hlz)
      · next d2 _ =>
        split at h
        · cases h; exact Or.inr (Or.inl rfl)
        · next hnp =>
          cases h
          by_cases hne : reduceRepeat 0 d2.length d2 = []
          · exact Or.inl hne
          · exact Or.inr (Or.inr ⟨hne, fun y hy =>
              pos_of_not_hasNonPositive hnp (reduceRepeat_mem hy)⟩)

/-! ### non-vacuity: the model computes the documented example (`Dash(7, 2, 2)` on a line of length
10 draws [1,3], [5,7], [9,10]); run over `Int` with `Int.tmod` for `math.Mod`, not over a field. -/
example : dashCanonical (0 : Int) 7 [2, 3, 2, 3] = some (7, [2, 3]) := by decide
example : dashStart Int.tmod 10 (7 : Int) [2, 2] = some (1, -1) := by decide
example : dashStart Int.tmod 10 (-5 : Int) [2, 2] = some (1, -1) := by decide
example : dashStart Int.tmod 10 (-154 : Int) [2, 2] = some (1, 0) := by decide
example : positionsLoop (0 : Int) [2, 2] 10 20 1 (-1) [] = some ([1, 3, 5, 7, 9], 0) := by decide
example : (List.range 6).filter (kept 5 0) = [1, 3, 5] := by decide
example : dash Int.tmod (0 : Int) 50 (-1) [2, 2] [(10, false)] = .pieces [(0, 1, 3), (0, 5, 7), (0, 9, 10)] := by decide
example : dash Int.tmod (0 : Int) 50 (-5) [2, 2] [(10, false)] = .pieces [(0, 1, 3), (0, 5, 7), (0, 9, 10)] := by decide
example : subpathIntervals (0 : Int) 50 [2, 2] 1 (-1) 12 true = some [(1, 3), (5, 7), (9, 11)] := by decide
example : subpathIntervals (0 : Int) 50 [2, 2] 1 (-1) 10 true = some [(9, 10), (1, 3), (5, 7)] := by decide
example : subpathIntervals (0 : Int) 50 [2, 2] 0 (-1) 12 true = some [(11, 1), (3, 5), (7, 9)] := by decide
example : dash Int.tmod (0 : Int) 50 0 [1, 0, 2, 3] [(10, false)] = .pieces [(0, 0, 3), (0, 6, 9)] := by decide

end C05
