import CanvasProofs.Lemmas.C10
import CanvasProofs.Lemmas.C10Decode
import CanvasProofs.Lemmas.C10Exact
import CanvasProofs.Lemmas.C10Derive
import CanvasProofs.Lemmas.C10Heap
import CanvasModel.C10
/-!
# C10 — built paths are well-formed

Model: `Canvas.Path` (CanvasModel/Path.lean), a hand-written model of path.go's builder
(`MoveTo … Close`, `Arc`, `Join`, `Append`, `optimizeClose`) tied to the source by bit-level
correspondence of `encode (model state)` with `Path.Data()` on generated histories.

Every geometric predicate (`Equal`, collinearity, radius correction, angle normalisation) is a field
of the oracle `G : Geo α`; the theorems with a `G` quantify over it, i.e. they hold whatever these
predicates answer — in particular for the float64 formulas of the Go code.  Those that name `goGeo`
instead are about the formulas of path.go in exact integer arithmetic.
-/
set_option linter.unusedSectionVars false
namespace C10
open Canvas Canvas.Path
variable {α : Type} [DecidableEq α]

/-- Each single builder call (incl. `Arc` and the internal `optimizeClose`) preserves well-formedness. -/
theorem applyOp_wf (G : Geo α) (cs : RPath α) (o : Op α) (h : WF G.ptEq cs) : WF G.ptEq (applyOp G cs o) :=
  wf_iff_ok.2 (applyOp_ok G o nofun (wf_iff_ok.1 h))

/-- `p.Join(q)` of two well-formed paths is well-formed (first command re-issued through the builder,
remaining records copied, first Close repaired). -/
theorem join_wf (G : Geo α) (p q : RPath α) (hp : WF G.ptEq p) (hq : WF G.ptEq q) : WF G.ptEq (join G p q) :=
  wf_iff_ok.2 (join_ok_weak G (wf_iff_ok.1 hp) (wf_iff_ok.1 hq))

/-- `p.Append(q)` of two well-formed paths is well-formed. -/
theorem append_wf (G : Geo α) (p q : RPath α) (hp : WF G.ptEq p) (hq : WF G.ptEq q) : WF G.ptEq (append p q) :=
  wf_iff_ok.2 (append_ok (wf_iff_ok.1 hp) (wf_iff_ok.1 hq))

/-- Join's close repair never reaches past the next MoveTo: whatever the joined piece `pre` contains,
every record of q from its next MoveTo on — in particular the Close of every later subpath, with the
coordinates of ITS OWN MoveTo — is copied unchanged (array order, as in path.go:337-347). -/
theorem join_repair_stops_at_moveTo (e a : Pt α) (pre t : List (Cmd α)) (h : ∀ c ∈ pre, c.isMove = false) :
    repairClose e (pre ++ .move a :: t) = repairClose e pre ++ .move a :: t := by
  induction pre with
  | nil => rfl
  | cons c rest ih =>
    have ih' := ih fun c' hc' => h c' (List.mem_cons_of_mem _ hc')
    rcases cmd_trichotomy c with ⟨p, rfl⟩ | ⟨p, rfl⟩ | hd
    · cases h _ (List.mem_cons_self ..)
    · rfl
    · rw [List.cons_append, repairClose_draw hd, repairClose_draw hd, ih']; rfl

/-- Every path reachable through the construction API — any tree of primitive calls,
`Join`s and `Append`s of earlier results — is well-formed, for ARBITRARY answers of the geometric
predicates. -/
theorem builder_wf (G : Geo α) (h : Build α) : WF G.ptEq (h.eval G) := by
  induction h with
  | empty => rfl
  | op b o ih => exact applyOp_wf G _ o ih
  | join p q ihp ihq => exact join_wf G _ _ ihp ihq
  | append p q ihp ihq => exact append_wf G _ _ ihp ihq

/-- The same for a flat list of primitive calls on one path. -/
theorem ops_wf (G : Geo α) (ops : List (Op α)) : WF G.ptEq (ops.foldl (applyOp G) []) :=
  List.foldlRecOn ops _ (motive := WF G.ptEq) rfl fun cs h o _ => applyOp_wf G cs o h

/-- `WF` is exactly the declarative framing. -/
theorem wf_iff_framed (G : Geo α) (near : Pt α → Pt α → Bool) (cs : RPath α) :
    WF near cs ↔ Framed G near cs := by
  rw [wf_iff_ok, ok_iff_fits G, framed_iff_fits]

/-- `WF` ⇔ the encoded data array decodes forward (`i += cmdLen(d[i])`, head and tail command of every
record agree, arc flag ∈ {0,1,2,3}) into records that are framed as above. -/
theorem wf_iff_decodes (G : Geo α) (C : Codes α) (hC : C.Distinct) (near : Pt α → Pt α → Bool) (cs : RPath α) :
    WF near cs ↔ ∃ recs, decode C (encode C cs) = some recs ∧ Framed G near recs.reverse := by
  rw [wf_iff_framed G, decode_encode C hC]
  exact ⟨fun h => ⟨_, rfl, by simpa using h⟩, fun ⟨recs, h1, h2⟩ => by cases h1; simpa using h2⟩

/-- The array decodes from both ends into the same records: the forward scan yields them oldest
first, the backward scan (`i -= cmdLen(d[i-1])`, reading `d[i-3], d[i-2]`) newest first, with every
index access in range (a failed access is `none` in the decoders); `Pos()` reads the model's pen. -/
theorem decode_both_ends (G : Geo α) (C : Codes α) (hC : C.Distinct) (cs : RPath α) :
    decode C (encode C cs) = some cs.reverse ∧
    decodeBwd C (encode C cs).reverse = some cs ∧
    posRaw G (encode C cs).reverse = some (pos G cs) :=
  ⟨decode_encode C hC cs, decodeBwd_encode C hC cs, posRaw_encode C G cs⟩

/-- The hypothesis `Codes.Distinct` is satisfiable: the command values 1,2,4,8,16,32 and flags 0..3. -/
example : intCodes.Distinct := by unfold Codes.Distinct; decide

/-- Corollary for the builder: the data array of every constructed path decodes from both ends into
framed records. -/
theorem builder_decodes (G : Geo α) (C : Codes α) (hC : C.Distinct) (h : Build α) :
    ∃ recs, decode C (encode C (h.eval G)) = some recs ∧
      decodeBwd C (encode C (h.eval G)).reverse = some recs.reverse ∧ Framed G G.ptEq recs.reverse := by
  exact ⟨_, decode_encode C hC _, by simpa using decodeBwd_encode C hC (h.eval G),
    by simpa using (wf_iff_framed G _ _).1 (builder_wf G h)⟩

/-- Full statement: after public builder calls there are no consecutive MoveTos, no Close directly
after a MoveTo and no zero-length drawing record.  False for ARBITRARY oracle answers
(`strict_needs_merge_soundness`); proved under oracle hypotheses (`builder_strict_partial`) and for the
Go formulas in exact arithmetic (`builder_strict_exact`).  For float64 the hypotheses fail only inside
the Epsilon band (`Equal` is not transitive there): covered by the validator oracle, not by a theorem. -/
def builder_strict_statement (α : Type) [DecidableEq α] : Prop :=
  ∀ (G : Geo α) (ops : List (Op α)), (∀ o ∈ ops, o.isPublic = true) →
    Strict G.ptEq (ops.foldl (applyOp G) []) ∧ noZero G (ops.foldl (applyOp G) []) = true

/-- If `Point.Equals` is symmetric, a vector is never at angle 0 with its reverse (`Sane`)
and LineTo's merge test is sound (`MergeSound`), then every history of public builder calls yields a
strictly well-formed path (no `M M`, no `M Z`) without zero-length records. -/
theorem builder_strict_partial (G : Geo α) (hS : Sane G) (hM : MergeSound G) (ops : List (Op α))
    (hpub : ∀ o ∈ ops, o.isPublic = true) :
    Strict G.ptEq (ops.foldl (applyOp G) []) ∧ noZero G (ops.foldl (applyOp G) []) = true := by
  have := List.foldlRecOn ops _ (motive := fun cs => Ok G.ptEq true cs ∧ noZero G cs = true) ⟨ok_nil, rfl⟩
    fun cs h o ho => ⟨applyOp_ok G o (fun _ => ⟨hS, h.2⟩) h.1, applyOp_noZero G hM o (hpub o ho) h.2⟩
  exact ⟨strict_iff_ok.2 this.1, this.2⟩

/-- The Go formulas satisfy both hypotheses in exact arithmetic; in particular the dominant-axis
sign test of `LineTo` (path.go after 219108c: `|da.Y| < |da.X|`) never merges a reversing line. -/
theorem goGeo_sound : Sane goGeo ∧ MergeSound goGeo := ⟨goGeo_sane, goGeo_mergeSound⟩

/-- Hence, with exact arithmetic and the formulas of path.go, EVERY history of public builder calls is
strictly well-formed and free of zero-length records — no hypotheses left. -/
theorem builder_strict_exact (ops : List (Op Int)) (hpub : ∀ o ∈ ops, o.isPublic = true) :
    Strict goGeo.ptEq (ops.foldl (applyOp goGeo) []) ∧ noZero goGeo (ops.foldl (applyOp goGeo) []) = true :=
  builder_strict_partial goGeo goGeo_sane goGeo_mergeSound ops hpub

/-- The hypothesis `MergeSound` cannot be dropped from `builder_strict_partial`: for an (artificial)
oracle that answers "extends" to every parallel line — NOT the Go code — a reversing LineTo is merged
and a zero-length record remains, so `builder_strict_statement` is false for arbitrary answers. -/
theorem strict_needs_merge_soundness : ¬ builder_strict_statement Int := by
  intro h
  have := (h { goGeo with sameDir := fun _ _ => true }
    [Op.moveTo ⟨0, 0⟩, .lineTo ⟨-2, 0⟩, .lineTo ⟨0, 0⟩] (by decide)).2
  revert this; decide

/-- Regression anchors for the repaired LineTo: reversing collinear lines (axis-parallel and
diagonal, both directions) stay two records in the exact model of the current code; the extending
line of the last example is still merged. -/
example : [Op.moveTo ⟨0, 0⟩, .lineTo ⟨-2, 0⟩, .lineTo ⟨0, 0⟩].foldl (applyOp goGeo) []
    = [.line ⟨0, 0⟩, .line ⟨-2, 0⟩, .move ⟨0, 0⟩] := by decide
example : [Op.moveTo ⟨0, 0⟩, .lineTo ⟨0, -2⟩, .lineTo ⟨0, 3⟩].foldl (applyOp goGeo) []
    = [.line ⟨0, 3⟩, .line ⟨0, -2⟩, .move ⟨0, 0⟩] := by decide
example : [Op.moveTo ⟨0, 0⟩, .lineTo ⟨-2, -3⟩, .lineTo ⟨2, 3⟩].foldl (applyOp goGeo) []
    = [.line ⟨2, 3⟩, .line ⟨-2, -3⟩, .move ⟨0, 0⟩] := by decide
example : [Op.moveTo ⟨0, 0⟩, .lineTo ⟨-2, 0⟩, .lineTo ⟨-5, 0⟩].foldl (applyOp goGeo) []
    = [.line ⟨-5, 0⟩, .move ⟨0, 0⟩] := by decide

/-- The hypotheses of `builder_strict_partial` are also satisfied by the dot-product direction test. -/
example : Sane fixedGeo ∧ MergeSound fixedGeo := ⟨fixedGeo_sane, fixedGeo_mergeSound⟩

/-- `Append` preserves STRICT well-formedness: a trailing MoveTo of the receiver is dropped before
the argument (which starts with its own MoveTo) is copied, so no two consecutive MoveTos arise. -/
theorem append_strict (near : Pt α → Pt α → Bool) (p q : RPath α) (hp : Strict near p) (hq : Strict near q) :
    Strict near (append p q) :=
  strict_iff_ok.2 (append_ok (strict_iff_ok.1 hp) (strict_iff_ok.1 hq))

/-- `Join` still copies the argument verbatim when it falls back to appending (p closed, or q does not
start at p's end): a receiver that ends in a MoveTo then yields two consecutive MoveTos — well-formed,
but not strictly so (exact arithmetic, formulas of path.go). -/
theorem join_after_moveTo_not_strict :
    ∃ p q : RPath Int, Strict goGeo.ptEq p ∧ Strict goGeo.ptEq q ∧ WF goGeo.ptEq (join goGeo p q) ∧
      ¬ Strict goGeo.ptEq (join goGeo p q) :=
  ⟨[.move ⟨5, 5⟩, .line ⟨1, 1⟩, .move ⟨0, 0⟩], [.line ⟨3, 3⟩, .move ⟨2, 2⟩], by unfold Strict; decide,
    by unfold Strict; decide, by unfold WF; decide, by unfold Strict; decide⟩

def Op.target : Op α → Option (Pt α)
  | .moveTo p => some p
  | .lineTo p => some p
  | .quadTo _ p => some p
  | .cubeTo _ _ p => some p
  | .arcTo _ _ _ _ _ p => some p
  | _ => none

/-- After `MoveTo/LineTo/QuadTo/CubeTo/ArcTo(…, e)` the pen is at `e`, or the call was dropped and the
pen was already `Equal` to `e`: only zero-length commands are dropped, and merging or converting to
a line never moves the requested end point. -/
theorem pos_requested (G : Geo α) (cs : RPath α) (o : Op α) (e : Pt α) (ht : Op.target o = some e) :
    pos G (applyOp G cs o) = e ∨ (applyOp G cs o = cs ∧ G.ptEq (pos G cs) e = true) := by
  cases o with
  | moveTo p => cases ht; rw [applyOp, moveTo_eq]; exact Or.inl rfl
  | lineTo p => cases ht; exact (lineTo_outcome G _ cs).pos
  | quadTo cp p => cases ht; exact (quadTo_outcome G cp _ cs).pos
  | cubeTo c1 c2 p => cases ht; exact (cubeTo_outcome G c1 c2 _ cs).pos
  | arcTo rx ry rot l s p => cases ht; exact (arcTo_outcome G rx ry rot l s _ cs).pos
  | arc rx ry rot t0 t1 => cases ht
  | close => cases ht
  | optimizeClose => cases ht

/-- `Close` directly after `MoveTo` on top of an OPEN subpath is a no-op: the MoveTo stays and the pen
stays at its point, so the next drawing call starts a new subpath there (repaired behaviour,
/repo 58c03cc). -/
theorem close_after_moveTo_keeps_pen (G : Geo α) (p : Pt α) (c : Cmd α) (rest : RPath α)
    (hc : c.isDraw = true) :
    close G (moveTo p (c :: rest)) = .move p :: c :: rest ∧ pos G (close G (moveTo p (c :: rest))) = p := by
  have h : close G (moveTo p (c :: rest)) = .move p :: c :: rest := by
    cases c <;> first | rfl | cases hc
  exact ⟨h, congrArg (pos G) h⟩

/-- Witness of the remaining part of known finding C10-moveto-close-forgets-pen: on an empty path or
after a closed subpath, `Close` directly after `MoveTo` still removes the MoveTo, so path and pen are
exactly what they were before the MoveTo. -/
theorem close_after_moveTo_forgets (G : Geo α) (p : Pt α) (cs : RPath α)
    (h : cs = [] ∨ headIsClose cs = true) : close G (moveTo p cs) = cs := by
  rcases h with rfl | h
  · rfl
  · cases cs with
    | nil => rfl
    | cons c rest =>
      cases c <;> simp [headIsClose] at h
      simp [moveTo, close, headIsClose]

/-- The radii stored by ArcTo are the absolute values of the arguments, exchanged when `rx < ry`
(then the rotation gains 90°) and possibly both multiplied by the correction factor; the stored
rotation is always a value of `phiOf` (the normalisation into [0, π)); flags are stored as two
booleans, i.e. the flag value is one of the four codes. -/
theorem arc_canonical (G : Geo α) (start p : Pt α) (rx ry rot : α) :
    ∃ a b r, ((a = G.abs rx ∧ b = G.abs ry) ∨ (a = G.abs ry ∧ b = G.abs rx)) ∧
      (arcCanon G start rx ry rot p = (a, b, G.phiOf r) ∨
        ∃ lam, arcCanon G start rx ry rot p = (G.mul a lam, G.mul b lam, G.phiOf r)) := by
  unfold arcCanon
  simp only
  -- first the radii are ordered (`t`), then both may be scaled
  generalize ht : (if G.eq (G.abs rx) (G.abs ry) = true then (G.abs rx, G.abs ry, G.zero)
    else if G.lt (G.abs rx) (G.abs ry) = true then (G.abs ry, G.abs rx, G.rotPlus90 rot)
    else (G.abs rx, G.abs ry, rot)) = t
  refine ⟨t.1, t.2.1, t.2.2, ?_, ?_⟩
  · rw [← ht]
    split
    · exact Or.inl ⟨rfl, rfl⟩
    · split
      · exact Or.inr ⟨rfl, rfl⟩
      · exact Or.inl ⟨rfl, rfl⟩
  · split
    · exact Or.inr ⟨_, rfl⟩
    · exact Or.inl rfl

/-- Every path returned by `Split` is well-formed. -/
theorem split_wf (near : Pt α → Pt α → Bool) (cs : RPath α) (h : WF near cs) : ∀ p ∈ split cs, WF near p := by
  intro p hp
  exact wf_iff_ok.2 ((splitRuns_ok (wf_iff_ok.1 h)).1 p (split_subset cs p hp))

/-- `Split` partitions the records: the pieces, in array order, concatenate back to the path, except
that a last piece of at most four values (a trailing lone MoveTo) is left out. -/
theorem split_partition (cs : RPath α) :
    ∃ dropped : List (RPath α), (dropped = [] ∨ ∃ r, dropped = [r] ∧ isEmpty r = true) ∧
      (dropped ++ (split cs).reverse).flatten = cs := by
  have hf := splitRuns_flatten cs
  unfold split
  cases h : splitRuns cs with
  | nil => rw [h] at hf; exact ⟨[], Or.inl rfl, by simpa using hf⟩
  | cons p ps =>
    rw [h] at hf
    simp only
    by_cases he : isEmpty p = true
    · rw [if_pos he]; exact ⟨[p], Or.inr ⟨p, rfl, he⟩, by simpa using hf⟩
    · rw [if_neg he]; exact ⟨[], Or.inl rfl, by simpa using hf⟩

/-- `Reverse` returns a well-formed path for EVERY input (no hypothesis): the pending Close is emitted
exactly when the first LineTo of a closed subpath is reached, so nothing but a MoveTo follows a Close,
and every Close carries the first point written for its subpath. -/
theorem reverse_wf (G : Geo α) (near : Pt α → Pt α → Bool) (cs : RPath α) : WF near (reverse G cs) := by
  rw [wf_iff_ok]
  unfold reverse
  cases cs with
  | nil => exact ok_nil
  | cons c rest => exact revGo_ok G (Or.inl ⟨⟨_, rfl⟩, rfl, rfl⟩)

/-- `Reverse` keeps the number of subpaths of a well-formed path. -/
theorem reverse_subpaths (G : Geo α) (near : Pt α → Pt α → Bool) (cs : RPath α) (h : WF near cs) :
    countMoves (reverse G cs) = countMoves cs := by
  unfold reverse
  cases cs with
  | nil => rfl
  | cons c rest =>
    rw [revGo_moves, ← countMoves_dropLast (wf_iff_ok.1 h) (List.cons_ne_nil c rest)]
    exact Nat.add_comm ..

/-- `Transform` with a matrix that keeps arcs arcs (in particular `Translate`, `Scale`) maps every
point through `f`: the result is well-formed (also strictly) whenever `f` respects the closing tolerance. -/
theorem transform_wf (near near' : Pt α → Pt α → Bool) (f : Pt α → Pt α)
    (g : α × α × α × Bool × Bool → α × α × α × Bool × Bool)
    (hn : ∀ a b, near a b = true → near' (f a) (f b) = true) (cs : RPath α) :
    (WF near cs → WF near' (cs.map (mapCmd f g))) ∧ (Strict near cs → Strict near' (cs.map (mapCmd f g))) := by
  have key : ∀ b, Ok near b cs → Ok near' b (cs.map (mapCmd f g)) :=
    fun b ⟨_, hst⟩ => ⟨_, endState_map hn hst⟩
  exact ⟨fun h => wf_iff_ok.2 (key false (wf_iff_ok.1 h)), fun h => strict_iff_ok.2 (key true (strict_iff_ok.1 h))⟩

/-- the hypothesis of `transform_wf` holds for a translation in exact arithmetic -/
example : ∀ a b : Pt Int, goGeo.ptEq a b = true →
    goGeo.ptEq (⟨a.x + 3, a.y - 2⟩ : Pt Int) ⟨b.x + 3, b.y - 2⟩ = true := by
  intro a b h; rw [goGeo_ptEq] at h ⊢; subst h; rfl

/-- `replace` with callbacks that replace nothing returns the path unchanged. -/
theorem replace_none (G : Geo α) (cs : RPath α) : replace G (fun _ _ _ => none) cs = cs := by
  unfold replace
  rw [replaceGo_none]; simp

/-- A raw data array is accepted by the executable verdict `wfArray` (the `W` lines of the check)
exactly when it is the encoding of a well-formed command list (by `wf_iff_framed`: of a framed one). -/
theorem wfArray_iff (C : Codes α) (hC : C.Distinct) (near : Pt α → Pt α → Bool) (d : List α) :
    wfArray C near d = true ↔ ∃ cs, encode C cs = d ∧ WF near cs := by
  unfold wfArray
  constructor
  · intro h
    cases hd : decode C d with
    | none => simp [hd] at h
    | some recs =>
      simp only [hd] at h
      exact ⟨recs.reverse, decode_sound C hd, h⟩
  · rintro ⟨cs, rfl, h⟩
    rw [decode_encode C hC]
    simp only [List.reverse_reverse]
    exact h

/-- the instance the driver runs: IEEE bit patterns of the command and flag values are distinct -/
example : Canvas.C10.bitsCodes.Distinct := by unfold Codes.Distinct; decide

open Canvas.Heap in
/-- Appending to a capacity-limited view (`p.d[i:j:j]`, as `Split` and `replace` hand out) allocates:
no cell that existed before is written, so the parent array — and every other slice — reads the same
afterwards; the result lives in fresh cells and reads `old ++ vs`. -/
theorem view_append_pure (h : Heap α) (parent other : Slice) (i j : Nat) (vs : List α) (hv : vs ≠ [])
    (hp : parent.Allocated h) (ho : other.Allocated h) (hij : i ≤ j ∧ j ≤ parent.len) :
    let r := appendGo h (parent.sub3 i j j) vs
    read r.1 parent = read h parent ∧ read r.1 other = read h other ∧ r.2.base = h.next ∧
      read r.1 r.2 = read h (parent.sub3 i j j) ++ vs := by
  have hfull : ¬ (parent.sub3 i j j).len + vs.length ≤ (parent.sub3 i j j).cap := by
    have : 0 < vs.length := List.length_pos_iff.2 hv
    simp only [Slice.sub3]; omega
  have hc := append_realloc_cells h _ vs hfull
  exact ⟨read_eq_of_below hc hp, read_eq_of_below hc ho, append_realloc_base h _ vs hfull, append_read h _ vs⟩

open Canvas.Heap in
/-- `Copy` (make + copy): the result reads the same values, occupies fresh cells only, and no existing
cell changes — result and argument share no cell and the argument is unchanged. -/
theorem copy_fresh (h : Heap α) (s other : Slice) (ho : other.Allocated h) :
    let r := copyGo h s
    read r.1 r.2 = read h s ∧ h.next ≤ r.2.base ∧ read r.1 other = read h other := by
  exact ⟨copy_read h s, Nat.le_refl _, read_eq_of_below (copy_cells h s) ho⟩

open Canvas.Heap in
/-- Why the capacity limit matters (the mechanism of seeded defect split-shared-capacity, NOT the
current code): a plain view `p.d[i:j]` of a non-last piece has spare capacity over the parent's next
record, and `append` then overwrites the parent's cell `j`. -/
theorem plain_view_append_clobbers (h : Heap α) (parent : Slice) (i j : Nat) (v : α) (vs : List α)
    (hij : i ≤ j) (hroom : j + (v :: vs).length ≤ parent.cap) :
    (appendGo h (parent.sub2 i j) (v :: vs)).1.cells (parent.base + j) = v := by
  have hfit : (parent.sub2 i j).len + (v :: vs).length ≤ (parent.sub2 i j).cap := by
    simp only [Slice.sub2] at *; omega
  have := append_inplace_writes h (parent.sub2 i j) v vs hfit
  have e : (parent.sub2 i j).base + (parent.sub2 i j).len = parent.base + j := by
    simp only [Slice.sub2]; omega
  rwa [e] at this

/-- the hypotheses of `view_append_pure` are satisfiable -/
example : (⟨0, 8, 8⟩ : Canvas.Heap.Slice).Allocated (⟨fun _ => (0 : Int), 8⟩ : Canvas.Heap.Heap Int) ∧ (0 ≤ 4 ∧ 4 ≤ 8) := by
  simp [Canvas.Heap.Slice.Allocated]

end C10
