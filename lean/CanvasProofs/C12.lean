import CanvasProofs.Lemmas.C12Pdf
import CanvasProofs.Lemmas.C12Ps
import CanvasProofs.Lemmas.C12Svg
import CanvasProofs.Lemmas.C12Verdict
/-!
# C12 — SVG, PDF and PostScript output encode the drawing the rasterizer renders

Property theorems about the L2 emitter models (`CanvasModel/C12.lean`, tied to /repo by token
correspondence on every run) and the L3 format interpreters.
-/
namespace C12
open Canvas Canvas.C12

variable {ν : Type} {N : Num ν}

def pdfOps (N : Num ν) (ds : List (Draw ν)) (w : PW ν) : List (POp ν) := (pdfProg N ds w).2.flatten
def pdfFinal (N : Num ν) (ds : List (Draw ν)) (w : PW ν) : PW ν := (pdfProg N ds w).1

/-- The cache invariant for one call, unconditionally (any scalars, any paints, any cache): after interpreting what
`PDF.RenderPath` emitted from the state the cache claims, the graphics state is the one the new cache
claims. "Only emit what changed" never desynchronises cache and graphics state. -/
theorem pdf_inv_step (d : Draw ν) (w : PW ν) :
    (pdfRun (gOf w.c) (pdfDraw N d w).2).1 = gOf (pdfDraw N d w).1.c :=
  (pdfDraw_simE d w).inv

/-- The cache invariant lifted to every program. -/
theorem pdf_inv_program (ds : List (Draw ν)) (w : PW ν) :
    (pdfRun (gOf w.c) (pdfOps N ds w)).1 = gOf (pdfFinal N ds w).c :=
  thread_inv (prog := pdfProg N) (abs := fun w => gOf w.c) pdfRun_append (fun _ => rfl) (fun _ => rfl)
    (fun _ _ _ => rfl) pdf_inv_step ds w

/-- … in particular from a fresh page: the initial cache describes the initial graphics state. -/
theorem pdf_inv_from_new_page (ds : List (Draw ν)) :
    (pdfRun (pg0 N) (pdfOps N ds (pw0 N))).1 = gOf (pdfFinal N ds (pw0 N)).c := by
  rw [pg0_eq]
  exact pdf_inv_program ds _

/-- One call refines the reference from ANY cache (fill, then native stroke or explicit outline; colours,
alpha, width·s, cap, join, limit, dashes·width·s, closing operator), when `==` is lawful; cache
well-formedness (empty dash array cached with phase 0) is maintained. -/
theorem pdf_step_refines (L : Lawful N) (d : Draw ν) (w : PW ν) (hi : PInv N w.c) :
    pdfRun (gOf w.c) (pdfDraw N d w).2 = (gOf (pdfDraw N d w).1.c, pdfRef N d) ∧ PInv N (pdfDraw N d w).1.c :=
  pdfDraw_cases (P := fun a ref => PSim a w ref ∧ PInv N (a w).1.c) d
    (nothing := (PStep.nil w.c).refines rfl hi)
    (fill := fun hf => (fillBlock_step d.fill hf).refines rfl hi)
    (outline := fun hs => (fillBlock_step d.stroke hs).refines rfl hi)
    (fill_outline := fun hf hs =>
      (PStep.append (fillBlock_step d.fill hf) (fillBlock_step d.stroke hs)).refines rfl hi)
    (stroke := fun hs hj => (strokeBlock_step L d hs hj hi).refines
      (by rw [pdfPaint_strokeK, strokeItem_ref d hj]) (strokeCache_inv d _))
    (fill_stroke := fun hf hs hj =>
      (PStep.append (fillBlock_step d.fill hf) (strokeBlock_step L d hs hj hi)).refines
        (by rw [pdfPaint_strokeK, strokeItem_ref d hj]; rfl) (strokeCache_inv d _))
    (both := fun hf hs hj ha =>
      (PStep.cons (setFill_step d.fill hf) (strokeBlock_step L d hs hj hi)).refines
        (by rw [pdfPaint_bothK, strokeItem_ref d hj, ha]; rfl)
        (strokeCache_inv d _))

/-- `pdf_refines` for every program from every well-formed cache: the interpreter paints exactly the
reference items of all calls, in order, and ends in the state the final cache claims. -/
theorem pdf_refines_from (L : Lawful N) (ds : List (Draw ν)) (w : PW ν) (hi : PInv N w.c) :
    pdfRun (gOf w.c) (pdfOps N ds w) = (gOf (pdfFinal N ds w).c, ds.flatMap (pdfRef N)) :=
  thread_refines (prog := pdfProg N) (abs := fun w => gOf w.c) (Inv := fun w => PInv N w.c) pdfRun_append
    (fun _ => rfl) (fun _ => rfl) (fun _ _ _ => rfl) ds (fun d _ => pdf_step_refines L d) w hi

/-- Full statement: interpreting the content stream of ANY program on a new page paints exactly the
reference items (full strength since the repairs 8a6095d and 413caa6). -/
def pdf_refines_statement (N : Num ν) : Prop :=
  ∀ ds : List (Draw ν), (pdfRun (pg0 N) (pdfOps N ds (pw0 N))).2 = ds.flatMap (pdfRef N)

theorem pdf_refines (L : Lawful N) : pdf_refines_statement N := by
  intro ds
  rw [pg0_eq, pdf_refines_from L ds (pw0 N) fun _ => rfl]

def natNum : Num Nat :=
  { zero := 0, one := 1, ten := 10, mul := (· * ·), add := (· + ·), beq := fun a b => decide (a = b),
    lt := fun a b => decide (a < b), near4 := fun a => decide (a = 4) }

/-- `Lawful` is satisfiable; the regression `example`s of the repaired defects are evaluated at this instance. -/
theorem natNum_lawful : Lawful natNum :=
  ⟨by intro x y; simp [natNum], by intro x h; simp [natNum] at *; omega⟩

def halfRed : Col := ⟨128, 0, 0, 128⟩
def blue : Col := ⟨0, 0, 255, 255⟩
def fillOnly (c : Col) (pid : Nat) : Draw Nat :=
  { fill := .col c, stroke := .none, width := 1, cap := 0, join := .bevel, dashOff := 0, dashes := [], evenOdd := false,
    sim := true, scale := 1, closed := true, pid := pid, outlineEmpty := false }
def strokeOnly (c : Col) (pid : Nat) : Draw Nat :=
  { fillOnly c pid with fill := .none, stroke := .col c }

def alphaOf : Painted Nat → Option Nat
  | .fill _ _ _ a => some a
  | .stroke _ _ _ a _ _ _ _ _ _ => some a
  | .image _ a => some a
  | .invalid _ => none

/-- the program that showed the stale alpha before 8a6095d (fill alpha .5, stroke alpha 1, the same fill again): the
third fill is painted with its own alpha again (regression example, by evaluation) -/
example :
    (pdfRun (pg0 natNum) (pdfOps natNum [fillOnly halfRed 0, strokeOnly blue 1, fillOnly halfRed 2] (pw0 natNum))).2.map alphaOf
      = [some 128, some 255, some 128] := by decide

/-- the empty-outline instance (a stroke PDF cannot express whose outline is empty): nothing is written
and nothing is painted — no painting operator without a path (since 66cce0f; regression example) -/
example :
    (pdfRun (pg0 natNum) (pdfOps natNum [{ strokeOnly black 0 with join := .miter 2 (some 4), outlineEmpty := true }] (pw0 natNum))).2.map alphaOf = [] ∧
    pdfOps natNum [{ strokeOnly black 0 with join := .miter 2 (some 4), outlineEmpty := true }] (pw0 natNum) = [] := by
  constructor <;> decide

/-- an image is always painted opaque -/
theorem pdf_image_painted_opaque (k : Nat) (w : PW ν) :
    (pdfRun (gOf w.c) (pdfImage k w).2).2 = [.image k 255] := by
  rw [pdfImage_sim k w]

/-- Full statement of the cache invariant for an image call from ANY cache. -/
def pdf_image_inv_statement (N : Num ν) : Prop :=
  ∀ (k : Nat) (w : PW ν), (pdfRun (gOf w.c) (pdfImage k w).2).1 = gOf (pdfImage k w).1.c

/-- The cache invariant for an image call (full strength since 5295a66): `q` saves and `Q` restores exactly the
state the cache claims, because the only cached parameter DrawImage changes (alpha) is set before the `q`. -/
theorem pdf_image_inv : pdf_image_inv_statement (ν := ν) N := by
  intro k w
  rw [pdfImage_sim k w]

def itemOps (N : Num ν) (its : List (Item ν)) (pg : PPage ν) : List (POp ν) := (pdfItems N its pg).2.flatten
def itemFinal (N : Num ν) (its : List (Item ν)) (pg : PPage ν) : PPage ν := (pdfItems N its pg).1

/-- The cache invariant for EVERY page mixing path draws and images, from any cache. -/
theorem pdf_inv_items (its : List (Item ν)) (pg : PPage ν) :
    (pdfRun (gOf pg.w.c) (itemOps N its pg)).1 = gOf (itemFinal N its pg).w.c :=
  thread_inv (prog := pdfItems N) (abs := fun pg => gOf pg.w.c) pdfRun_append (fun _ => rfl) (fun _ => rfl)
    (fun _ _ _ => rfl)
    (fun it pg => match it with
      | .draw d => pdf_inv_step d pg.w
      | .image => pdf_image_inv (N := N) pg.nimg pg.w) its pg

/-- the program that failed before 5295a66 (half-transparent fill, image, opaque fill): the opaque fill is painted
at alpha 255 (regression example) -/
example :
    (pdfRun (pg0 natNum) (itemOps natNum [.draw (fillOnly halfRed 0), .image, .draw (fillOnly blue 1)] ⟨pw0 natNum, 0⟩)).2.map alphaOf
      = [some 128, some 255, some 255] := by decide

def psOps (N : Num ν) (ds : List (Draw ν)) (w : SW ν) : List (SOp ν) := (psProg N ds w).2.flatten
def psFinal (N : Num ν) (ds : List (Draw ν)) (w : SW ν) : SW ν := (psProg N ds w).1

/-- The cache invariant for one `PS.RenderPath` call from ANY cache: cache = interpreter state afterwards (including
across `gsave fill grestore`); full strength since the repair b63a583. -/
theorem ps_inv_step (L : Lawful N) (d : Draw ν) (w : SW ν) :
    (psRun (sgOf N w) (psDraw N d w).2).1 = sgOf N (psDraw N d w).1 := by
  obtain ⟨w', out, h, -⟩ := psDraw_step L d w
  exact h.simO.sim

/-- … lifted to every program. -/
theorem ps_inv_program (L : Lawful N) (ds : List (Draw ν)) (w : SW ν) :
    (psRun (sgOf N w) (psOps N ds w)).1 = sgOf N (psFinal N ds w) :=
  thread_inv (prog := psProg N) psRun_append (fun _ => rfl) (fun _ => rfl) (fun _ _ _ => rfl) (ps_inv_step L) ds w

/-- Full statement of the cache invariant for PostScript from the start of the program. -/
def ps_inv_statement (N : Num ν) : Prop :=
  ∀ ds : List (Draw ν), (psRun (sg0 N) (psOps N ds (sw0 N))).1 = sgOf N (psFinal N ds (sw0 N))

theorem ps_inv_from_start (L : Lawful N) : ps_inv_statement N := by
  intro ds
  rw [sg0_eq L]
  exact ps_inv_program L ds _

def shadeOfItem : Painted Nat → Option Shade
  | .fill _ _ s _ => some s
  | .stroke _ _ s _ _ _ _ _ _ _ => some s
  | _ => none

/-- the program that showed the colour-cache defect before b63a583 ({50,0,0,128} then {50,0,0,255}): the second fill
gets its colour operator and is painted 50/255 as the reference says (regression example) -/
example :
    (psRun (sg0 natNum) (psOps natNum [fillOnly ⟨50, 0, 0, 128⟩ 0, fillOnly ⟨50, 0, 0, 255⟩ 1] (sw0 natNum))).2.map shadeOfItem
      = ([fillOnly ⟨50, 0, 0, 128⟩ 0, fillOnly ⟨50, 0, 0, 255⟩ 1].flatMap (psRef natNum)).map shadeOfItem := by decide

/-- One `PS.RenderPath` call refines the reference from ANY well-formed cache: the interpreter (graphics state
with current path, gsave/grestore stack) paints the fill, then the native stroke (width·s, cap, join, limit,
dashes·width·s) or the explicit outline, in the un-premultiplied colours. Excluded class: gradient paints
(the PostScript back-end has none: recorded finding C12-ps-gradient-as-solid). -/
theorem ps_step_refines_partial (L : Lawful N) (d : Draw ν) (w : SW ν) (hw : PSWF w)
    (hf : d.fill.noGrad) (hs : d.stroke.noGrad) :
    psRun (sgOf N w) (psDraw N d w).2 = (sgOf N (psDraw N d w).1, psRef N d) ∧ PSWF (psDraw N d w).1 := by
  obtain ⟨w', out, h, hr⟩ := psDraw_step L d w
  obtain ⟨hi, ho⟩ := hr hw
  exact ⟨ho hf hs ▸ h.simO, h.1 ▸ hi⟩

/-- … lifted to every gradient-free program. -/
theorem ps_refines_partial (L : Lawful N) (ds : List (Draw ν)) (w : SW ν) (hw : PSWF w)
    (hg : ∀ d ∈ ds, d.fill.noGrad ∧ d.stroke.noGrad) :
    psRun (sgOf N w) (psOps N ds w) = (sgOf N (psFinal N ds w), ds.flatMap (psRef N)) :=
  thread_refines (prog := psProg N) psRun_append (fun _ => rfl) (fun _ => rfl) (fun _ _ _ => rfl) ds
    (fun d hd w hw => ps_step_refines_partial L d w hw (hg d hd).1 (hg d hd).2) w hw

/-- Full statement (false for the current code: `ps_gradient_witness`). -/
def ps_refines_statement (N : Num ν) : Prop :=
  ∀ ds : List (Draw ν), (psRun (sg0 N) (psOps N ds (sw0 N))).2 = ds.flatMap (psRef N)

theorem ps_refines_from_start_partial (L : Lawful N) (ds : List (Draw ν))
    (hg : ∀ d ∈ ds, d.fill.noGrad ∧ d.stroke.noGrad) :
    (psRun (sg0 N) (psOps N ds (sw0 N))).2 = ds.flatMap (psRef N) := by
  rw [sg0_eq L, ps_refines_partial L ds (sw0 N) (by intro g l h; simp [sw0] at h) hg]

/-- non-vacuity: a two-call colour program satisfies the hypotheses -/
example : ∀ d ∈ [fillOnly halfRed 0, strokeOnly blue 1], d.fill.noGrad ∧ d.stroke.noGrad := by
  intro d hd
  simp at hd
  rcases hd with rfl | rfl <;> exact ⟨trivial, trivial⟩

/-- a gradient fill: PostScript output paints it black, the reference is the gradient -/
def gradFill : Draw Nat := { fillOnly black 0 with fill := .grad 7 }

theorem ps_gradient_witness :
    (psRun (sg0 natNum) (psOps natNum [gradFill] (sw0 natNum))).2.map shadeOfItem = [some (.rgb 0 0 0 255)] ∧
    ([gradFill].flatMap (psRef natNum)).map shadeOfItem = [some (.pat 7)] := by
  constructor <;> decide

theorem ps_refines_statement_false : ¬ ps_refines_statement natNum := by
  intro h
  have := congrArg (List.map shadeOfItem) (h [gradFill])
  rw [ps_gradient_witness.1, ps_gradient_witness.2] at this
  exact absurd this (by decide)

def svg_refines_statement (N : Num ν) : Prop := ∀ d : Draw ν, d.cap ≤ 2 → svgRun N (svgDraw N d) = svgRef N d

/-- reading the `<path>` elements of one call with the SVG initial values (fill black, stroke none,
width 1, butt, miter 4, no dashes) yields the reference items, for every style and view (full strength
since the repair 27816bc; `cap ≤ 2` is the encoding of the three cappers). No assumption on `==`. -/
theorem svg_refines : svg_refines_statement N := by
  intro d hc
  simp only [svgRun, svgDraw]
  cases hs : d.hasStroke N d.join.svgOk
  · simp only [svgRef, hs, Bool.not_false, if_true, Bool.false_and, Bool.false_eq_true, if_false, List.append_nil,
      List.flatMap_cons, List.flatMap_nil]
    rw [svgElem_fillOnly]
  · cases hn : d.native d.join.svgOk
    · simp only [svgRef, hs, hn, Bool.not_true, Bool.not_false, Bool.false_eq_true, if_false, if_true, Bool.and_true,
        List.append_nil, List.cons_append, List.nil_append, List.flatMap_cons, List.flatMap_nil]
      rw [svgElem_fillOnly, svgElem_outline d.stroke (Bool.and_eq_true_iff.1 hs).1]
    · simp only [Bool.not_true, Bool.false_eq_true, if_false, if_true, Bool.and_false, List.append_nil,
        List.flatMap_cons, List.flatMap_nil]
      exact svgElem_native d hs hn hc

theorem svg_program_refines (ds : List (Draw ν)) (h : ∀ d ∈ ds, d.cap ≤ 2) :
    ds.flatMap (fun d => svgRun N (svgDraw N d)) = ds.flatMap (svgRef N) :=
  congrArg List.flatten (List.map_congr_left fun d hd => svg_refines d (h d hd))

/-- every `url(#p…)` written by a call refers to a gradient whose `<defs>` this or an earlier call has written
(hypothesis: a drawn stroke also has a positive unscaled width, true for every scale factor ≥ 0) -/
theorem svg_gradient_refs_defined (d : Draw ν) (pats : List Nat)
    (hsc : d.hasStroke N d.join.svgOk = true → N.lt N.zero d.width = true) :
    ∀ e ∈ svgDraw N d, ∀ i ∈ elemGrads e, i ∈ (svgDefs N d pats).1 := by
  -- without `hsc`, `writePaint` itself would emit the `<defs>` in the middle of the path element
  intro e he i hi
  have h : i ∈ (svgDraw N d).flatMap elemGrads := List.mem_flatMap.2 ⟨e, he, hi⟩
  rw [svgDraw_grads, List.mem_append] at h
  rw [mem_svgDefs]
  rcases h with h | h <;> split at h
  · rename_i hf
    exact .inl (.inr ⟨hf, h⟩)
  · cases h
  · rename_i hs
    exact .inr ⟨by rw [(Bool.and_eq_true_iff.1 hs).1, hsc hs]; rfl, h⟩
  · cases h

/-- the gradient table only grows: ids handed out earlier stay valid -/
theorem svg_table_grows (d : Draw ν) (pats : List Nat) : ∀ i ∈ pats, i ∈ (svgDefs N d pats).1 :=
  fun i hi => svgRegister_sub _ _ _ i (svgRegister_sub _ _ _ i hi)

/-- a gradient stroke of width 1 under scale 1 references gradient 3, which its own `<defs>` step registers -/
example : (svgDraw natNum { strokeOnly black 0 with stroke := .grad 3 }).flatMap elemGrads = [3] ∧
    (svgDefs natNum { strokeOnly black 0 with stroke := .grad 3 } []).1 = [3] := by decide

def evenOddOf : Painted Nat → Option Bool
  | .fill _ eo _ _ => some eo
  | _ => none

/-- the even-odd outline instance (miter-clip joiner, EvenOdd): the outline is filled NonZero (since 27816bc) -/
example : (svgRun natNum (svgDraw natNum { strokeOnly black 0 with join := .miter 2 (some 4), evenOdd := true })).map evenOddOf
    = [some false] := by decide

open Canvas.C12.Verdict in
/-- SOUNDNESS of the verdict on real PDF token streams (`PDFV` lines, decided by `Verdict.matchItems`): "no
difference" means the observed items are as many as the expected ones and agree pairwise in kind, path (drawn
path / explicit outline), fill rule resp. closing operator, colour (device colour component-wise close, pattern
names consistently bound), alpha and — for strokes — width, cap, join, miter limit, dash array and phase, up to
the closeness predicate. -/
theorem verdict_sound {close : ν → ν → Bool} (b : Bind) (es os : List (TItem ν))
    (h : (matchItems close b es os).1 = none) : AllAgree close b es os ∧ es.length = os.length :=
  ⟨(matchItems_none_iff b es os).1 h, ((matchItems_none_iff b es os).1 h).length⟩

open Canvas.C12.Verdict in
/-- an `invalid` observation (unknown operator, operand error, undefined resource, Q without q) is never accepted -/
theorem verdict_rejects_invalid {close : ν → ν → Bool} (b : Bind) (es os : List (TItem ν)) (why : String) :
    (matchItems close b es (.invalid why :: os)).1 ≠ none := by
  cases es with
  | nil => simp [matchItems]
  | cons e es =>
    simp only [matchItems]
    cases e <;> simp [itemDiff]

open Canvas.C12.Verdict in
/-- MONOTONE in the tolerance: accepting under `close` implies accepting under any weaker `close'` -/
theorem verdict_mono {close close' : ν → ν → Bool} (hm : ∀ x y, close x y = true → close' x y = true)
    (b : Bind) (es os : List (TItem ν)) (h : (matchItems close b es os).1 = none) :
    (matchItems close' b es os).1 = none :=
  (matchItems_none_iff b es os).2 (((matchItems_none_iff b es os).1 h).mono hm)

open Canvas.C12.Verdict in
/-- exact observations of device-colour items are accepted by every reflexive closeness predicate -/
theorem verdict_accepts_exact {close : ν → ν → Bool} (hr : ∀ x, close x x = true) (b : Bind) (es : List (TItem ν))
    (hp : ∀ e ∈ es, plainItem e) : (matchItems close b es es).1 = none :=
  matchItems_refl hr b es hp

end C12
