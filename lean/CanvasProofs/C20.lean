import CanvasProofs.Lemmas.C20Witness
import CanvasProofs.Lemmas.C20Sites
/-! # C20 — concurrent use on independent objects is race-free and deterministic
Split (DESIGN §4 C20): a happens-before model with the lockset theorem for all interleavings, a
`decide` over the access table extracted from the current /repo source, and statelessness of the
pooled sweep-line objects. That Go's memory model is as `CanvasModel.C20` states it (its
happens-before rules are written down there, not derived) is trusted. -/
namespace C20
open Canvas.C20 Canvas.FactsC20

/-- thread-local locksets are sound in every well-formed interleaving -/
theorem lockset_sound {tr : Trace} (wf : WF tr) (t : Tid) (tok : Tok) (k : Nat)
    (h : heldBy tr t tok k = true) : holderAt tr tok k = some t :=
  heldBy_holder wf k h

/-- mutual exclusion hand-over: a token held by `t` and later by `u ≠ t` was released by `t` and then
acquired by `u` in between -/
theorem token_handover {tr : Trace} (wf : WF tr) (tok : Tok) (t u : Tid) (htu : t ≠ u) (i j : Nat)
    (hij : i ≤ j) (hi : holderAt tr tok i = some t) (hj : holderAt tr tok j = some u) :
    ∃ c b e e', i ≤ c ∧ c < b ∧ b < j ∧ tr[c]? = some (t, e) ∧ e.rel = some tok ∧
      tr[b]? = some (u, e') ∧ e'.acq = some tok :=
  holderAt_handover wf htu j hij hi hj

/-- **lockset ⇒ data-race freedom**, for every trace (= every schedule of any number of threads):
if every location is protected — all accesses hold a common token (mutex, or ownership of the pooled
object between Get and Put), or it is written only by a once body and read only after that once, or
it is never written — then no two conflicting accesses are unordered by happens-before. -/
theorem lockset_drf (body : String → List String) (prot : String → Prot) (tr : Trace) (wf : WF tr)
    (ob : ∀ x, ObeysAt body (prot x) tr x) : ∀ i j x, ¬ Race body tr i j x :=
  fun i j x => no_race_at body (prot x) wf x (ob x) i j

/-- the same at a single location (other locations may be undisciplined) -/
theorem lockset_drf_at (body : String → List String) (p : Prot) (tr : Trace) (wf : WF tr) (x : String)
    (ob : ObeysAt body p tr x) : ∀ i j, ¬ Race body tr i j x :=
  no_race_at body p wf x ob

/-- the lockset hypothesis is not redundant: an unprotected location read by one goroutine and
written by another is a race of a well-formed trace -/
theorem unprotected_races (x : String) :
    WF [((0 : Tid), Ev.read x), (1, Ev.write x)] ∧
    Race (fun _ => []) [((0 : Tid), Ev.read x), (1, Ev.write x)] 0 1 x :=
  -- `Race` in order: i < j, two threads, the access at i, the access at j, one of them writes or is
  -- atomic, not both atomic, unordered
  ⟨wfB_sound rfl, by decide, (fun h => nomatch h), .inr (.inl ⟨0, rfl⟩), .inl (.inl ⟨1, rfl⟩),
    .inr (.inl (.inl ⟨1, rfl⟩)), (fun ⟨⟨_, h⟩, _⟩ => nomatch h), not_hb_pair rfl⟩

/-- a location accessed only through sync/atomic operations never races (two atomic accesses are no
data race by definition; the discipline rules out plain accesses) -/
theorem atomic_only_drf (body : String → List String) (tr : Trace) (wf : WF tr) (x : String)
    (ob : ObeysAt body .atomicOnly tr x) : ∀ i j, ¬ Race body tr i j x :=
  no_race_at body .atomicOnly wf x ob

/-- mixing is not allowed: a plain write unordered with an atomic operation on the same location is
a race of a well-formed trace (so `atomicOnly` has to exclude plain accesses) -/
theorem atomic_plain_mix_races (x : String) :
    Race (fun _ => []) [((0 : Tid), Ev.atomicOp x), (1, Ev.write x)] 0 1 x :=
  ⟨by decide, (fun h => nomatch h), .inr (.inr ⟨0, rfl⟩), .inl (.inl ⟨1, rfl⟩),
    .inr (.inl (.inl ⟨1, rfl⟩)), (fun ⟨_, ⟨_, h⟩⟩ => nomatch h), not_hb_pair rfl⟩

/-- every package-level variable of canvas, canvas/text and the four renderers is disciplined: never
written outside initialisation, or written only inside one once body and read only inside/after it,
or accessed only under one package-level lock, or accessed only through sync/atomic -/
theorem table_disciplined : ∀ v, v ∈ vars → v.disciplined = true := by
  decide +kernel

/-- every variable has a protection the model understands -/
theorem table_protected : ∀ v, v ∈ vars → (protOf v).isSome = true :=
  fun v hv => protOf_isSome (table_disciplined v hv)

/-- the pools are written only by the once body and used only after it; the system-font cache only
under its own mutex; the unnamed-font counter only through sync/atomic -/
theorem table_pools_cache_counter :
    protOf v_canvas_boPointPool = some (.byOnce "canvas.boInitPoolsOnce") ∧
    protOf v_canvas_boNodePool = some (.byOnce "canvas.boInitPoolsOnce") ∧
    protOf v_canvas_boSquarePool = some (.byOnce "canvas.boInitPoolsOnce") ∧
    protOf v_canvas_systemFonts = some (.guarded (.mu "canvas.systemFonts")) ∧
    protOf v_canvas_nonameFonts = some .atomicOnly := by
  decide +kernel

/-- the variables that are written at all outside initialisation are exactly these five (a new
mutable global shows up here) -/
theorem table_written_vars :
    (vars.filter (fun v => !v.writes.isEmpty || !v.addrs.isEmpty)).map (·.qname) =
      ["canvas.systemFonts", "canvas.nonameFonts", "canvas.boPointPool", "canvas.boNodePool", "canvas.boSquarePool"] := by
  decide +kernel

/-- **table ⇒ race freedom**: in every well-formed trace whose accesses to a package-level variable
are instances of the extracted sites (with the recorded synchronisation really in force), there is
no data race on that variable — for every variable of the table -/
theorem table_drf (body : String → List String) (tr : Trace) (wf : WF tr)
    (v : VarFact) (hv : v ∈ vars) (hr : Realises body v tr) : ∀ i j, ¬ Race body tr i j v.qname := by
  obtain ⟨p, _, ob⟩ := disciplined_obeys (table_disciplined v hv)
  exact no_race_at body p wf v.qname (ob body tr hr)

/-- the discipline check is not vacuous: a variable with an unsynchronised `++` is rejected -/
example : ({ qname := "p.n", pkg := "p", name := "n", typ := "int", pos := "", nreads := 1,
             writes := [⟨"f", "", "incdec", .none⟩], addrs := [], reads := [⟨"f", "", "read", .none⟩] } : VarFact).disciplined = false := by
  decide

/-- **a loaded font carries no mutable cache of canvas's own**: no struct type of canvas, canvas/text
or the renderers that is reachable from canvas.Font, canvas.FontFace or text.Shaper has a container
field (map, sync.Map, sync.Pool, chan) — so none is mutated after construction. A memo table added to
the shaper or the font changes this fact. -/
theorem font_level_state_immutable :
    (∀ f, f ∈ fontLevelFields → f.pkg ≠ "font" → f.container = false ∧ f.writes = []) ∧
    (∀ r, r ∈ fontRoots → r ∈ fontLevelTypes) ∧ "font.SFNT" ∈ fontLevelTypes := by
  decide +kernel

/-- in the dependency tdewolff/font (same analysis, module cache): every site that mutates a container
field of a type reachable from a loaded font is either inside a `once.Do` body (lazily built, then
immutable) or in one of the two explicit mutator methods Merge / SetGlyphNames -/
theorem font_dependency_container_writes :
    ∀ f, f ∈ fontLevelFields → ∀ w, w ∈ f.writes →
      w.sync = Sync.once "field" ∨ w.fn = "font.SFNT.Merge" ∨ w.fn = "font.SFNT.SetGlyphNames" := by
  decide +kernel

/-- **dependency mutators run on a private copy**: the complete list of places where canvas calls a
tdewolff/font method that writes into its receiver — the PDF writer (`CFF.SetGlyphNames(nil)`,
`Subset`) and the SVG writer (`Subset`) — and at every one of them the receiver variable was rebound
before the call, in an enclosing block of the same function, by
`if c, err := ….ParseSFNT(recv.Write(), …); err == nil { recv = c }`. A new call site, or one without
that statement in front of it, falsifies this. (Trusted, not derivable from the syntax: re-parsing a
font program that the library itself wrote succeeds — otherwise the call falls through to the shared
font; and `Write` only reads its receiver. Both are exercised by the SharedFontState observations
and the race-detector runs.) -/
theorem font_mutators_on_private_copy :
    (∀ c, c ∈ fontMutatorCalls → c.privateCopy = true) ∧
    fontMutatorCalls.map (fun c => (c.fn, c.call)) =
      [("pdf.pdfWriter.writeFont", "sfnt.CFF.SetGlyphNames"), ("pdf.pdfWriter.writeFont", "sfnt.Subset"),
       ("svg.SVG.writeFonts", "sfnt.Subset")] :=
  ⟨by decide +kernel, rfl⟩

/-- why the copy is needed (a fact about the dependency, not about canvas): `Subset` contains exactly
three alias copies `&(*sfntOld.T)` through which it writes into its receiver's Maxp, Head and Hhea
tables. If upstream repairs them this list becomes empty and the statement has to be updated. -/
theorem font_dependency_alias_copies :
    aliasCopies.map (fun c => (c.fn, c.kind)) =
      [("font.SFNT.Subset", "&(*sfntOld.Maxp)"), ("font.SFNT.Subset", "&(*sfntOld.Head)"),
       ("font.SFNT.Subset", "&(*sfntOld.Hhea)")] :=
  rfl

/-- non-vacuity of the call-site discipline: a call without the rebinding statement is rejected -/
example : ¬ (∀ c, c ∈ [MutatorCall.mk "pdf.pdfWriter.writeFont" "" "sfnt.Subset" "sfnt" false ""] → c.privateCopy = true) := by
  decide

/-- **pool statelessness**: if every initialising statement after `Get` reads only fields assigned
before it and in the end every field is assigned, the object's state does not depend on what the
pool held -/
theorem pool_stateless {α : Type} (fields : List String) (ops : List (InitOp α))
    (hres : ∀ op, op ∈ ops → op.Respects) (hreads : readsAssigned fields ops [])
    (hall : ∀ f, f ∈ fields → f ∈ assignedAfter fields ops []) :
    ∀ (stale stale' : String → α) f, f ∈ fields → runInit ops stale f = runInit ops stale' f :=
  fun stale stale' f hf =>
    runInit_agree fields ops [] stale stale' hres hreads (fun g hg => by cases hg) f (hall f hf)

/-- every extracted Get site assigns every field of the pooled struct before the object is used -/
theorem pool_sites_stateless : ∀ g, g ∈ getSites → g.stateless = true :=
  getSites_evaluated.2.1

/-- the Get sites cover all three pools, the struct field lists are the declared ones, and the field
`traced` added to SweepPoint by the hole-orientation fix is initialised at every SweepPoint site -/
theorem pool_sites_cover :
    (∀ p, p ∈ ["canvas.boPointPool", "canvas.boNodePool", "canvas.boSquarePool"] →
      ∃ g, g ∈ getSites ∧ g.pool = p) ∧
    (∀ g, g ∈ getSites → pooledStructs.lookup g.typ = some g.fields) ∧
    (∀ g, g ∈ getSites → g.typ = "SweepPoint" → "traced" ∈ g.assigned) ∧
    (∀ g, g ∈ getSites → g.typ = "SweepNode" → g.fields.length = 5) :=
  getSites_evaluated.2.2

/-- instantiation: at every extracted Get site, any initialising statement list that assigns (at
least) the extracted set and reads only assigned fields yields a state independent of the pool -/
theorem pool_sites_deterministic {α : Type} (g : GetSite) (hg : g ∈ getSites) (ops : List (InitOp α))
    (hres : ∀ op, op ∈ ops → op.Respects) (hreads : readsAssigned g.fields ops [])
    (hext : ∀ f, f ∈ g.assigned → f ∈ assignedAfter g.fields ops []) :
    ∀ (stale stale' : String → α) f, f ∈ g.fields → runInit ops stale f = runInit ops stale' f :=
  pool_stateless g.fields ops hres hreads
    fun f hf => hext f (GetSite.assigned_of_stateless (pool_sites_stateless g hg) f hf)

/-- **release discipline**: every `Put` of the sweep-line pools lies in the release tail of its
function — the trailing statements that do nothing but Put, after the sweep loop and after the
result-tracing loop of bentleyOttmann — so no statement of the function can use an object after it
went back to a pool. No Put is inside the sweep loop or the tracing loop. -/
theorem pool_puts_in_release_tail :
    (∀ p, p ∈ putSites → p.inTail = true) ∧
    (∀ p, p ∈ putSites → p.pool = "canvas.boPointPool" ∨ p.pool = "canvas.boSquarePool" → p.fn = "bentleyOttmann") ∧
    (∀ p, p ∈ putSites → "for 0 < len(*queue)" ∉ p.loops) ∧
    (∀ q, q ∈ ["canvas.boPointPool", "canvas.boNodePool", "canvas.boSquarePool"] → ∃ p, p ∈ putSites ∧ p.pool = q) := by
  decide +kernel

-- `pool_sites_*` and `pool_puts_in_release_tail` above rest on the extractor's own judgement
-- (`GetSite.assigned`, `PutSite.inTail`); from here on the verdicts `initOk`, `tailOk` are computed in
-- Lean over the raw statement sequences the extractor emits.

/-- **Get protocol**: at every `pool.Get()` site of the current source, the statement sequence that
follows never reads a field of the object before assigning it, never uses the object as a whole
before all fields are assigned, and has assigned every field of the struct (as declared today) when
the object is first published. A new struct field or a dropped assignment falsifies this. -/
theorem get_protocol_table : ∀ g, g ∈ getSites → initOk g.fields g.steps [] = true :=
  getSites_evaluated.1

/-- consequently, for ANY meaning of the right-hand sides that depends on the object only through the
fields the statements read, the object's state after the sequence is independent of what the pool
held — at every extracted Get site -/
theorem get_protocol_stateless {α : Type} (g : GetSite) (hg : g ∈ getSites)
    (sem : InitStep → String → (String → α) → α) (hs : SemRespects g.fields sem) :
    ∀ (stale stale' : String → α) f, f ∈ g.fields →
      runInit (toOps g.fields sem g.steps) stale f = runInit (toOps g.fields sem g.steps) stale' f :=
  initOk_stateless g.fields g.steps (get_protocol_table g hg) sem hs

/-- the general statement behind it (all field lists, all statement sequences) -/
theorem get_protocol_sound {α : Type} (fields : List String) (steps : List InitStep)
    (h : initOk fields steps [] = true) (sem : InitStep → String → (String → α) → α)
    (hs : SemRespects fields sem) (stale stale' : String → α) (f : String) (hf : f ∈ fields) :
    runInit (toOps fields sem steps) stale f = runInit (toOps fields sem steps) stale' f :=
  initOk_stateless fields steps h sem hs stale stale' f hf

/-- the Lean-side computation of the assigned set agrees with the extractor's own scan -/
theorem get_protocol_agrees_with_extractor :
    ∀ g, g ∈ getSites → ∀ f, f ∈ g.fields →
      (assignedBy g.fields g.steps []).contains f = g.assigned.contains f := by
  -- both sides are `true`: the verdict and the extractor's scan each say that every field is assigned
  intro g hg f hf
  rw [List.all_eq_true.mp (initOk_assigns g.fields g.steps [] (get_protocol_table g hg)) f hf,
    List.contains_iff_mem.mpr (GetSite.assigned_of_stateless (pool_sites_stateless g hg) f hf)]

/-- the verdict is not vacuous: newNode without `n.height = 1` is rejected, and so is a statement
that reads a field before it is assigned -/
example : initOk ["parent", "left", "right", "height", "SweepPoint"]
    [⟨"", .set "parent", [], false⟩, ⟨"", .set "left", [], false⟩, ⟨"", .set "right", [], false⟩,
     ⟨"", .set "SweepPoint", [], false⟩, ⟨"", .use, ["SweepPoint"], true⟩] [] = false := by decide +kernel
example : initOk ["a", "b"] [⟨"", .set "a", ["b"], false⟩, ⟨"", .set "b", [], false⟩, ⟨"", .use, [], true⟩] [] = false := by
  decide +kernel

/-- soundness of the driver's verdict on a junk-pool observation: `ok` means the compiled struct has
exactly the extracted fields, no field differed between the two junk fillings, and the model accepts
the site -/
theorem get_verdict_sound (g : GetSite) (typ : String) (obs : List (String × Bool))
    (h : getObsVerdict g typ obs = .ok) :
    g.typ = typ ∧ obs.map (·.1) = g.fields ∧ (∀ p, p ∈ obs → p.2 = false) ∧ initOk g.fields g.steps [] = true := by
  unfold getObsVerdict at h
  by_cases h1 : (g.typ != typ || obs.map (·.1) != g.fields) = true
  · rw [if_pos h1] at h; cases h
  rw [if_neg h1] at h
  simp only [Bool.or_eq_true, bne_iff_ne, ne_eq, not_or, Decidable.not_not] at h1
  cases hf : obs.find? (·.2) with
  | some p =>
    obtain ⟨f, b⟩ := p
    rw [hf] at h
    by_cases hi : initOk g.fields g.steps [] = true <;> simp [hi] at h
  | none =>
    rw [hf] at h
    by_cases hi : initOk g.fields g.steps [] = true
    · exact ⟨h1.1, h1.2, fun p hp => by simpa using List.find?_eq_none.mp hf p hp, hi⟩
    · simp [hi] at h

/-- **Put protocol**: in every function of the current source that returns objects to a pool, no
statement other than Put-only statements (and the final return) follows the first Put-only
statement -/
theorem put_protocol_table :
    (∀ p, p ∈ putFuncs → tailOk (p.stmts.map (·.2)) = true) ∧
    (∀ s, s ∈ putSites → ∃ p, p ∈ putFuncs ∧ p.fn = s.fn) := by
  decide +kernel

/-- consequently every event sequence such a function body can produce (any number of loop
iterations, any objects) has, after its first `put`, only puts and guards of release statements: no
object is fetched or used after anything was released. (Guards — `if !event.left` — read the object
that is about to be put; that they never read an object put by an EARLIER iteration is not
derivable from the syntax and is covered by the race-detector runs only.) -/
theorem put_protocol_safe (p : PutFunc) (hp : p ∈ putFuncs) (tr : List PEv)
    (hg : Gen (p.stmts.map (·.2)) tr) (a b : List PEv) (id : Nat) (h : tr = a ++ PEv.put id :: b) :
    ∀ e, e ∈ b → e.isRelease = true :=
  tailOk_sound _ tr (put_protocol_table.1 p hp) hg a b id h

/-- the same for every statement list that `tailOk` accepts -/
theorem put_protocol_sound (ks : List StmtKind) (tr : List PEv) (hk : tailOk ks = true) (hg : Gen ks tr)
    (a b : List PEv) (id : Nat) (h : tr = a ++ PEv.put id :: b) : ∀ e, e ∈ b → e.isRelease = true :=
  tailOk_sound ks tr hk hg a b id h

/-- non-vacuity: a body `other; release` produces real traces with uses before and puts after, and
the early-release shape `release; other` is rejected and does produce a use after a put -/
example : Gen [.other, .release] [.get 1, .use 1, .guard 1, .put 1] :=
  Gen.other (seg := [.get 1, .use 1]) (by intro e he; simp at he; rcases he with rfl | rfl <;> exact ⟨rfl, rfl⟩)
    (Gen.release (seg := [.guard 1, .put 1]) (by intro e he; simp at he; rcases he with rfl | rfl <;> rfl) Gen.nil)
example : tailOk [.release, .other] = false := by decide
example : Gen [.release, .other] [.put 1, .use 1] :=
  Gen.release (seg := [.put 1]) (by intro e he; simp at he; subst he; rfl)
    (Gen.other (seg := [.use 1]) (by intro e he; simp at he; subst he; exact ⟨rfl, rfl⟩) Gen.nil)

/-- why a double Put matters (model): an object put twice is still in the pool after it has been
handed out once — the next Get can hand the same object to a second owner -/
theorem double_put_hands_out_twice (pool : List Nat) (id : Nat) :
    id ∈ poolAfter [PEv.put id, PEv.put id, PEv.get id] pool := by
  simp [poolAfter]

/-- **deferred releases** (the `removed` list of bentleyOttmann): every site that puts objects on a
list released at the end of the function is followed, in an enclosing block of the same pass, by a
re-slicing deletion from the container the objects came from (`square.Events = append(square.Events[:i-del], …)`
/ `square.Events[:len-del]`), and it puts exactly the pair `event.other, event` of a right end point.
So the final loops release disjoint sets PROVIDED every end point occurs in one square only and once
— that part is not syntactic; it is audited on the running code (VerifC20PutAudit: every object a
call returned to the pools is drained again and must come out once; kind pool:double-put). -/
theorem deferred_releases_deleted_from_container :
    (∀ d, d ∈ deferredReleases → d.deleted = true ∧ d.args = ["event.other", "event"] ∧ d.fn = "bentleyOttmann") ∧
    deferredReleases.length = 2 := by
  decide +kernel

/-- the ownership hypothesis of `lockset_drf` (fields of a pooled object are accessed only between
its Get and its Put, `Prot.guarded (Tok.obj p v)`) matters: in the MODEL, an object that is still
read after it was Put races with the initialisation by the next thread that Gets it, in a
well-formed trace (this is why `pool_puts_in_release_tail` is an obligation on the code) -/
theorem use_after_put_races :
    WF useAfterPut ∧ Race (fun _ => []) useAfterPut 3 4 "f" ∧
    ¬ ObeysAt (fun _ => []) (.guarded (.obj "p" 1)) useAfterPut "f" := by
  have wf : WF useAfterPut := wfB_sound (by decide)
  have race : Race (fun _ => []) useAfterPut 3 4 "f" := by
    refine ⟨by decide, by decide, .inl (.inl ⟨1, rfl⟩), .inr (.inl ⟨0, rfl⟩), .inl (.inl ⟨1, rfl⟩),
      (fun ⟨⟨_, h⟩, _⟩ => nomatch h), fun h => ?_⟩
    -- goroutine 1 only takes and writes: nothing it does is ordered before an event of goroutine 0
    cases hb_stays_in_thread 1 (by decide) h rfl
  exact ⟨wf, race, fun ob => lockset_drf_at _ _ _ wf "f" ob 3 4 race⟩

/-- with ownership respected the same hand-over is race free: Put → Get orders the accesses -/
example : ∀ i j, ¬ Race (fun _ => [])
    [(0, Ev.poolGet "p" 1), (0, Ev.write "f"), (0, Ev.poolPut "p" 1), (1, Ev.poolGet "p" 1), (1, Ev.write "f")] i j "f" :=
  lockset_drf_at _ (.guarded (.obj "p" 1)) _ (wfB_sound (by decide)) "f"
    (obeysB_sound (fun _ h => nomatch h) (by decide))

/-- the read-before-assign hypothesis matters: a statement that reads a stale field leaks it -/
example : ∃ (ops : List (InitOp Nat)) (s s' : String → Nat),
    (∀ op, op ∈ ops → op.Respects) ∧ runInit ops s "a" ≠ runInit ops s' "a" :=
  ⟨[{ all := false, f := "a", deps := ["b"], val := fun _ s => s "b" }], fun _ => 0, fun _ => 1,
   by intro op h; simp at h; subst h; intro g s s' hd; exact hd "b" (by simp), by simp [runInit, InitOp.run]⟩

end C20
