import CanvasProofs.Lemmas.C16Items
import CanvasProofs.Lemmas.C16Slice
import CanvasProofs.Lemmas.C16Reorder
import CanvasProofs.Lemmas.C16Tiles
import CanvasProofs.Lemmas.C16ReorderFix
import CanvasProofs.Lemmas.C16Itemize
import CanvasProofs.Lemmas.C16Arith
import CanvasProofs.Lemmas.C16Stack
import CanvasProofs.Lemmas.C16GlueSum
import CanvasProofs.Lemmas.C16Conserve
import Mathlib.Tactic.Linarith.Frontend
import Mathlib.Tactic.NormNum
/-!
# C16 — text layout places every character once, inside the box, on ordered lines

Theorems about the hand-written models in `CanvasModel/C16.lean`, `CanvasModel/C16/Glue.lean` and
`CanvasModel/C16/Stack.lean` (tied to /repo by the line-protocol correspondence of `Drv/C16.lean`
against the real functions on every run). Shaping, bidi level assignment and font metrics are not
modelled.
-/
set_option linter.unusedSectionVars false
namespace C16
open Canvas.C16

/-- for every alignment, indent, glyph-class list and advance the item sizes add up to the number of
glyphs (CR LF counts two: the LF is added to the penalty of the CR) -/
theorem sizes_cover_glyphs (al : Align) (indent : Float) (gs : List G) :
    sizes (toItems al indent gs) = gs.length := by
  unfold toItems
  split
  · rename_i h
    rw [List.isEmpty_iff.mp h]
    rfl
  · extract_lets sw arr lead first after trail mid s0 b0 s1 s2 s3 b4 s4
    -- leading spaces sit in the first box, trailing ones in the last, the loop counts the rest
    have e1 : s1.total = first := by
      by_cases h : first = 0
      · simp only [s1, h, ne_eq, not_true, if_false]; rfl
      · simp only [s1, h, ne_eq, not_false_eq_true, if_true, total_push, total_mk, mkPen_size, sizes, Nat.add_zero]
    have e2 : s2.total = s1.total := by
      simp only [s2, apply_ite St.total, total_push, mkGlue_size, Nat.add_zero, ite_self]
    have e3 : s3.total = s2.total + mid.length := loop_total al sw arr mid first s2
    have e4 : s4.total = s3.total + trail.length := by
      by_cases h : trail.length = 0
      · simp only [s4, h, ne_eq, not_true, if_false, Nat.add_zero]
      · simp only [s4, h, ne_eq, not_false_eq_true, if_true, total_push]
    have h1 : first ≤ gs.length := (List.takeWhile_sublist isSp).length_le
    have h2 : trail.length ≤ after.length := by
      simpa using (List.takeWhile_sublist isSp (l := after.reverse)).length_le
    have hm : mid.length = after.length - trail.length := by simp [mid]
    have ha : after.length = gs.length - first := List.length_drop
    rw [toList_sizes, finish_total, e4, e3, e2, e1]
    omega

def gch : G := ⟨.ch, false, false, 0, 1.0, 0.0⟩
def gshy : G := ⟨.shy, false, false, 0, 0.0, 1.0⟩

example : sizes (toItems .centered 0.0 [gch, gshy, gch]) = 3 := by decide

/-- whenever the slicing does not panic: one line per break, the lines are ordered and disjoint
(`start ≤ stop ≤ next start`), end before the final glyph index, and the glyph index stays in step
with the item index (`ag = Σ sizes of the items consumed`) -/
theorem slices_ordered (shy : Nat → Bool) (n : Nat) (items : List It) (ps : List Nat) (r : SliceOut)
    (h : slice shy n 0 items 0 ps = some r) :
    chain 0 r.lines ∧ (∀ l ∈ r.lines, l.stop ≤ r.ag) ∧ r.lines.length = ps.length ∧
    r.used ≤ items.length ∧ r.ag = isz (items.take r.used) := by
  simpa using slice_ordered h

/-- for legal breakpoints (never at a box) every box item that was consumed lies with its whole glyph
range inside one line: only glyphs of glue and penalties at line edges are dropped -/
theorem slices_cover_boxes (shy : Nat → Bool) (n : Nat) (items : List It) (ps : List Nat) (r : SliceOut)
    (h : slice shy n 0 items 0 ps = some r)
    (hlegal : ∀ p ∈ ps, ∀ it, items[p]? = some it → it.ty ≠ .box) :
    ∀ os ∈ boxesOf 0 (items.take r.used), ∃ l ∈ r.lines, l.start ≤ os.1 ∧ os.1 + os.2 ≤ l.stop :=
  slice_covers h rfl hlegal

/-- one line: it consumes the break item, so the last line of a paragraph ending in the final forced
break consumes every item -/
theorem slice_line_consumes_break (shy : Nat → Bool) (n : Nat) (rest : List It) (k ag : Nat) (o : LineOut)
    (h : sliceLine shy n rest k ag = some o) :
    k + 1 ≤ o.used ∧ o.used ≤ rest.length ∧ o.ag' = ag + isz (rest.take o.used) :=
  (sliceLine_bounds h).2.2.2

/-- a soft hyphen at the break is always the last glyph shown (and it is the break glyph) -/
theorem hyphen_shown (shy : Nat → Bool) (n : Nat) (rest : List It) (k ag : Nat) (o : LineOut)
    (h : sliceLine shy n rest k ag = some o) (hy : o.line.hyph = true) :
    o.line.stop = o.line.hpos + 1 ∧ shy o.line.hpos = true :=
  by
  obtain ⟨_, _, _, _, _, -, -, parts⟩ := sliceLine_spec h
  exact parts.shown hy

example : ∃ o, sliceLine (fun g => g == 1) 2 [⟨.box, 1⟩, ⟨.pen, 1⟩] 1 0 = some o ∧ o.line.hyph = true ∧
    o.line.stop = 2 := ⟨_, rfl, rfl, rfl⟩

/-- `Box Glue(1 glyph) Penalty(U+00AD)` broken at the penalty shows glyphs [0,3): space and hyphen -/
example : (slice (fun g => g == 2) 3 0 [⟨.box, 1⟩, ⟨.glue, 1⟩, ⟨.pen, 1⟩] 0 [2]).map (·.lines)
    = some [⟨0, 3, true, 2⟩] := by decide

/-- for all inputs: reorderSpans keeps the spans, their logical order, levels and widths (only X changes) -/
theorem reorder_keeps_spans {α : Type} [Add α] [Sub α] [LT α] [∀ a b : α, Decidable (a < b)] (l : List (Span α)) :
    (reorder l).map (fun s => (s.level, s.w)) = l.map (fun s => (s.level, s.w)) :=
  fixGo_map _ (fun _ _ _ => rfl) _ _ l

/-- for ALL embedding levels: from spans laid out contiguously (non-negative widths) the output is a
rearrangement (`List.Perm`) of spans laid contiguously from the same start — no overlap, no hole; the
widths are those of the input by `reorder_keeps_spans` -/
theorem reorder_perm (x0 : Int) (l : List (Span Int)) (hc : Contig x0 l) (hw : ∀ s ∈ l, 0 ≤ s.w) :
    Tiles x0 (reorder l) :=
  Fix.fixGo_tiles _ 0 l x0 ⟨Or.inl hc, hw⟩

example : Contig (0 : Int) [⟨2, 0, 3⟩, ⟨2, 3, 4⟩, ⟨1, 7, 5⟩] ∧ ∀ s ∈ [(⟨2, 0, 3⟩ : Span Int), ⟨2, 3, 4⟩, ⟨1, 7, 5⟩], 0 ≤ s.w := by
  simp [Contig]

/-- rule L2 on the inputs the unrepaired code got wrong: levels 2 2 1 → visual order c a b;
1 2 3 3 2 1 → f b d c e a; 0 2 1 0 → a c b d -/
example : (reorder [(⟨2, 0, 3⟩ : Span Int), ⟨2, 3, 4⟩, ⟨1, 7, 5⟩]).map (·.x) = [5, 8, 0] := by decide
example : (reorder [(⟨1, 0, 1⟩ : Span Int), ⟨2, 1, 1⟩, ⟨3, 2, 1⟩, ⟨3, 3, 1⟩, ⟨2, 4, 1⟩, ⟨1, 5, 1⟩]).map (·.x) = [5, 1, 3, 2, 4, 0] := by decide
example : (reorder [(⟨0, 0, 1⟩ : Span Int), ⟨2, 1, 2⟩, ⟨1, 3, 1⟩, ⟨0, 4, 1⟩]).map (·.x) = [0, 2, 1, 4] := by decide

/-- the item texts concatenate to the input, for every rune and level sequence -/
theorem itemizer_partitions (rs : List R) : ((itemize rs).map (·.text)).flatten = rs :=
  match rs with
  | [] => rfl
  | r :: rs => by simpa [itemize] using sloop_flatten [2] false false [] [] (r :: rs)

theorem itemizer_no_empty_item (rs : List R) : ∀ it ∈ itemize rs, it.text ≠ [] :=
  match rs with
  | [] => by simp [itemize]
  | r :: rs => sloop_nonempty [2] false false [] [] (r :: rs) (by simp) (by simp)

/-- indexer.index: number of leading starts ≤ loc, minus one -/
theorem indexer_spec (ix : List Int) (loc : Int) :
    indexOf ix loc = (ix.takeWhile (fun s => decide (s ≤ loc))).length - 1 :=
  by simpa [indexOf] using indexGo_spec loc 0 ix

/-! ## horizontal placement: `alignLine` (tied to ToText by the `AL` lines) -/
variable {K : Type} [Field K] [LinearOrder K] [IsStrictOrderedRing K]

/-- left-aligned and justified lines: the spans follow each other from the indent (first line) / from 0 -/
theorem align_left (width indent : K) (first : Bool) (ws : List K) :
    Follows (ind indent first) (alignLine HAlign.left width indent first ws) ws (ind indent first + ws.sum) :=
  by simpa [alignLine_eq] using layoutFrom_shift 0 ws (ind indent first)

theorem align_justify_start (width indent : K) (first : Bool) (ws : List K) :
    Follows (ind indent first) (alignLine HAlign.justify width indent first ws) ws (ind indent first + ws.sum) :=
  by simpa [alignLine_eq] using layoutFrom_shift 0 ws (ind indent first)

/-- right-aligned lines: the spans follow each other and end at the box width, for every list of widths -/
theorem align_right (width indent : K) (first : Bool) (ws : List K) :
    Follows (width - ws.sum) (alignLine HAlign.right width indent first ws) ws width :=
  by
  rw [alignLine_eq]
  convert layoutFrom_shift (width - (ind indent first + ws.sum)) ws (ind indent first) using 1 <;> ring

/-- centred lines are centred between the indent (first line) and the width -/
theorem align_center (width indent : K) (first : Bool) (ws : List K) :
    ∃ a b, Follows a (alignLine HAlign.center width indent first ws) ws b ∧ b - a = ws.sum ∧
      (a + b) / 2 = (ind indent first + width) / 2 :=
  by
  rw [alignLine_eq]
  exact ⟨_, _, layoutFrom_shift ((width - (ind indent first + ws.sum)) / 2) ws (ind indent first), by ring, by ring⟩

/-! ### glue adjustment: `adjustLine` (tied by the `GA` lines; exact arithmetic, rounding to font units outside) -/

/-- a stretched line is its natural width plus ratio · (sum of the glue stretch), whatever the items are,
provided the glyphs of every glue item add up to its positive width and those of penalties to 0 -/
theorem glue_stretch_sum (ratio : K) (hr : 0 < ratio) (items : List (GItem K)) (gs : List K) (hf : Fits items gs) :
    (adjustLine noInf idealInc (fun r => decide (r = 0)) ratio items gs).sum
      = (gs.take (totSize items)).sum + ratio * glueY items :=
  by rw [adjustLine_sum ratio items gs hf, runAdv_noInf, if_pos hr]

theorem glue_shrink_sum (ratio : K) (hr : ratio < 0) (items : List (GItem K)) (gs : List K) (hf : Fits items gs) :
    (adjustLine noInf idealInc (fun r => decide (r = 0)) ratio items gs).sum
      = (gs.take (totSize items)).sum + ratio * glueZ items :=
  by rw [adjustLine_sum ratio items gs hf, runAdv_noInf, if_neg (lt_asymm hr), if_pos hr]

/-- the arithmetic of `justified_line_ends_at_width`: natural width + ratio · stretch = width for the breaker's ratio -/
theorem align_justified_width (natural stretch width : K) (hs : stretch ≠ 0) :
    natural + (width - natural) / stretch * stretch = width := by
  rw [div_mul_cancel₀ _ hs, add_sub_cancel]

/-- sum of the span widths + distributed glue = box width -/
theorem justified_line_ends_at_width (width : K) (items : List (GItem K)) (gs : List K) (hf : Fits items gs)
    (hy : 0 < glueY items) (hshort : (gs.take (totSize items)).sum < width) :
    (adjustLine noInf idealInc (fun r => decide (r = 0)) ((width - (gs.take (totSize items)).sum) / glueY items) items gs).sum = width :=
  by rw [glue_stretch_sum _ (div_pos (sub_pos.mpr hshort) hy) items gs hf, align_justified_width _ _ _ hy.ne']

example : Fits (K := Rat) [⟨.box, 2, 7, 0, 0⟩, ⟨.glue, 1, 3, 2, 1⟩, ⟨.pen, 1, 0, 0, 0⟩, ⟨.box, 1, 5, 0, 0⟩] [4, 3, 3, 0, 5] ∧
    0 < glueY (K := Rat) [⟨.box, 2, 7, 0, 0⟩, ⟨.glue, 1, 3, 2, 1⟩, ⟨.pen, 1, 0, 0, 0⟩, ⟨.box, 1, 5, 0, 0⟩] := by
  simp [Fits, glueY]

/-! ## line stacking: `stackFit` / `stackLines` (tied by the `ST` lines), Text.Bounds (`BD` lines) -/

/-- consecutive baselines are exactly bottom·spacing of the upper + ascent·spacing of the lower line apart -/
theorem lines_gap (ls height : K) (lines : List (LM K)) (first : Bool) (y : K) :
    Gapped ls (stackFit ls height first y lines).1 lines := by
  fun_induction stackFit ls height first y lines with
  | case1 | case2 => simp [Gapped]
  | case3 first y l r a b h q ih =>
    refine (gapped_cons ..).mpr ⟨fun y2 hy2 l2 hl2 => ?_, ih⟩
    obtain ⟨r', rfl⟩ := List.head?_eq_some_iff.mp hl2
    rw [fit_first ls height l2 r' false _ (fun h => by rw [h] at hy2; cases hy2)] at hy2
    obtain rfl := Option.some.inj hy2
    simp only [Bool.false_eq_true, if_false, b]
    ring

/-- no more baselines than lines; `lines_gap` pairs them in order, so the lines kept are a prefix of the
lines asked for -/
theorem lines_kept_prefix (ls height : K) (lines : List (LM K)) (first : Bool) (y : K) :
    (stackFit ls height first y lines).1.length ≤ lines.length := by
  fun_induction stackFit ls height first y lines with
  | case1 | case2 => simp
  | case3 _ _ _ _ _ _ _ _ ih => simpa using ih

/-- box height 0 stands for no box: every line is kept -/
theorem lines_all_kept_unbounded (ls : K) (lines : List (LM K)) (first : Bool) (y : K) :
    (stackFit ls 0 first y lines).1.length = lines.length := by
  fun_induction stackFit ls 0 first y lines with
  | case1 => rfl
  | case2 _ _ _ _ _ h => simp at h
  | case3 _ _ _ _ _ _ _ _ ih => simpa using ih

/-- lines are stacked monotonically, for every list of lines, box height and start -/
theorem lines_monotone (ls height : K) (h0 : 0 ≤ ls) (lines : List (LM K)) (hn : ∀ l ∈ lines, 0 ≤ l.asc ∧ 0 ≤ l.bot)
    (first : Bool) (y : K) : (stackFit ls height first y lines).1.Pairwise (· ≤ ·) := by
  -- the gaps between the baselines are sums of non-negative ascents and bottoms
  have hgap := gapped_pairwise h0 _ _ hn (lines_gap ls height lines first y)
  rw [← List.map_fst_zip (lines_kept_prefix ls height lines first y)]
  refine List.Pairwise.map _ (fun _ _ h => h) (hgap.imp_of_mem fun {p q} hp hq h => ?_)
  have h1 := mul_nonneg (hn _ (List.of_mem_zip hp).2).2 h0
  have h2 := mul_nonneg (hn _ (List.of_mem_zip hq).2).1 h0
  exact sub_nonneg.mp ((add_nonneg h1 h2).trans h)

/-- with a spacing ≥ 1 no two lines overlap vertically (first line against every later one; apply to suffixes) -/
theorem lines_disjoint (ls : K) (h1 : 1 ≤ ls) (ys : List K) (lines : List (LM K))
    (hn : ∀ l ∈ lines, 0 ≤ l.asc ∧ 0 ≤ l.desc ∧ l.desc ≤ l.bot) (hlen : ys.length ≤ lines.length) (hg : Gapped ls ys lines)
    (y1 : K) (l1 : LM K) (hh : (ys.zip lines).head? = some (y1, l1)) :
    ∀ p ∈ (ys.zip lines).tail, y1 ≤ p.1 - p.2.asc ∧ y1 + l1.desc ≤ p.1 :=
  match ys, lines, hh with
  | _ :: ys, _ :: lines, rfl => by
    intro p hp
    have hn' : ∀ l ∈ l1 :: lines, 0 ≤ l.asc ∧ 0 ≤ l.bot := fun l hl => ⟨(hn l hl).1, (hn l hl).2.1.trans (hn l hl).2.2⟩
    have hfar := (List.pairwise_cons.mp (gapped_pairwise (zero_le_one.trans h1) _ _ hn' hg)).1 p hp
    have hp2 := hn' p.2 (List.mem_cons_of_mem _ (List.of_mem_zip hp).2)
    have hl1 := hn' l1 List.mem_cons_self
    -- a spacing ≥ 1 only widens the gap `bot + asc` between the two baselines
    have ha := le_mul_of_one_le_right hp2.1 h1
    have hb := le_mul_of_one_le_right hl1.2 h1
    exact ⟨by linarith, by linarith [(hn l1 List.mem_cons_self).2.2]⟩

/-- every line kept lies inside the box height -/
theorem lines_inside_box (ls height : K) (hh : height ≠ 0) (lines : List (LM K)) (first : Bool) (y : K) (j : Nat) (v : K) (l : LM K)
    (hv : (stackFit ls height first y lines).1[j]? = some v) (hl : lines[j]? = some l) : v + l.desc ≤ height := by
  revert j v l
  fun_induction stackFit ls height first y lines with
  | case1 | case2 => simp
  | case3 first y l r a b h q ih =>
    intro j v l' hv hl
    cases j with
    | zero =>
      simp only [List.getElem?_cons_zero, Option.some.injEq] at hv hl
      subst hv hl
      simpa [hh] using h
    | succ j => exact ih j v l' hv hl

/-- vertical alignment Bottom: the last line's descent touches the bottom of the box -/
theorem valign_bottom_touches (cast : Nat → K) (ls height : K) (lines : List (LM K)) (v : K) (l : LM K)
    (hv : (stackFit ls height true 0 lines).1.getLast? = some v)
    (hl : (lines.take (stackFit ls height true 0 lines).1.length).getLast? = some l) (he : l.empty = false) :
    ∃ w, (stackLines cast ls height .bottom lines).ys.getLast? = some w ∧ w + l.desc = height :=
  ⟨v + (height - (v + l.desc)), by
    rw [stackLines_ys, stackLines_total hv hl he]
    simp only [List.getLast?_map, hv, Option.map_some], by ring⟩

/-- vertical alignment Center: equal margins above the first and below the last line -/
theorem valign_center_margins (cast : Nat → K) (ls height : K) (lines : List (LM K)) (v : K) (l l0 : LM K)
    (hv : (stackFit ls height true 0 lines).1.getLast? = some v)
    (hl : (lines.take (stackFit ls height true 0 lines).1.length).getLast? = some l) (he : l.empty = false)
    (h0 : lines.head? = some l0) :
    ∃ f w, (stackLines cast ls height .center lines).ys.head? = some f ∧
      (stackLines cast ls height .center lines).ys.getLast? = some w ∧ f - l0.asc = height - (w + l.desc) :=
  by
  obtain ⟨r, rfl⟩ := List.head?_eq_some_iff.mp h0
  have hf := fit_first ls height l0 r true 0 (fun h => by rw [h] at hv; cases hv)
  rw [stackLines_ys, stackLines_total hv hl he]
  refine ⟨_, _, by simp only [List.head?_map, hf, Option.map_some]; rfl,
    by simp only [List.getLast?_map, hv, Option.map_some]; rfl, ?_⟩
  rw [if_pos trivial]; ring

/-- vertical alignment Justify: first line stays, last line touches the bottom (two lines or more) -/
theorem valign_justify_fills (ls height : K) (lines : List (LM K)) (v : K) (l : LM K)
    (hv : (stackFit ls height true 0 lines).1.getLast? = some v)
    (hl : (lines.take (stackFit ls height true 0 lines).1.length).getLast? = some l) (he : l.empty = false)
    (h2 : 2 ≤ (stackFit ls height true 0 lines).1.length) :
    (stackLines (fun n => (n : K)) ls height .justify lines).ys.head? = (stackFit ls height true 0 lines).1.head? ∧
    ∃ w, (stackLines (fun n => (n : K)) ls height .justify lines).ys.getLast? = some w ∧ w + l.desc = height :=
  by
  rw [stackLines_ys, stackLines_total hv hl he]
  refine ⟨?_, _, spread_getLast _ _ _ _ hv, ?_⟩
  · rw [spread_head]; cases (stackFit ls height true 0 lines).1.head? <;> simp
  · have hn : (((stackFit ls height true 0 lines).1.length - 1 : Nat) : K) ≠ 0 := Nat.cast_ne_zero.mpr (by omega)
    rw [zero_add, mul_div_cancel₀ _ hn]; ring

example : (stackFit (α := Int) 1 0 true 0 [⟨3, 1, 2, false⟩, ⟨3, 1, 2, false⟩]).1 = [3, 8] := by decide

/-- the hypotheses of the vertical alignment theorems hold for two ordinary lines in a box of height 20 -/
example : (stackFit (α := ℚ) 1 20 true 0 [⟨3, 1, 2, false⟩, ⟨3, 1, 2, false⟩]).1.getLast? = some 8 ∧
    ([(⟨3, 1, 2, false⟩ : LM ℚ), ⟨3, 1, 2, false⟩].take (stackFit (α := ℚ) 1 20 true 0 [⟨3, 1, 2, false⟩, ⟨3, 1, 2, false⟩]).1.length).getLast?.map (·.empty) = some false ∧
    2 ≤ (stackFit (α := ℚ) 1 20 true 0 [⟨3, 1, 2, false⟩, ⟨3, 1, 2, false⟩]).1.length := by
  norm_num [stackFit]

/-- Text.Bounds contains the rectangle of every span -/
theorem bounds_enclose_spans (rs : List (R4 K)) : ∀ r ∈ rs,
    (boundsOf min max rs).x0 ≤ r.x0 ∧ (boundsOf min max rs).y0 ≤ r.y0 ∧ r.x1 ≤ (boundsOf min max rs).x1 ∧ r.y1 ≤ (boundsOf min max rs).y1 :=
  (boundsFold_encloses rs ⟨0, 0, 0, 0⟩).2

/-! ## character conservation: soundness of the verdict `conserve` the check applies to every laid-out text -/

/-- verdict ok ⇒ every rune that is not white space, a line separator or an optional break lies in
exactly one span -/
theorem conserve_ok_exactly_once (cls : List RC) (lines : List (List (Nat × Nat))) (h : conserve cls lines = .ok) :
    ∀ i c, cls[i]? = some c → c.droppable = false → cover lines.flatten i = 1 :=
  fun i c hc hd => (conserveGo_sound cls lines 0 0 true h i).2.2 (Nat.zero_le _) c hc hd

/-- verdict ok ⇒ no rune at all lies in two spans -/
theorem conserve_ok_at_most_once (cls : List RC) (lines : List (List (Nat × Nat))) (h : conserve cls lines = .ok) :
    ∀ i, cover lines.flatten i ≤ 1 :=
  fun i => (conserveGo_sound cls lines 0 0 true h i).2.1

example : conserve [.ch, .ch, .sp, .ch, .lf, .ch] [[(0, 2)], [(3, 4)], [(5, 6)]] = .ok := by decide
example : conserve [.ch, .ch, .sp, .ch] [[(0, 2)], [(1, 4)]] ≠ .ok := by decide
example : conserve [.ch, .ch, .sp, .ch] [[(0, 1)], [(3, 4)]] ≠ .ok := by decide

end C16
