import CanvasModel.C11
import CanvasModel.C11.Builder
import CanvasProofs.Lemmas.C11Parse
import CanvasProofs.Lemmas.C11Interp
import CanvasProofs.Lemmas.C11Algebra
import CanvasGen.CoreK
import CanvasGen.BezierK
import CanvasProofs.Lemmas.C11Number
import CanvasModel.C11.Number
/-!
# C11 — textual path formats round-trip and parsers never panic

Part A (this section): the byte-level model of `ParseSVGPath` as repaired by commit 91dc4d7
(CanvasModel/C11.lean, tied to /repo by the P-line correspondence of every run).  `lex`, `num`, `B` are the number lexer, the coordinate
arithmetic and the path builder; the theorems hold for all of them, under the one hypothesis that the
lexer never reports more bytes than it was given (`LexBounded`, proved for the modelled lexer).
-/
set_option linter.unusedSectionVars false
namespace C11
open Canvas.C11 C11L

section parser
variable {α P : Type} (lex : List Nat → α × Nat) (num : Num α) (B : Builder α P)

/-- The property's sentence "ParseSVGPath returns a result or an error for every input string; it
never panics" — for every byte string, no exception. -/
theorem parse_total (hlex : LexBounded lex) (s : List Nat) : parseSVGPath lex num B s ≠ .panic :=
  ((safe_iff _).1 (parse_safe lex num B hlex s)).1

/-- Never loops: `len(path)+1` iterations of the main loop always suffice (every iteration consumes a
byte or returns), for every byte string. -/
theorem parse_never_out_of_fuel (hlex : LexBounded lex) (s : List Nat) :
    parseSVGPath lex num B s ≠ .fuel :=
  ((safe_iff _).1 (parse_safe lex num B hlex s)).2

/-- Whitespace/comma-only input not starting with a comma is the empty path, like `""`
(the class on which the parser before 91dc4d7 read `path[len(path)]`). -/
theorem parse_whitespace_only_is_empty (s : List Nat) (h : Defect s) :
    parseSVGPath lex num B s = .ok B.empty := by
  obtain ⟨b, t, rfl⟩ := List.exists_cons_of_ne_nil h.1
  rw [parseSVGPath_cons, if_neg (by simpa using h.2.1), if_pos h.2.2.ge]

/-- Commit 91dc4d7 changed the result of no input outside the whitespace-only class. -/
theorem repair_changes_nothing_else (s : List Nat) (h : ¬ Defect s) :
    parseSVGPath lex num B s = parseSVGPathBefore91dc4d7 lex num B s := by
  cases s with
  | nil => rfl
  | cons b t =>
    rw [parseSVGPath_cons, before91dc4d7_cons]
    split
    · rfl
    · rename_i hb
      exact if_neg fun hle => h ⟨by simp, by simpa using hb, Nat.le_antisymm (skipCW_le _) hle⟩

/-- The parser before 91dc4d7 panicked on the whitespace-only class and on nothing else (a statement
about the old definition: the regression's signature). -/
theorem before_91dc4d7_panicked_iff (hlex : LexBounded lex) (s : List Nat) :
    parseSVGPathBefore91dc4d7 lex num B s = .panic ↔ Defect s := by
  constructor
  · intro hp
    refine Decidable.byContradiction fun hd => parse_total lex num B hlex s ?_
    rw [repair_changes_nothing_else lex num B s hd, hp]
  · intro hd
    obtain ⟨b, t, rfl⟩ := List.exists_cons_of_ne_nil hd.1
    rw [before91dc4d7_cons, if_neg (by simpa using hd.2.1), parseFrom_panic lex num B hd.2.2.ge]

end parser

/-- The modelled number lexer (`strconv.ParseFloat` of tdewolff/parse: sign, digits with uint64
truncation, one dot, optional exponent through `ParseInt`) never reports more bytes than the slice. -/
theorem lexFloat_bounded : LexBounded lexFloat := C11L.lexFloat_bounded

/-- The executable instance compared with the real code on every run: total, no hypothesis left. -/
theorem parse_total_concrete (s : List Nat) :
    parseSVGPath lexFloat FB.floatNum FB.builder s ≠ .panic :=
  parse_total lexFloat FB.floatNum FB.builder lexFloat_bounded s


/-! ## Part B — token-level round trips: the specification interpreters invert the printers

`Cmd` lists are data arrays, `Seg`s what they draw (`segsFrom`).  Numerals are abstract values of
any type `α`: rounding to `Precision` digits and lexing are left to Part C (the verdict on every
numeral the real printers emit, the lexer model) and are judged on the real code by the round-trip
oracles and, for the byte-level parser, by Part A's correspondence. -/
section formats
variable {α : Type} [DecidableEq α] (add refl : α → α → α) (zero : α)

/-- the shape of a builder-made data array that the printers rely on (C10): it starts with a MoveTo,
every Close carries the coordinates of the last MoveTo, and a Close is followed by a MoveTo or ends
the path -/
def WellFormed (p : List (Cmd α)) : Prop :=
  (∃ x y cs, p = .move x y :: cs) ∧ closesOK (zero, zero) p = true ∧ moveAfterClose p = true

/-- ToSVG: interpreting the printed tokens (H/V shorthands, dropped null lines, radii swapped for
rotations of 90° and more, packed flags as flag tokens) gives back the path's segments, for an exact
equality test (`Equal` with Epsilon = 0). -/
theorem tosvg_interp (eq : α → α → Bool) (ge90 : α → Bool) (sub90 : α → α)
    (heq : ∀ a b, eq a b = true → a = b) (p : List (Cmd α)) (h : WellFormed zero p) :
    svgInterp add refl zero (toSVG eq ge90 sub90 (zero, zero) p) =
      some (svgExpected eq ge90 sub90 (zero, zero) p) := by
  unfold svgInterp
  exact svg_run_all add refl eq ge90 sub90 heq p (svgInit zero) rfl h.2.1 h.2.2 fun _ => .inr h.1

/-- Subpath structure survives ToSVG for every multi-subpath path, whatever its MoveTo targets
coincide with (the current point after an open subpath, the start of a closed one, earlier starts):
the decoded segments have the same MoveTo points in the same order and the same number of Closes —
no MoveTo is ever omitted or reused, no two subpaths fuse. -/
theorem tosvg_keeps_subpaths (eq : α → α → Bool) (ge90 : α → Bool) (sub90 : α → α)
    (heq : ∀ a b, eq a b = true → a = b) (p : List (Cmd α)) (h : WellFormed zero p) :
    ∃ segs, svgInterp add refl zero (toSVG eq ge90 sub90 (zero, zero) p) = some segs ∧
      segStarts segs = cmdStarts p ∧ segCloses segs = cmdCloses p :=
  ⟨_, tosvg_interp add refl zero eq ge90 sub90 heq p h, svgExpected_structure eq ge90 sub90 p (zero, zero)⟩

/-- String(): `interp (print p) = segments of p`, unconditionally (no shorthand is ever chosen). -/
theorem string_roundtrip (p : List (Cmd α)) (h : WellFormed zero p) :
    svgInterp add refl zero (toStr (zero, zero) p) = some (segsFrom (zero, zero) p) := by
  have := tosvg_interp add refl zero (fun _ _ => false) (fun _ => false) (fun r => r) (by simp) p h
  rw [svgExpected_plain] at this
  exact this

/-- ToPDF (after ReplaceArcs, so without arcs): `m l c h` decode to the path with every quadratic
replaced by the cubic of the 2/3 rule (`quad_elevation`: the same curve). -/
theorem topdf_interp (ip : α → α → α) (center : α × α → α → α → α → Bool → Bool → α → α → Center α)
    (p : List (Cmd α)) (h : WellFormed zero p) (hna : noArcs p = true) :
    opInterp (pdfOp add) zero (toPDF ip (zero, zero) p) = some (segsElev ip center (zero, zero) p) := by
  unfold opInterp
  exact pdf_run_all ip center add p (zero, zero) (zero, zero) [] hna h.2.1

/-- ToPS: `moveto lineto curveto closepath` and `ellipse` (sweep) / `ellipsen` (no sweep) decode to
the path with quadratics elevated and arcs in the centre form `ellipseToCenter` returned, counter-
clockwise exactly when the sweep flag is set — provided that centre form ends at the arc's end point
(trigonometry, judged numerically by the oracle). -/
theorem tops_interp (ip : α → α → α) (center : α × α → α → α → α → Bool → Bool → α → α → Center α)
    (arcEnd : α → α → α → α → α → α → α × α)
    (hend : ∀ cur rx ry phi l sw x y,
      arcEnd (center cur rx ry phi l sw x y).cx (center cur rx ry phi l sw x y).cy rx ry
        (center cur rx ry phi l sw x y).a1 (center cur rx ry phi l sw x y).rot = (x, y))
    (p : List (Cmd α)) (h : WellFormed zero p) :
    opInterp (psOp arcEnd) zero (toPS ip center (zero, zero) p) = some (segsElev ip center (zero, zero) p) := by
  unfold opInterp
  exact ps_run_all ip center arcEnd hend p (zero, zero) (zero, zero) [] h.2.1

/-- the direction PostScript draws an arc is the sweep flag: `ellipse` (arc, counter-clockwise) iff sweep -/
theorem tops_arc_direction (ip : α → α → α) (center : α × α → α → α → α → Bool → Bool → α → α → Center α)
    (cur : α × α) (rx ry phi : α) (l sw : Bool) (x y : α) :
    (psCmd ip center cur (.arc rx ry phi l sw x y)).getLast? = some (.op (if sw then "ellipse" else "ellipsen")) := by
  simp [psCmd]

/-! laws of the SVG interpreter itself (it is a specification: these are the grammar's rules) -/

/-- implicit repetition: further coordinate pairs after `L x y` are further `L`s -/
theorem svg_implicit_repeat (s : SvgSt α) (hargs : s.args = []) (ho : s.out ≠ []) (a b c d : α) :
    svgRun add refl s [.cmd 'L', .num a, .num b, .num c, .num d] =
      svgRun add refl s [.cmd 'L', .num a, .num b, .cmd 'L', .num c, .num d] := by
  have h := svgRun_instance add refl s 'L' [.num a, .num b] hargs rfl nofun rfl (.inl ho)
  refine (h _).trans (.trans ?_ (h _).symm)
  rw [exec_L, Option.bind_some, Option.bind_some]
  exact svgRun_repeat add refl _ 'L' [.num c, .num d] [] rfl rfl rfl nofun rfl (by simp) rfl

/-- coordinate pairs after a moveto are implicit linetos -/
theorem svg_moveto_then_lineto (s : SvgSt α) (hargs : s.args = []) (a b c d : α) :
    svgRun add refl s [.cmd 'M', .num a, .num b, .num c, .num d] =
      svgRun add refl s [.cmd 'M', .num a, .num b, .cmd 'L', .num c, .num d] := by
  have h := svgRun_instance add refl s 'M' [.num a, .num b] hargs rfl nofun rfl (.inr rfl)
  refine (h _).trans (.trans ?_ (h _).symm)
  rw [exec_M, Option.bind_some, Option.bind_some]
  exact svgRun_repeat add refl _ 'L' [.num c, .num d] [] rfl rfl rfl nofun rfl (by simp) rfl

/-- SVG 1.1 §8.3.3: a drawing command right after a closepath starts a new subpath at the closed
subpath's start — it decodes exactly like the same command behind an explicit moveto to the current
point (so a printer may omit that `M`; segments, current point and subpath start all agree). -/
theorem svg_implicit_moveto_after_close (s : SvgSt α) (hargs : s.args = []) (ho : s.out ≠ [])
    (hz : s.cmd = some 'z') (hcur : s.cur = s.start) (x y : α) :
    (svgRun add refl s [.cmd 'L', .num x, .num y]).map (fun t => (t.out, t.cur, t.start)) =
      (svgRun add refl s [.cmd 'M', .num s.cur.1, .num s.cur.2, .cmd 'L', .num x, .num y]).map
        (fun t => (t.out, t.cur, t.start)) := by
  -- `erw`: a literal token list is `.cmd c :: ts ++ rest` only after unfolding `++`
  erw [svgRun_instance add refl s 'L' [.num x, .num y] hargs rfl nofun rfl (.inl ho) [],
    svgRun_instance add refl s 'M' [.num s.cur.1, .num s.cur.2] hargs rfl nofun rfl (.inr rfl)]
  rw [exec_L, exec_M, Option.bind_some, Option.bind_some]
  erw [svgRun_instance add refl _ 'L' [.num x, .num y] rfl rfl nofun rfl (.inl (by simp)) []]
  rw [exec_L]
  simp [afterLetter, wasClose, hz, svgRun, ← hcur]

/-- a relative lineto is the absolute lineto to the translated point -/
theorem svg_relative_lineto (s : SvgSt α) (x y : α) :
    (svgExec add refl s 'l' [.num x, .num y]).map (·.out) =
      (svgExec add refl s 'L' [.num (add x s.cur.1), .num (add y s.cur.2)]).map (·.out) := rfl

/-- `S` after `C`: the first control point is the reflection `2·cur − previous second control point` -/
theorem svg_smooth_reflects (s : SvgSt α) (hargs : s.args = []) (ho : s.out ≠ []) (a b c d x y e f u v : α) :
    (svgRun add refl s [.cmd 'C', .num a, .num b, .num c, .num d, .num x, .num y, .cmd 'S', .num e, .num f, .num u, .num v]).map
        (fun s' => s'.out.head?) =
      some (some (.cube x y (refl x c) (refl y d) e f u v)) := by
  erw [svgRun_instance add refl s 'C' [.num a, .num b, .num c, .num d, .num x, .num y] hargs rfl nofun rfl (.inl ho)]
  rw [exec_C, Option.bind_some]
  erw [svgRun_instance add refl _ 'S' [.num e, .num f, .num u, .num v] rfl rfl nofun rfl (.inl (by simp)) []]
  rw [afterLetter_eq (.inr rfl)]
  rfl

end formats

section algebra
open GenK Canvas
variable {K : Type} [Field K] [LinearOrder K] [IsStrictOrderedRing K] [Env K]

/-- ToPDF/ToPS replace a quadratic by the cubic with the control points `quadraticToCubicBezier`
(generated from /repo/path_util.go) returns: it is the same curve, at every parameter. -/
theorem quad_elevation (p0 p1 p2 : Pt K) (t : K) :
    cubicBezierPos p0 (quadraticToCubicBezier p0 p1 p2).1 (quadraticToCubicBezier p0 p1 p2).2 p2 t
      = quadraticBezierPos p0 p1 p2 t := by
  have hw : 3 * ((2 : K) / 3) = 2 := mul_div_cancel₀ 2 three_ne_zero
  simp only [cubicBezierPos, quadraticBezierPos, quadraticToCubicBezier, Point.Interpolate, Point.Mul, Point.Add]
  congr 1 <;> exact elevation_coord hw _ _ _ _

/-- the token printers' `elev` with the interpolation `p + (q - p)·2/3` written as in the source is
`quadraticToCubicBezier` coordinate by coordinate -/
theorem elev_is_quadraticToCubicBezier (cur : K × K) (a b x y : K) :
    elev (fun p q => (1 - 2 / 3) * p + 2 / 3 * q) cur a b x y =
      (((quadraticToCubicBezier ⟨cur.1, cur.2⟩ ⟨a, b⟩ ⟨x, y⟩).1.x, (quadraticToCubicBezier ⟨cur.1, cur.2⟩ ⟨a, b⟩ ⟨x, y⟩).1.y),
       ((quadraticToCubicBezier ⟨cur.1, cur.2⟩ ⟨a, b⟩ ⟨x, y⟩).2.x, (quadraticToCubicBezier ⟨cur.1, cur.2⟩ ⟨a, b⟩ ⟨x, y⟩).2.y)) := by
  simp [elev, quadraticToCubicBezier, Point.Interpolate]

/-- ToSVG's rewrite for rotations of 90° and more — radii swapped, rotation reduced by 90° (axis
direction `(c, s)` becomes `(s, -c)`) — describes the same ellipse as a point set. -/
theorem ellipse_swap (rx ry c s : K) (p : K × K) :
    (∃ u v, u * u + v * v = 1 ∧ p = ellipsePoint ry rx s (-c) u v) ↔
    (∃ u v, u * u + v * v = 1 ∧ p = ellipsePoint rx ry c s u v) := by
  constructor
  · rintro ⟨u, v, h, rfl⟩
    refine ⟨v, -u, by rw [← h]; ring, ?_⟩
    have := ellipse_swap_pt rx ry c s v (-u)
    simpa using this
  · rintro ⟨u, v, h, rfl⟩
    exact ⟨-v, u, by rw [← h]; ring, (ellipse_swap_pt rx ry c s u v).symm⟩

end algebra

/-! ## Part C — numbers: what the lexer reads back from a printed numeral, exactly

`scan` is the byte-exact model of the scanning part of `strconv.ParseFloat` (tdewolff/parse), tied to
the real lexer by the LX lines.  For every numeral of the forms the printers emit — digits, digits with
a fraction, the latter also with an exponent — whose mantissa fits a uint64 (19 digits always do), it consumes
exactly the numeral and hands `mantissa · 10^(exponent − fraction length)` to the float conversion:
the decimal that was printed, no digit lost.  (The conversion of that decimal to a float64 is Float
arithmetic and outside Lean's reach; its three defect classes are decided from the numeral by the
harness predicate `lexClass` and recorded as known findings, everything else must be read exactly.) -/
section numbers

/-- `123` followed by anything that cannot continue a number -/
theorem lexer_reads_integer_exactly (ip rest : List Nat) (hip : AllDigits ip) (hne : ip ≠ [])
    (hv : digitsVal ip 0 < u64) (hs : Stops rest) :
    scan (ip ++ rest) = ⟨ip.length, false, digitsVal ip 0, 0, 0⟩ := by
  have hm : scanMant (ip ++ rest) 0 none none 0 = ⟨ip.length, none, none, digitsVal ip 0⟩ := by
    rw [scanMant_digits ip rest hip 0 none 0 hv, scanMant_stop rest hs.digits _ _ _ _
      fun _ h => (hs 46 h).2.1 rfl, Nat.zero_add]
  rw [scan_of_mant hm (List.length_pos_iff.2 hne).ne' nofun, List.drop_left, expPart_stops hs]
  rfl

/-- `12.5`, `.5`, `12.` -/
theorem lexer_reads_decimal_exactly (ip fp rest : List Nat) (hip : AllDigits ip) (hfp : AllDigits fp)
    (hne : ip ≠ [] ∨ fp ≠ []) (hv : digitsVal (ip ++ fp) 0 < u64) (hs : Stops rest) :
    scan (ip ++ 46 :: (fp ++ rest)) = ⟨ip.length + 1 + fp.length, false, digitsVal (ip ++ fp) 0, fp.length, 0⟩ := by
  rw [scan_decimal ip fp rest hip hfp hne hv hs.digits, expPart_stops hs]
  rfl

/-- `1.25e-7`, `.5E3`: the exact decimal is `digits · 10^(±exponent − fraction length)` -/
theorem lexer_reads_exponent_form_exactly (ip fp ed rest : List Nat) (eneg : Bool) (ec : Nat)
    (hec : ec = 101 ∨ ec = 69) (hip : AllDigits ip) (hfp : AllDigits fp) (hed : AllDigits ed)
    (hne : ip ≠ [] ∨ fp ≠ []) (hene : ed ≠ []) (hv : digitsVal (ip ++ fp) 0 < u64)
    (hev : digitsVal ed 0 ≤ 9223372036854775807) (hs : StopsDigits rest) :
    scanExact (scan (ip ++ 46 :: (fp ++ ec :: ((if eneg then [45] else []) ++ ed ++ rest)))) =
      (digitsVal (ip ++ fp) 0 : Rat) *
        pow10 ((if eneg then -(digitsVal ed 0 : Int) else (digitsVal ed 0 : Int)) - (fp.length : Int)) := by
  have hstop : StopsDigits (ec :: ((if eneg then [45] else []) ++ ed ++ rest)) := by
    intro c h
    obtain rfl : ec = c := by simpa using h
    rcases hec with rfl | rfl <;> rfl
  rw [scan_decimal ip fp _ hip hfp hne hv hstop,
    expPart_exponent hec (parseInt_digits eneg ed rest hed hene hev hs)
      (Nat.add_pos_right _ (List.length_pos_iff.2 hene))]
  simp [scanExact]

/-- the lexer never reads beyond the numeral it was given: a numeral directly followed by a command
letter, a separator, a sign or the end of the string is consumed completely and nothing more -/
theorem lexer_consumes_exactly_the_numeral (ip fp rest : List Nat) (hip : AllDigits ip) (hfp : AllDigits fp)
    (hne : ip ≠ [] ∨ fp ≠ []) (hv : digitsVal (ip ++ fp) 0 < u64) (hs : Stops rest) :
    (scan (ip ++ 46 :: (fp ++ rest))).len = (ip ++ 46 :: fp).length := by
  rw [lexer_reads_decimal_exactly ip fp rest hip hfp hne hv hs, List.length_append, List.length_cons]
  exact Nat.add_right_comm _ _ _

/-- Soundness of the verdict the driver takes on every numeral the real `num` prints (NUM lines): `ok`
means it is an SVG number with exact value `p`, the lexer model consumes all of it, reads the same
decimal (when it has at most 19 mantissa digits), and `p` is within the stated tolerance of the float. -/
theorem checkPrinted_ok_sound (bound : Rat → Rat) (x : Float) (s : List Nat)
    (h : (checkPrinted bound x s).ok = true) :
    ∃ xr p, ratOfFloat x = some xr ∧ specNumber s = some p ∧ (scan s).len = s.length ∧
      absR (p - xr) ≤ bound xr ∧ (mantDigits s ≤ 19 → scanExact (scan s) = p) := by
  unfold checkPrinted at h
  split at h
  · rename_i xr p hx hp
    simp only [NumCheck.ok, Bool.and_eq_true, beq_iff_eq, decide_eq_true_eq] at h
    exact ⟨xr, p, hx, hp, h.1.1.2, h.2, fun hd => by simpa [hd] using h.1.2⟩
  · -- no SVG number: `syntaxOK` is false
    cases h
  · -- no finite float: `precise` is false
    simp only [NumCheck.ok, Bool.and_false, Bool.false_eq_true] at h

end numbers

-- the hypotheses are satisfiable: "12.5e-3 " and "7L"; and the lexer model really reads them so
example : scan [49, 50, 46, 53, 101, 45, 51, 32] = ⟨7, false, 125, 1, -3⟩ := by decide
example : AllDigits [49, 50] := by intro c hc; simp at hc; rcases hc with rfl | rfl <;> decide
example : Stops [76] := by intro c hc; simp at hc; subst hc; simp [isDigit]
example : StopsDigits [32] := by intro c hc; simp at hc; subst hc; simp [isDigit]
example : scan [55, 76] = ⟨1, false, 7, 0, 0⟩ := by decide
-- the whitespace-only class (`Defect`, named after what it was before 91dc4d7) is inhabited and proper
example : ¬ Defect [77, 49, 32, 50] := by decide
example : ¬ Defect [44, 32] := by decide
example : Defect [32, 32] := by decide
example : Defect [10] := by decide
example : Defect [32, 44] := by decide

-- Part B is not vacuous: a well-formed path, and what the interpreter makes of its ToSVG tokens
-- (V for the vertical line, radii swapped and rotation reduced for the arc at 100°)
example : WellFormed (0 : Int) [.move 1 2, .line 1 5, .arc 3 2 100 true false 4 4, .close 1 2] :=
  ⟨⟨1, 2, _, rfl⟩, by decide, by decide⟩
example : WellFormed (0 : Int)
    [.move 0 0, .line 10 0, .line 10 10, .close 0 0, .move 0 0, .line (-5) (-5), .move (-5) (-5), .line (-10) 0] :=
  ⟨⟨0, 0, _, rfl⟩, by decide, by decide⟩
-- a legitimate minifier's output (no `M` after `z`) decodes to the same segments as the explicit form
example : svgInterp (· + ·) (fun p c : Int => 2 * p - c) 0
      [.cmd 'M', .num 0, .num 0, .cmd 'H', .num 10, .cmd 'V', .num 10, .cmd 'z', .cmd 'L', .num (-5), .num (-5)] =
    svgInterp (· + ·) (fun p c : Int => 2 * p - c) 0
      [.cmd 'M', .num 0, .num 0, .cmd 'H', .num 10, .cmd 'V', .num 10, .cmd 'z', .cmd 'M', .num 0, .num 0, .cmd 'L', .num (-5), .num (-5)] := by
  decide
example : toSVG (fun a b : Int => a == b) (fun r => decide (90 ≤ r)) (· - 90) (0, 0)
      [.move 1 2, .line 1 5, .arc 3 2 100 true false 4 4, .close 1 2] =
    [.cmd 'M', .num 1, .num 2, .cmd 'V', .num 5, .cmd 'A', .num 2, .num 3, .num 10, .flag true, .flag false, .num 4, .num 4, .cmd 'z'] := by
  decide
example : svgInterp (· + ·) (fun p c : Int => 2 * p - c) 0
      [.cmd 'M', .num 1, .num 2, .cmd 'V', .num 5, .cmd 'A', .num 2, .num 3, .num 10, .flag true, .flag false, .num 4, .num 4, .cmd 'z'] =
    some [.move 1 2, .line 1 2 1 5, .arc 1 5 2 3 10 true false 4 4, .close 4 4 1 2] := by
  decide
-- coincident MoveTos: closed subpath, open subpath continued from its start, MoveTo onto that
-- subpath's end — three subpaths are printed and three come back
example : (svgInterp (· + ·) (fun p c : Int => 2 * p - c) 0
      (toSVG (fun a b : Int => a == b) (fun r => decide (90 ≤ r)) (· - 90) (0, 0)
        [.move 0 0, .line 10 0, .line 10 10, .close 0 0, .move 0 0, .line (-5) (-5), .move (-5) (-5), .line (-10) 0])).map segStarts =
    some [(0, 0), (0, 0), (-5, -5)] := by
  decide
-- the full grammar: relative commands, implicit repetition, S/T reflection
example : svgInterp (· + ·) (fun p c : Int => 2 * p - c) 0
      [.cmd 'm', .num 1, .num 1, .num 2, .num 0, .cmd 'c', .num 1, .num 1, .num 2, .num 1, .num 3, .num 0, .cmd 's', .num 1, .num (-1), .num 2, .num 0, .cmd 'z'] =
    some [.move 1 1, .line 1 1 3 1, .cube 3 1 4 2 5 2 6 1, .cube 6 1 7 0 7 0 8 1, .close 8 1 1 1] := by
  decide

end C11
