import CanvasProofs.Lemmas.C13Refs
import CanvasProofs.Lemmas.C13ParseF

/-! # C13 — every PDF produced is structurally valid: theorems about the writer model
`Canvas.C13` (hand-written model of /repo/renderers/pdf/writer.go, tied by correspondence).
The bookkeeping theorems quantify over arbitrary operation histories `ops` and an arbitrary
environment `env` (zlib, clock, contents of the font, image and pattern objects); the read-back
theorems over arbitrary byte strings and over the value trees that satisfy `wf`. -/
namespace C13
open Canvas.C13 C13L
open Canvas.C13.P (parseVal norm size decShape parseStreamObj normKvs sizeKvs)

/-- `pos` is the number of bytes written, after any history. -/
theorem pos_tracks_length (env : Env) (ops : List Op) (s : St) (h : run env {} ops = some s) :
    s.core.pos = s.core.out.length :=
  (reach_of_run h).refs.sinv.inv.pos_eq

/-- After `Close`, for EVERY entry `i` of the object table, byte `objOffsets[i]` of the output begins
"(i+1) 0 obj\n" — including the reserved catalog/info/page-tree slots and the font objects that are
reserved early and written late. -/
theorem offsets_exact (env : Env) (ops : List Op) (s : St) (h : run env {} ops = some s)
    (i : Nat) (hi : i < (close env s).st.core.offs.length) :
    objHeader (i + 1) <+: (close env s).st.core.out.drop ((close env s).st.core.offs[i]) := by
  obtain ⟨c, e, -, hc⟩ := close_spec env s
  simp only [e] at hi ⊢
  exact ((inv_emit _ (hc (reach_of_run h).refs.sinv)).filled i hi).resolve_right fun hf => hf

/-- non-vacuity: histories with pages, text objects, fonts reserved in both writing modes and plain
objects are accepted by the model (and a history that misuses the text state is rejected) -/
example : ∀ env : Env, (run env {} [.newPage [] [] [], .startText, .setFont 0 [] [] false, .endText, .getFont 1 true,
    .writeObj (.int 1), .drawImage 7 [] [] [], .newPage [] [] [], .setAlpha [1] [2]]).isSome = true := by intro env; rfl
example : ∀ env : Env, run env {} [.newPage [] [] [], .endText] = none := by intro env; rfl

/-- every font reference handed out by `getFont` is a slot of the object table (the late write in
`writeFont` indexes `objOffsets[ref-1]` and cannot go out of range) -/
theorem font_refs_in_table (env : Env) (ops : List Op) (s : St) (h : run env {} ops = some s)
    (r : Nat) (hr : r ∈ s.fontsH.map (·.2) ∨ r ∈ s.fontsV.map (·.2)) : 1 ≤ r ∧ r ≤ s.core.offs.length := by
  have hs := (reach_of_run h).refs.sinv
  exact hr.elim (hs.refsH r) (hs.refsV r)

/-- The number after `startxref` is the byte index at which the xref section starts, the section is
built from the final object table, and nothing follows `%%EOF`. -/
theorem startxref_exact (env : Env) (ops : List Op) (s : St) (h : run env {} ops = some s) :
    (close env s).st.core.out.drop (close env s).xrefOffset
      = tailBytes (close env s).st.core.offs (close env s).xrefOffset := by
  obtain ⟨c, e, -, hc⟩ := close_spec env s
  rw [e, (hc (reach_of_run h).refs.sinv).pos_eq]
  exact List.drop_left

/-- The xref section has one entry per object plus the free entry 0, its header announces
`len+1` entries, and the trailer's `/Size` is the same number. -/
theorem xref_size_agree (offs : List Nat) (x : Nat) :
    tailBytes offs x =
      asc "xref\n0 " ++ natBytes (offs.length + 1) ++ asc "\n0000000000 65535 f \n"
        ++ (offs.map xrefEntry).flatten
        ++ asc "trailer\n"
        ++ ser (.dict [(asc "Root", .ref 1), (asc "Size", .int (offs.length + 1 : Nat)), (asc "Info", .ref 2)])
        ++ asc "\nstartxref\n" ++ natBytes x ++ asc "\n%%EOF\n"
    ∧ (offs.map xrefEntry).length = offs.length := by
  constructor
  · simp [tailBytes, xrefSection, trailerDict]
  · simp

/-- each in-use xref entry is exactly 20 bytes (offsets below 10^10) and its first ten bytes read
back as the recorded offset -/
theorem xref_entry_exact (off : Nat) (h : off < 10 ^ 10) :
    (xrefEntry off).length = 20 ∧ parseNat ((xrefEntry off).take 10) = off := by
  have hl := pad10_length off h
  constructor
  · unfold xrefEntry
    rw [List.length_append, hl]; decide
  · unfold xrefEntry
    rw [List.take_append_of_le_length (by omega), ← hl, List.take_length]
    exact parseNat_pad10 off

/-- object and reference numbers printed in decimal read back as the number -/
theorem decimal_roundtrip (n : Nat) : parseNat (natBytes n) = n := parseNat_natBytes n

/-- `/Length` of a stream object equals the number of bytes between "stream\n" and "\nendstream". -/
theorem length_exact (kvs : List (Bytes × Val)) (body : Bytes) :
    ser (.stream kvs body)
      = dictBytes (setLength (serKvs kvs) body.length) ++ asc "stream\n" ++ body ++ asc "\nendstream\n"
    ∧ findEntry kLength (setLength (serKvs kvs) body.length) = some (kLength, true, natBytes body.length) := by
  constructor
  · rw [ser]; rfl
  · unfold findEntry setLength
    rw [List.find?_append, find_filtered kLength (serKvs kvs)]
    simp

/-- The page tree written by `Close` lists exactly one kid per `NewPage` call and `/Count` is that
number. -/
theorem page_count (env : Env) (ops : List Op) (s : St) (h : run env {} ops = some s) :
    (close env s).st.pages.length = ops.countP isNewPage
    ∧ pagesDict (close env s).st.pages =
        .dict [(asc "Type", .name (asc "Pages")), (asc "Kids", .arr ((close env s).st.pages.map Val.ref)),
               (asc "Count", .int (ops.countP isNewPage : Nat))] := by
  have hl : (close env s).st.pages.length = ops.countP isNewPage := by
    rw [close_eq]
    exact (flushPage_pages env s).1.trans (reach_of_run h).count
  exact ⟨hl, by rw [pagesDict, hl]⟩

/-- For any history: after `Close`, with `N` the length of the object table (= number of xref
entries − 1 = `/Size` − 1): every kid `r` of the page tree satisfies `2 ≤ r ≤ N` (its content
stream is object `r − 1`, written just before it), every font and image reference in every written
page's resources is in `1..N`, and the fixed references `/Root 1`, `/Info 2`, `/Pages 3`, `/Parent 3`
are in `1..N`. Together with `offsets_exact` (entry `n` of the table is the byte offset of
"n 0 obj") each of these references resolves to exactly one cross-reference entry, which points at
the object carrying that number. -/
theorem references_resolve (env : Env) (ops : List Op) (s : St) (h : run env {} ops = some s) :
    3 ≤ (close env s).st.core.offs.length
    ∧ (∀ r ∈ (close env s).st.pages, 2 ≤ r ∧ r ≤ (close env s).st.core.offs.length)
    ∧ (∀ p ∈ (close env s).st.done,
        (∀ e ∈ p.fonts, 1 ≤ e.2 ∧ e.2 ≤ (close env s).st.core.offs.length)
        ∧ (∀ e ∈ p.xobjs, 1 ≤ e.2 ∧ e.2 ≤ (close env s).st.core.offs.length)) :=
  have r := ((reach_of_run h).close env).refs
  ⟨r.sinv.inv.three, r.pages, r.done⟩

/-- `writePage`: the content stream is object `n+1`, the page object is `n+2` and its dictionary
refers to `n+1` as `/Contents` and to 3 as `/Parent` (`n` = table length before). -/
theorem page_contents_ref (env : Env) (compress : Bool) (c : Core) (p : Page) :
    (writePage env compress c p).2 = c.offs.length + 2
    ∧ ∃ v, (writePage env compress c p).1 = (c.writeObject v).writeObject (pageDict p 3 (c.offs.length + 1)) := by
  constructor
  · simp [writePage, writeObject_len]
  · exact ⟨_, by simp only [writePage, writeObject_len]; rfl⟩

/-- For any history over any number of pages: every resource name that `SetFont`, `SetAlpha`,
`DrawImage` or `SetFill`/`SetStroke` with a gradient emitted into the content stream of a page
(`/F0 … Tf`, `/A0 gs`, `/Im0 Do`, `/P0 scn`) is defined in the Font / ExtGState / XObject / Pattern
dictionary of THAT page's /Resources — names are allocated per page, also for fonts, images and
gradients that were already used on an earlier page. `done` lists the pages as they were when
`writePage` serialised them, one per page object. -/
theorem resources_page_local (env : Env) (ops : List Op) (s : St) (h : run env {} ops = some s) :
    (∀ p ∈ (close env s).st.done, ∀ u ∈ p.uses, u.2 ∈ p.names u.1)
    ∧ (close env s).st.done.length = (close env s).st.pages.length :=
  have r := (reach_of_run h).close env
  ⟨r.done, r.len⟩

/-- non-vacuity: one gradient value painted on two pages gets a name in each page's own map -/
example : ∃ s, run ⟨id, fun _ => ([], .bool true), fun _ => [], fun _ => .bool true, [], [1]⟩ {}
      [.newPage [] [] [], .setGradient false [7] [], .newPage [] [] [],
       .setGradient true [9] [], .setGradient false [7] []] = some s
    ∧ (s.done.map (fun p => p.patterns.map (·.1))) = [[[7]]]
    ∧ (s.page.map (fun p => p.patterns.map (·.1))) = some [[9], [7]] := ⟨_, rfl, by decide, by decide⟩

/-- Every history the writer accepts without panicking obeys the text-object discipline: `BT` and
`ET` alternate on each page and `Tf`/`Tr` are only emitted inside a text object. -/
theorem text_discipline (env : Env) (ops : List Op) (s : St) (h : run env {} ops = some s) :
    textOK false ops = true := by
  simpa [inText] using (reach_run env ops reach_init h).2

/-- A conforming reader (§7.3.4.2) reads back EVERY byte string the writer emits (since the repair
7b13040 a CARRIAGE RETURN is written as the escape `\r`). -/
theorem string_roundtrip (s tail : Bytes) : readString (writeString s ++ tail) = some (s, tail) := by
  unfold writeString readString
  simp only [List.cons_append, List.append_assoc]
  exact readLit_escStr s tail

/-- the case that used to fail: a raw CR is written as backslash, `r` -/
example : writeString [0x0D] = [0x28, 0x5C, 0x72, 0x29] := by decide

/-- text strings: ASCII as is, otherwise UTF-16BE with BOM; decoding returns the code points -/
theorem text_roundtrip (rs : List Nat) (h : ∀ r ∈ rs, r < 0xD800 ∨ (0xE000 ≤ r ∧ r < 0x110000)) :
    decodeText (encodeText rs) = rs := decodeText_encodeText rs h

/-- For EVERY value tree of booleans, integers, printed numbers, strings, references, names, arrays
and dictionaries (names of regular characters without `#`, numbers in PDF number syntax, dictionary
entries given in the writer's canonical order), the object parser reads the serialisation back as
the same tree (integers as their text) and stops exactly at the tail, which may be empty or start
with a delimiter. -/
theorem value_roundtrip (v : Val) (T : Bytes) (hw : wf v = true)
    (hT : T = [] ∨ ∃ c T', T = c :: T' ∧ Canvas.C13.Rd.isDelim c = true) :
    parseVal (size v) (ser v ++ T) = some (norm v, T) := by
  have ht : Tail T := by
    rcases hT with rfl | ⟨c, T', rfl, hc⟩
    · exact Tail.nil
    · exact Tail.delim c T' hc
  exact rt_val v (size v) T hw ht (Nat.le_refl _)

/-- the canonical-order hypothesis inside `wf` holds for: optional Type entry, optional Subtype
entry, then the remaining keys strictly increasing -/
theorem canonical_order_ok (tE sE : Option Entry) (rest : List Entry)
    (ht : ∀ e, tE = some e → e.1 = kType) (hs : ∀ e, sE = some e → e.1 = kSubtype)
    (hn : noTS rest = true) (hsrt : sortedKeys rest = true) :
    canonOK (optList tE ++ optList sE ++ rest) = true :=
  canonOK_of_canonical tE sE rest ht hs hn hsrt

/-- The number hypothesis inside `wf` holds for everything a decimal printer emits for a finite
number: optional minus sign, integer digits, optional point and fraction digits, at least one digit.
(That the real `dec` prints exactly such texts for finite floats is checked on the real code by the
NUM correspondence lines; NaN/Inf — the repaired defects 22480c8, 276f7ec — are not of this shape.) -/
theorem printed_number_wf (neg : Bool) (ip fr : Bytes) (hip : ip.all Canvas.C13.Rd.isDigit = true)
    (hfr : fr.all Canvas.C13.Rd.isDigit = true) (hne : ip ≠ [] ∨ fr ≠ []) :
    wf (.num (decShape neg ip fr)) = true := by
  simp only [wf]
  exact decShape_isNumTok neg ip fr hip hfr hne

/-- A stream object reads back: its dictionary carries the `/Length` the writer computed and exactly
`body` lies between `stream\n` and `\nendstream` — for any dictionary (entries in canonical order
once `/Length` is set) and ANY byte string `body`, compressed or not. -/
theorem stream_roundtrip (kvs : List (Bytes × Val)) (body T : Bytes)
    (hw : wfKvs (withLen kvs body.length) = true) (hc : canonOK (setLength (serKvs kvs) body.length) = true) :
    parseStreamObj (1 + sizeKvs (withLen kvs body.length)) (ser (.stream kvs body) ++ T)
      = some (normKvs (withLen kvs body.length), body, 0x0A :: T) :=
  rt_stream kvs body T _ hw hc (Nat.le_refl _)

/-- Page content streams as `writePage` writes them. The Flate wrapper is an external function with
the contract `inflate (flate b) = b`: under it a reader recovers exactly the page's content bytes,
with compression (`/Filter/FlateDecode`, `/Length` = compressed size) and without. -/
theorem content_stream_recovered (env : Env) (inflate : Bytes → Bytes) (hz : ∀ b, inflate (env.flate b) = b)
    (b T : Bytes) :
    (∃ d, parseStreamObj 6 (ser (.stream [(kFilter, .name nFlate)] (env.flate b)) ++ T) = some (d, env.flate b, 0x0A :: T)
        ∧ d = [(kFilter, .name nFlate), (kLength, .num (natBytes (env.flate b).length))]
        ∧ inflate (env.flate b) = b)
    ∧ parseStreamObj 4 (ser (.stream [] b) ++ T) = some ([(kLength, .num (natBytes b.length))], b, 0x0A :: T) := by
  have srt : ∀ rest : List Entry, noTS rest = true → sortedKeys rest = true → canonOK rest = true := fun rest =>
    canonOK_of_canonical none none rest (fun _ h => by cases h) (fun _ h => by cases h)
  constructor
  · refine ⟨_, stream_roundtrip [(kFilter, .name nFlate)] (env.flate b) T rfl (srt _ rfl rfl), ?_, hz b⟩
    rfl
  · exact stream_roundtrip [] b T rfl (srt _ rfl rfl)

/-- Tokens that are not PDF numbers — what Go prints for non-finite floats — are rejected by the
object parser, whatever follows. -/
theorem nonfinite_rejected (f : Nat) :
    parseVal f (asc "NaN") = none ∧ parseVal f (asc "+Inf]") = none ∧ parseVal f (asc "-Inf ") = none := by
  cases f with
  | zero => exact ⟨rfl, rfl, rfl⟩
  | succ f => exact ⟨rfl, rfl, rfl⟩

/-- The unescaped name writer is NOT a round trip for every byte string: a `#` followed by two
hexadecimal digits is read as one byte (7.3.5). `writeVal(pdfName)` does not escape; the names the
library itself emits (resource names, dictionary keys, PostScript font names) contain no `#` and no
delimiter, which is the hypothesis `nameOK` of `value_roundtrip`. -/
theorem name_hash_not_verbatim :
    parseVal 2 (ser (.name (asc "A#42"))) = some (.name (asc "AB"), []) := rfl

/-- non-vacuity: a nested page-like dictionary satisfies the hypotheses -/
example : wf (.dict [(asc "Type", .name (asc "Page")), (asc "Subtype", .name (asc "X")),
    (asc "A", .arr [.num (asc "1.5"), .str [0x28, 0x0D], .bool true, .arr []]),
    (asc "Res", .dict [(asc "F0", .num (asc "-2"))])]) = true := by decide +kernel

def fieldName : Nat → Bytes
  | 0 => asc "Title" | 1 => asc "Subject" | 2 => asc "Keywords" | 3 => asc "Author" | 4 => asc "Creator"
  | _ => asc "Lang"

/-- Every field set by a setter is stored under the key of the same name and under no other value:
the Info dictionary for title … creator, the catalog `/Lang` for the language (repair 585f866). -/
theorem info_verbatim (env : Env) (s : St) :
    (∀ k, k < 5 → metaGet s k ≠ [] → ∀ v, (fieldName k, v) ∈ infoKvs env s ↔ v = .str (encodeText (metaGet s k)))
    ∧ (metaGet s 5 ≠ [] → ∀ v, (asc "Lang", v) ∈ catalogKvs s ↔ v = .str (encodeText (metaGet s 5))) := by
  -- the keys are pairwise different, so an entry is found under its key and nowhere else
  have inj : ∀ k, k < 5 → ∀ j, j < 5 → fieldName k = fieldName j → k = j := by decide +kernel
  have fresh : ∀ k, k < 5 → fieldName k ≠ asc "Producer" ∧ fieldName k ≠ asc "CreationDate" := by decide +kernel
  have entries : infoEntries s = (List.range 5).flatMap fun k => infoEntry s k (fieldName k) := by
    simp only [infoEntries, List.range, List.range.loop, List.flatMap_cons, List.flatMap_nil, List.append_nil,
      List.append_assoc, fieldName]
  constructor
  · intro k hk hne v
    simp only [infoKvs, entries, List.mem_append, List.mem_cons, List.not_mem_nil, or_false, Prod.mk.injEq,
      List.mem_flatMap, List.mem_range, mem_infoEntry]
    constructor
    · rintro ((⟨a, -⟩ | ⟨a, -⟩) | ⟨j, hj, -, a, b⟩)
      · exact absurd a (fresh k hk).1
      · exact absurd a (fresh k hk).2
      · rw [inj k hk j hj a]; exact b
    · exact fun h => Or.inr ⟨k, hk, hne, rfl, h⟩
  · intro hne v
    have hne' : (metaGet s 5).isEmpty = false := by simpa using hne
    simp only [catalogKvs, hne', Bool.false_eq_true, if_false, List.mem_append, List.mem_cons, List.not_mem_nil,
      or_false, Prod.mk.injEq]
    constructor
    · rintro ((⟨a, -⟩ | ⟨a, -⟩) | ⟨-, b⟩)
      · exact absurd a (by decide)
      · exact absurd a (by decide)
      · exact b
    · exact fun h => Or.inr ⟨trivial, h⟩

/-- non-vacuity: a language different from the creator is what `/Lang` carries -/
example : (asc "Lang", Val.str [0x65, 0x6E]) ∈ catalogKvs { info := [[], [], [], [], [0x58], [0x65, 0x6E]] } := by
  simp [catalogKvs, metaGet, encodeText]

end C13
