import CanvasProofs.Lemmas.C09Geom
import CanvasProofs.Lemmas.C09Wn
import CanvasProofs.Lemmas.C09Split
import CanvasProofs.Lemmas.C09Cuts
import CanvasProofs.Lemmas.C09GL
import CanvasProofs.Lemmas.C09Verdict
import CanvasProofs.Lemmas.C09Intervals
import CanvasProofs.Lemmas.C09Length
import CanvasProofs.Lemmas.C09Polish
/-!
# C09 — Length, SplitAt and Reverse are consistent views of one curve

Property theorems.  `Canvas.C09.reverseF/reverse` model `Path.Reverse`, `Canvas.C09.split` models
`Path.Split` (both compared bit-exactly with the real code on every check); a *structured path* is a
list of subpaths `M start (L|Q|C|A)* [Z start]` (`SubPath`), `flatR` its path model, `flatF` its
records in array order.  `eq` is `Point.Equals` (any relation: the theorems do not look inside),
`z` the zero point.  The cutting loops and the split functions are over any ordered field; the
split functions are regenerated from path_util.go on every check.
-/
namespace C09
open Canvas Canvas.Path Canvas.C09 C09L

variable {α : Type}

/-- `Reverse` returns the subpaths in reverse order, each one reversed (`revSub`: reversed list of
commands, Bézier control points swapped, arc sweep flipped, closing segment made explicit and a first
LineTo turned into the Close).  For all structured paths, any `eq`. -/
theorem reverse_structure (eq : Pt α → Pt α → Bool) (z : Pt α) (subs : List (SubPath α))
    (hd : ∀ s ∈ subs, s.drawOnly = true) :
    reverse eq z (flatR subs) = flatR ((subs.map (revSub eq)).reverse) :=
  congrArg List.reverse (reverseF_flat eq z subs hd)

/-- `Reverse` is an involution, with exact coordinates, on every structured path whose closed subpaths
carry no zero-length LineTo next to the start point (`RevOK`; the builder guarantees it). -/
theorem reverse_involutive (eq : Pt α → Pt α → Bool) (z : Pt α) (subs : List (SubPath α))
    (h : ∀ s ∈ subs, s.RevOK eq) :
    reverse eq z (reverse eq z (flatR subs)) = flatR subs := by
  have hd : ∀ s ∈ subs, s.drawOnly = true := fun s hs => (h s hs).1
  rw [reverse_structure eq z subs hd, reverse_structure eq z _ (revSubs_drawOnly eq subs hd), List.map_reverse,
    List.reverse_reverse, List.map_map]
  exact congrArg flatR ((List.map_congr_left fun s hs => revSub_revSub eq s (h s hs)).trans (List.map_id subs))

/-- the same two theorems stated on record arrays: every array `cs` (array order) that reads as a
structured path (`toSubs`: subpaths `M (L|Q|C|A)* [Z with the M's coordinates]`) is reversed
subpath-wise, and reversing twice returns the array -/
theorem reverse_array [DecidableEq α] (eq : Pt α → Pt α → Bool) (z : Pt α) (cs : List (Cmd α))
    (subs : List (SubPath α)) (h : toSubs cs = some subs) :
    reverseF eq z cs.reverse = flatF ((subs.map (revSub eq)).reverse) := by
  obtain ⟨hf, hd⟩ := toSubs_flat cs subs h
  rw [← hf]
  exact reverseF_flat eq z subs hd

theorem reverse_involutive_array [DecidableEq α] (eq : Pt α → Pt α → Bool) (z : Pt α) (cs : List (Cmd α))
    (subs : List (SubPath α)) (h : toSubs cs = some subs) (hok : ∀ s ∈ subs, s.RevOK eq) :
    reverse eq z (reverse eq z cs.reverse) = cs.reverse := by
  obtain ⟨hf, _⟩ := toSubs_flat cs subs h
  rw [← hf]
  exact reverse_involutive eq z subs hok

/-- the hypothesis of `reverse_involutive` cannot be dropped: with a LineTo back to the start point
before the Close (`M0 L1 L0 Z0`, which the builder never produces) reversing twice loses a record -/
theorem reverse_involutive_needs_hypothesis :
    let eq : Pt Int → Pt Int → Bool := fun a b => decide (a = b)
    let p : RPath Int := flatR [⟨⟨0, 0⟩, [.line ⟨1, 0⟩, .line ⟨0, 0⟩], true⟩]
    reverse eq ⟨0, 0⟩ (reverse eq ⟨0, 0⟩ p) ≠ p := by
  decide

/-- closedness is preserved: the flags of the subpaths of the reversed path are those of the path,
in reverse order -/
theorem reverse_closed (eq : Pt α → Pt α → Bool) (z : Pt α) (subs : List (SubPath α))
    (hd : ∀ s ∈ subs, s.drawOnly = true) :
    closedFlags (reverseF eq z (flatR subs)) = (closedFlags (flatF subs)).reverse := by
  rw [reverseF_flat eq z subs hd, closedFlags_flat _ (revSubs_drawOnly eq subs hd), closedFlags_flat subs hd,
    closed_revSubs]

/-- same point set, opposite direction: the geometric segments of the reversed path are the segments
of the path in reverse order, each one reversed (end points exchanged, Bézier control points
swapped, arc sweep flag flipped; a closing segment is a line) -/
theorem reverse_points (eq : Pt α → Pt α → Bool) (subs : List (SubPath α)) (h : ∀ s ∈ subs, s.RevOK eq) :
    geom eq ((subs.map (revSub eq)).reverse) = ((geom eq subs).reverse).map Seg.rev :=
  geom_reverse eq subs h

/-- `Reverse` negates the winding number of a flat path around EVERY point (exact integer
coordinates, exact `Equals`), by the laws of the L3 specification (`Canvas.Wn.wn1_reverse`,
`wn1_rotate`, `wn_append`) -/
theorem reverse_negates_wn (q : Wn.IPt) (subs : List (SubPath Int))
    (hl : ∀ s ∈ subs, SubPath.flatLines s = true) (h : ∀ s ∈ subs, s.RevOK eqExact) :
    Wn.wn q (((subs.map (revSub eqExact)).reverse).map contour) = - Wn.wn q (subs.map contour) := by
  rw [List.map_reverse, Wn.wn_list_reverse, List.map_map]
  exact Wn.wn_map_neg q (contour ∘ revSub eqExact) contour subs fun s hs => wn1_revSub q s (hl s hs) (h s hs)

/-- `Reverse` preserves every quantity that is accumulated over the geometric segments by a
commutative, associative operation and does not depend on a segment's direction.  Instances: the arc
length with an exact, direction-independent segment length (`op = +`), the bounding box (`op` = box
union), the set of points. -/
theorem reverse_preserves_measure {M : Type} (eq : Pt α → Pt α → Bool) (op : M → M → M) (e : M)
    (m : Seg α → M) (hassoc : ∀ a b c, op (op a b) c = op a (op b c)) (hcomm : ∀ a b, op a b = op b a)
    (hid : ∀ a, op e a = a) (hrev : ∀ s, m (Seg.rev s) = m s)
    (subs : List (SubPath α)) (h : ∀ s ∈ subs, s.RevOK eq) :
    accum op e m (geom eq ((subs.map (revSub eq)).reverse)) = accum op e m (geom eq subs) := by
  rw [geom_reverse eq subs h, accum_map, show m ∘ Seg.rev = m from funext hrev, accum_reverse op e m hassoc hcomm hid]

/-- Length invariance: for any segment-length function into an ordered field that does not depend on
the direction, the reversed path has the same total length -/
theorem reverse_preserves_length {K : Type} [Field K] (eq : Pt α → Pt α → Bool) (len : Seg α → K)
    (hrev : ∀ s, len (Seg.rev s) = len s) (subs : List (SubPath α)) (h : ∀ s ∈ subs, s.RevOK eq) :
    accum (· + ·) 0 len (geom eq ((subs.map (revSub eq)).reverse)) = accum (· + ·) 0 len (geom eq subs) :=
  reverse_preserves_measure eq (· + ·) 0 len add_assoc add_comm zero_add hrev subs h

/-- Bounds invariance: for any direction-independent bounding interval per segment (here one
coordinate: lower bound by `min`, upper bound by `max`, over a linear order with bottom/top elements
`lo`, `hi`), the reversed path has the same bounds -/
theorem reverse_preserves_bounds {K : Type} [LinearOrder K] (eq : Pt α → Pt α → Bool) (hi lo : K)
    (hhi : ∀ a, min hi a = a) (hlo : ∀ a, max lo a = a)
    (segMin segMax : Seg α → K) (hmin : ∀ s, segMin (Seg.rev s) = segMin s) (hmax : ∀ s, segMax (Seg.rev s) = segMax s)
    (subs : List (SubPath α)) (h : ∀ s ∈ subs, s.RevOK eq) :
    accum min hi segMin (geom eq ((subs.map (revSub eq)).reverse)) = accum min hi segMin (geom eq subs) ∧
    accum max lo segMax (geom eq ((subs.map (revSub eq)).reverse)) = accum max lo segMax (geom eq subs) :=
  ⟨reverse_preserves_measure eq min hi segMin min_assoc min_comm hhi hmin subs h,
   reverse_preserves_measure eq max lo segMax max_assoc max_comm hlo hmax subs h⟩

/-- the number of subpaths is preserved -/
theorem reverse_subpath_count (eq : Pt α → Pt α → Bool) (z : Pt α) (subs : List (SubPath α))
    (hd : ∀ s ∈ subs, s.drawOnly = true) :
    (closedFlags (reverseF eq z (flatR subs))).length = subs.length := by
  rw [reverse_closed eq z subs hd, closedFlags_flat subs hd]; simp

/-- the executable specification `reverseVerdict` that judges the REAL output of `Path.Reverse` on every
check (`REVSPEC` verdict lines, exact bit patterns) is sound: `ok` means that input and output read as
structured paths satisfying `RevOK`, with the same number of subpaths, closedness flags in reverse
order and reversed geometric segments in reverse order -/
theorem reverse_verdict_sound [DecidableEq α] (eq : Pt α → Pt α → Bool) (p r : List (Cmd α))
    (h : reverseVerdict eq p r = .ok) :
    ∃ sp sr, toSubs p = some sp ∧ toSubs r = some sr ∧ (∀ s ∈ sp, s.RevOK eq) ∧
      sr.length = sp.length ∧ sr.map (·.closed) = (sp.map (·.closed)).reverse ∧
      geom eq sr = ((geom eq sp).reverse).map Seg.rev := by
  unfold reverseVerdict at h
  cases hsp : toSubs p with
  | none => rw [hsp] at h; cases h
  | some sp =>
    rw [hsp] at h
    obtain ⟨hok, h⟩ := ite_eq_of_ne (by simp) h
    cases hsr : toSubs r with
    | none => rw [hsr] at h; cases h
    | some sr =>
      rw [hsr] at h
      obtain ⟨hlen, h⟩ := ite_eq_of_ne (by simp) h
      obtain ⟨hcl, h⟩ := ite_eq_of_ne (by simp) h
      obtain ⟨hg, _⟩ := ite_eq_of_ne (by simp) h
      have hall : sp.all (SubPath.revOKb eq) = true := by simpa using hok
      exact ⟨sp, sr, rfl, rfl, fun s hs => revOKb_sound eq s (List.all_eq_true.mp hall s hs),
        not_not.mp hlen, not_not.mp hcl, not_not.mp hg⟩

/-- and it never rejects the model: on every structured path whose subpaths pass the decidable form of
`RevOK` the model's output gets `ok` (with the bit-exact REV correspondence: a FAIL on the real code is a
divergence of the real code, not of the specification) -/
theorem reverse_verdict_complete [DecidableEq α] (eq : Pt α → Pt α → Bool) (z : Pt α)
    (subs : List (SubPath α)) (hok : subs.all (SubPath.revOKb eq) = true) :
    reverseVerdict eq (flatF subs) (reverseF eq z (flatR subs)) = .ok := by
  have hR : ∀ s ∈ subs, s.RevOK eq := fun s hs => revOKb_sound eq s (List.all_eq_true.mp hok s hs)
  have hd : ∀ s ∈ subs, s.drawOnly = true := fun s hs => (hR s hs).1
  unfold reverseVerdict
  rw [toSubs_complete subs hd, reverseF_flat eq z subs hd, toSubs_complete _ (revSubs_drawOnly eq subs hd)]
  simp [hok, closed_revSub, geom_reverse eq subs hR]

/-- `toSubs` reads back exactly the structured paths (so the array-level theorems cover all of them) -/
theorem toSubs_iff [DecidableEq α] (cs : List (Cmd α)) (subs : List (SubPath α)) :
    toSubs cs = some subs ↔ (flatF subs = cs ∧ ∀ s ∈ subs, s.drawOnly = true) := by
  constructor
  · exact toSubs_flat cs subs
  · rintro ⟨rfl, hd⟩; exact toSubs_complete subs hd

/-- the pieces of `Split` concatenate to the records of the path, up to a trailing piece of at most
four values (a lone final MoveTo) that `Split` drops -/
theorem split_concat (cs : List (Cmd α)) :
    (split cs).flatten ++ splitRest cs = cs ∧ dataLen (splitRest cs) ≤ 4 :=
  splitGo_concat [] cs

/-- the same on the data arrays -/
theorem split_data_concat (C : Codes α) (cs : List (Cmd α)) :
    ((split cs).map (encodeF C)).flatten ++ encodeF C (splitRest cs) = encodeF C cs := by
  rw [← encodeF_flatten, ← encodeF_append, (split_concat cs).1]

/-- per-subpath behaviour: `Split` of a structured path returns exactly its subpaths -/
theorem split_subpaths (subs : List (SubPath α)) (hd : ∀ s ∈ subs, s.drawOnly = true)
    (hl : lastNontrivial subs) : split (flatF subs) = subs.map SubPath.flat :=
  splitGo_flat subs hd hl [] (fun _ h => absurd rfl h)

/-! The structural model `Canvas.C09.splitAt` (CanvasModel/C09/SplitAt.lean) is the whole walk of
`Path.SplitAt` - sorted copy of the positions, subpaths of `Split()`, selection of the cuts per
segment, cutting loops, builder calls, push - with the arc-length inversion abstract (`SegOracle`); it
is compared with the real code on single- and multi-subpath paths on every check. -/

/-- which positions cut a segment: exactly the leading ones in `(T, T+dT]`; the others are kept, in
order, for the following segments -/
theorem splitAt_selects (O : SplitOps α) (T dT : α) (rem : List α) :
    (selectCuts O T dT rem).1 ++ (selectCuts O T dT rem).2 = rem ∧
      ∀ t ∈ (selectCuts O T dT rem).1, O.lt T t = true ∧ O.le t (O.add T dT) = true :=
  selectCuts_spec O T dT rem

/-- Bézier segments: every selected position closes exactly one piece, `T` advances by the segment
length, the selected positions are consumed (whatever the builder and the inversion answer) -/
theorem splitAt_quad_bookkeeping (G : Geo α) (O : SplitOps α) (start cp e : Pt α) (o : SegOracle α)
    (s s' : SState α) (hrem : s.rem ≠ []) (h : quadCase G O start cp e o s = some s') :
    s'.qs.length = s.qs.length + (selectCuts O s.T o.dT s.rem).1.length ∧
    s'.T = O.add s.T o.dT ∧ s'.rem = (selectCuts O s.T o.dT s.rem).2 := by
  have hk := quadCase_key G O start cp e o s s' h
  rw [advance_cut O o.dT _ (mt List.isEmpty_iff.mp hrem)] at hk
  exact ⟨congrArg Key.done hk, congrArg Key.T hk, congrArg Key.rem hk⟩

theorem splitAt_cube_bookkeeping (G : Geo α) (O : SplitOps α) (start c1 c2 e : Pt α) (o : SegOracle α)
    (s s' : SState α) (hrem : s.rem ≠ []) (h : cubeCase G O start c1 c2 e o s = some s') :
    s'.qs.length = s.qs.length + (selectCuts O s.T o.dT s.rem).1.length ∧
    s'.T = O.add s.T o.dT ∧ s'.rem = (selectCuts O s.T o.dT s.rem).2 := by
  have hk := cubeCase_key G O start c1 c2 e o s s' h
  rw [advance_cut O o.dT _ (mt List.isEmpty_iff.mp hrem)] at hk
  exact ⟨congrArg Key.done hk, congrArg Key.T hk, congrArg Key.rem hk⟩

/-- per-subpath behaviour of the repaired walk: the records handed to the walk are those of the
subpath itself (`split_subpaths`), and each MoveTo record (re)starts the current piece at its point -/
theorem splitAt_per_subpath (G : Geo α) (O : SplitOps α) (p start : Pt α) (cs : List (Cmd α))
    (os : List (SegOracle α)) (s : SState α) :
    walkSub G O (.move p :: cs) start os s = walkSub G O cs p os { s with q := moveTo p s.q } :=
  rfl

/-- without positions `SplitAt` returns the path -/
theorem splitAt_no_positions (G : Geo α) (O : SplitOps α) (cs : List (Cmd α)) (os : List (SegOracle α)) :
    splitAt G O cs [] os = some [cs] := by
  simp [splitAt]

/-- Refinement of the structural model to the specification "the pieces are the restrictions of the
path to consecutive arc-length intervals" (`ivWalk`, CanvasModel/C09/Intervals.lean), over an ordered
field with exact operations, for sorted positions beyond 0 and non-negative segment lengths `dT`,
whatever the builder `G` and the inversion (`SegOracle.inv`) answer and for any number of subpaths
(`pss` = the pieces of `Split`, each beginning with a MoveTo).  If the structural walk does not panic:
* the interval walk over the same records succeeds, with the same remaining positions and the same
  number of finished pieces;
* the lengths of all pieces sum to the length of the path (`walkLen` = Σ dT);
* the k-th finished piece ends at arc length t_k (`boundaries` = the consumed positions);
* the consumed positions are exactly those ≤ the length of the path, in order: the remaining ones
  lie beyond it (out-of-range positions are ignored, duplicates give pieces of length 0). -/
theorem splitAt_refines_spec {K : Type} [Field K] [LinearOrder K] [IsStrictOrderedRing K]
    (G : Geo K) (O : SplitOps K) (hO : ExactOps O) (pss : List (List (Cmd K))) (hm : AllStartWithMove pss)
    (os : List (SegOracle K)) (hd : ∀ o ∈ os, 0 ≤ o.dT) (ts : List K) (hs : ts.Pairwise (· ≤ ·))
    (hpos : ∀ t ∈ ts, 0 < t) (q0 : RPath K) (s' : SState K)
    (h : walkSubs G O pss os ⟨q0, [], ts, O.zero⟩ = some s') :
    ∃ t' : IState K, ivWalk O pss.flatten os 0 (ivInit 0 ts) = some t' ∧
      s'.rem = t'.rem ∧ s'.qs.length = t'.done.length ∧
      totalLen t'.done + pieceLen t'.cur = walkLen pss.flatten os ∧
      boundaries t'.done = t'.consumed ∧
      t'.consumed.reverse ++ t'.rem = ts ∧
      (∀ t ∈ t'.consumed, t ≤ walkLen pss.flatten os) ∧ (∀ t ∈ t'.rem, walkLen pss.flatten os < t) := by
  -- `hm` is not used: the keys do not depend on where a piece starts (`walkSubs_flatten` is what needs it)
  obtain ⟨t', ht, hag⟩ := walkSubs_refines G O pss os ⟨q0, [], ts, O.zero⟩ s' (ivInit 0 ts) 0
    (congrArg (Key.mk 0 · ts) hO.zero) h
  -- the three invariants of the interval walk, carried through every drawing record
  obtain ⟨htot, hinv, hrng⟩ := ivWalk_induction
    (I := fun w s => totalLen s.done + pieceLen s.cur = w ∧ IvInv 0 s ∧ RangeInv 0 ts s) pss.flatten os
    (fun o ho i w s hI => ⟨by rw [ivSeg_total hO, hI.1], (ivSeg_inv hO 0 ts i o.dT s hI.2.1).1,
      (ivSeg_inv hO 0 ts i o.dT s hI.2.1).2 (hd o ho) hI.2.2⟩)
    0 0 (ivInit 0 ts) t' ⟨add_zero 0, ivInit_inv 0 ts, ivInit_range 0 ts hs hpos⟩ ht
  rw [zero_add] at htot
  refine ⟨t', ht, congrArg Key.rem hag, congrArg Key.done hag, htot, by rw [hinv.bounds]; simp, hrng.part,
    fun t htc => by simpa [htot] using hrng.behind t htc, fun t htr => ?_⟩
  have h1 := hinv.walked (List.ne_nil_of_mem htr)
  rw [htot, sub_zero] at h1
  exact h1 ▸ hrng.ahead t htr

/-- the cut parameters the Bezier cases hand to the cutting loop (`monoClamp`, deac3eb) are non-decreasing
from 0, whatever the inverse arc length returns: with `splitAt_pieces_concat_quad/_cube` every piece is
the restriction of the segment to an interval `[t_k, t_(k+1)]` with `t_k ≤ t_(k+1)` - no piece runs
backwards -/
theorem splitAt_bezier_cuts_monotone {K : Type} [Field K] [LinearOrder K] [IsStrictOrderedRing K]
    (inv : List K) :
    (monoClamp (fun a b => decide (a < b)) 0 inv).Pairwise (· ≤ ·) ∧
      ∀ t ∈ monoClamp (fun a b => decide (a < b)) 0 inv, 0 ≤ t :=
  monoClamp_mono 0 inv

/-- The polish loop of `invSpeedApprox` (56b2370; `Canvas.C09.polish`, run bit-exactly against the real
SplitAt inside the SPLITAT correspondence), over an ordered field with exact operations, for ANY length
function `fLength`, speed `fp`, step sign `h`, requested length `L` and tolerance: starting from an
estimate between `tmin` and `tmax`, on exit
* either the residual `|fLength(t) - L|` is within the tolerance (0.001·total in the code), or all 10
  iterations were spent;
* `t` lies between `lo` and `hi`, and `lo`, `hi` lie between `tmin` and `tmax` (bracket invariant, by
  induction over the iterations; `Between` is order-free, so it covers arcs whose angle decreases). -/
theorem polish_exit_and_bracket {K : Type} [Field K] [LinearOrder K] [IsStrictOrderedRing K]
    (P : PolishOps K) (hP : ExactPolish P) (fL fp : K → K) (h L tol tmin tmax est : K)
    (hest : Between tmin tmax est) :
    let r := polishLoop P fL fp h L tol 10 ⟨est, tmin, tmax⟩
    (r.converged = true → |fL r.st.t - L| ≤ tol) ∧ (r.converged = false → r.iters = 10) ∧
      Between r.st.lo r.st.hi r.st.t ∧ Between tmin tmax r.st.lo ∧ Between tmin tmax r.st.hi ∧
      Between tmin tmax (polish P fL fp h L tol tmin tmax est) := by
  have hb : Bracket tmin tmax (⟨est, tmin, tmax⟩ : PState K) :=
    ⟨hest, between_left tmin tmax, between_right tmin tmax⟩
  obtain ⟨h1, h2, h3, _⟩ := polishLoop_spec hP fL fp h L tol tmin tmax 10 _ hb
  exact ⟨h2, h3, h1.t, h1.lo, h1.hi, between_trans h1.lo h1.hi h1.t⟩

/-- a position at the head of the (sorted) list that is not beyond the current position - a negative
position, or a second 0 - is never selected and, the positions being handled in order, suppresses
every later cut: such requests are outside the domain of the property (positions in [0, Length]) -/
theorem splitAt_nonpositive_position_blocks {K : Type} [Field K] [LinearOrder K] [IsStrictOrderedRing K]
    (O : SplitOps K) (hO : ExactOps O) (T d t : K) (ts : List K) (h : t ≤ T) :
    selectCuts O T d (t :: ts) = ([], t :: ts) := by
  have : O.lt T t = false := by simp [hO.lt, h]
  simp [selectCuts, this]

/-- Quadratic case of `SplitAt` (the control polygons `quadCase` hands to the builder are `cutsGen`)
for ANY cut parameters `ts` (whatever the inverse arc length
returns, as long as every parameter before the last one is below 1: `okCuts`): the emitted pieces are the curve on the
consecutive parameter intervals `[0,t₁], [t₁,t₂], …` and the remainder is the curve on `[tₙ,1]` —
the pieces concatenate geometrically to the original, each starting where the previous one ends. -/
theorem splitAt_pieces_concat_quad {K : Type} [Field K] [LinearOrder K] [IsStrictOrderedRing K] [Env K]
    (p : Quad K) (ts : List K) (h : okCuts 0 ts) :
    piecesOK Quad.pos p.pos 0 ts (quadCuts p 0 ts).1 ∧
      ∀ s, (quadCuts p 0 ts).2.pos s = p.pos (lastCut 0 ts + (1 - lastCut 0 ts) * s) :=
  cutsGen_ok Quad.pos _ _ (fun q => C03L.quad_left q.1 q.2.1 q.2.2) (fun q => C03L.quad_right q.1 q.2.1 q.2.2)
    p.pos ts 0 p h (fun s => by rw [sub_zero, zero_add, one_mul])

/-- once a cut parameter has reached 1 (two positions on the end of a Bezier; `t0 < 1.0` fails, 5884f31)
the loop splits at `tsub = 1`: the emitted piece is the whole remainder and the new remainder is its end
point - nothing is divided by `1 - t0 = 0` -/
theorem splitAt_cut_after_end {K : Type} [Field K] [LinearOrder K] [IsStrictOrderedRing K] [Env K]
    (r : Quad K) (t0 t : K) (ts : List K) (h : ¬ t0 < 1) :
    quadCuts r t0 (t :: ts) =
      (C03L.quadL r.1 r.2.1 r.2.2 1 :: (quadCuts (C03L.quadR r.1 r.2.1 r.2.2 1) t ts).1,
        (quadCuts (C03L.quadR r.1 r.2.1 r.2.2 1) t ts).2) ∧
    ∀ s, Quad.pos (C03L.quadL r.1 r.2.1 r.2.2 1) s = r.pos s ∧ Quad.pos (C03L.quadR r.1 r.2.1 r.2.2 1) s = r.pos 1 :=
  ⟨quadCuts_cons_end r t0 t ts h, quad_split_at_one r⟩

/-- the same for the cubic case -/
theorem splitAt_pieces_concat_cube {K : Type} [Field K] [LinearOrder K] [IsStrictOrderedRing K] [Env K]
    (p : Cubic K) (ts : List K) (h : okCuts 0 ts) :
    piecesOK Cubic.pos p.pos 0 ts (cubeCuts p 0 ts).1 ∧
      ∀ s, (cubeCuts p 0 ts).2.pos s = p.pos (lastCut 0 ts + (1 - lastCut 0 ts) * s) :=
  cutsGen_ok Cubic.pos _ _ (fun q => C03L.cub_left q.1 q.2.1 q.2.2.1 q.2.2.2)
    (fun q => C03L.cub_right q.1 q.2.1 q.2.2.1 q.2.2.2) p.pos ts 0 p h (fun s => by rw [sub_zero, zero_add, one_mul])

/-- and for straight segments (LineTo and the closing segment) -/
theorem splitAt_pieces_concat_line {K : Type} [Field K] [LinearOrder K] [IsStrictOrderedRing K] [Env K]
    (a b : Pt K) (ts : List K) :
    piecesOK linePos (GenK.Point.Interpolate a b) 0 ts (lineCuts a b a ts).1 ∧
      ∀ s, linePos (lineCuts a b a ts).2 s
        = GenK.Point.Interpolate a b (lastCut 0 ts + (1 - lastCut 0 ts) * s) := by
  have := lineCuts_ok a b ts 0
  rwa [interpolate_zero] at this

/-- never two large halves, whatever the arguments -/
theorem ellipseSplit_flags_never_both (gtPi : α → Bool) (d0 d1 : α) :
    ¬ ((splitFlags gtPi d0 d1).1 = true ∧ (splitFlags gtPi d0 d1).2 = true) := by
  rw [splitFlags_eq]
  cases gtPi d0 <;> simp

/-- `ellipseSplit` (flag logic): for an angle between the end angles of an arc of at most one full
turn, `large0`/`large1` are set exactly when the respective part spans more than π, and never both -/
theorem ellipseSplit_flags {K : Type} [Field K] [LinearOrder K] [IsStrictOrderedRing K]
    (pi th0 th1 th : K) (hb : (th0 ≤ th ∧ th ≤ th1) ∨ (th1 ≤ th ∧ th ≤ th0)) (hext : |th1 - th0| ≤ 2 * pi) :
    ((splitFlags (fun x => decide (pi < x)) |th - th0| |th - th1|).1 = true ↔ pi < |th - th0|) ∧
    ((splitFlags (fun x => decide (pi < x)) |th - th0| |th - th1|).2 = true ↔ pi < |th - th1|) ∧
    ¬ ((splitFlags (fun x => decide (pi < x)) |th - th0| |th - th1|).1 = true ∧
       (splitFlags (fun x => decide (pi < x)) |th - th0| |th - th1|).2 = true) := by
  -- the two parts add up to the extent of the arc, so at most one of them exceeds π
  have hsum : |th - th0| + |th - th1| = |th1 - th0| := by
    rcases hb with ⟨h1, h2⟩ | ⟨h1, h2⟩
    · rw [abs_of_nonneg (sub_nonneg.mpr h1), abs_of_nonpos (sub_nonpos.mpr h2),
        abs_of_nonneg (sub_nonneg.mpr (h1.trans h2)), neg_sub, add_comm, sub_add_sub_cancel]
    · rw [abs_of_nonpos (sub_nonpos.mpr h2), abs_of_nonneg (sub_nonneg.mpr h1),
        abs_of_nonpos (sub_nonpos.mpr (h1.trans h2)), neg_sub, neg_sub, sub_add_sub_cancel]
  rw [← hsum, two_mul] at hext
  -- only the second flag needs the hypotheses: the code sets it in the `else` of the first test
  refine ⟨?_, ?_, ellipseSplit_flags_never_both _ _ _⟩ <;> rw [splitFlags_eq]
  · exact decide_eq_true_iff
  · rw [Bool.and_eq_true, Bool.not_eq_true', decide_eq_false_iff_not, decide_eq_true_eq]
    exact and_iff_right_of_imp fun h1 h0 => not_lt.mpr hext (add_lt_add h0 h1)

/-! ## Length

`Canvas.C09.lengthFrom / pathLength` is the accumulation loop of `Path.Length`; its `Float` instance
with the transcribed segment lengths (math.Hypot, quadratic closed form, cubic 7-point and elliptic
5-point Gauss–Legendre sums from the extracted tables) is compared with the real `Length()` on every
check (`LENGTH`, `HYPOT` lines). -/

/-- Length is additive over concatenation of record arrays when the second one begins with a MoveTo
(any segment-length function, exact addition) -/
theorem length_additive_concat {K : Type} [AddCommMonoid K] (f : Pt K → Cmd K → K) (z p : Pt K)
    (xs ys : List (Cmd K)) :
    pathLength 0 (· + ·) f z (xs ++ .move p :: ys) =
      pathLength 0 (· + ·) f z xs + pathLength 0 (· + ·) f z (.move p :: ys) :=
  pathLength_append f z p xs ys

/-- Length additivity over `Append` (the C10 path model of `p.Append(q)`, including its handling of
empty operands and of a trailing MoveTo of the receiver) -/
theorem length_append {K : Type} [AddCommMonoid K] (f : Pt K → Cmd K → K) (z : Pt K) (p q : RPath K)
    (hp : StartsWithMove p.reverse) (hq : StartsWithMove q.reverse) :
    pathLength 0 (· + ·) f z (Path.append p q).reverse =
      pathLength 0 (· + ·) f z p.reverse + pathLength 0 (· + ·) f z q.reverse := by
  have hp0 : pathLength 0 (· + ·) f z (if isEmpty p then [] else p).reverse = pathLength 0 (· + ·) f z p.reverse := by
    split
    · next h => exact (pathLength_isEmpty f z p hp h).symm
    · rfl
  unfold Path.append
  dsimp only
  split
  · next h => rw [hp0, pathLength_isEmpty f z q hq h, add_zero]
  · rw [pathLength_cat f z _ q hq, pathLength_dropTrailingMove, hp0]

/-- full statement for `Join`: additivity for every pair of well-formed operands.  It needs the exact
Euclidean segment length (at a junction `Join` re-issues the first command of `q` through the builder,
which may merge two collinear LineTos into one) and is not proved. -/
def length_join_statement : Prop :=
  ∀ (K : Type) [AddCommMonoid K] (G : Geo K) (f : Pt K → Cmd K → K) (z : Pt K) (p q : RPath K),
    StartsWithMove p.reverse → StartsWithMove q.reverse →
    pathLength 0 (· + ·) f z (Path.join G p q).reverse =
      pathLength 0 (· + ·) f z p.reverse + pathLength 0 (· + ·) f z q.reverse

/-- proved part: `Join` without a junction (receiver closed, or end point ≠ start of `q`) and with
empty operands -/
theorem length_join_partial {K : Type} [AddCommMonoid K] (G : Geo K) (f : Pt K → Cmd K → K) (z : Pt K)
    (p q : RPath K) (hp : StartsWithMove p.reverse) (hq : StartsWithMove q.reverse)
    (hnoj : ∀ m c1 restf, q.reverse = m :: c1 :: restf →
      (headIsClose p || !G.ptEq (pos G p) m.arg12) = true) :
    pathLength 0 (· + ·) f z (Path.join G p q).reverse =
      pathLength 0 (· + ·) f z p.reverse + pathLength 0 (· + ·) f z q.reverse := by
  unfold Path.join
  split
  · next h => rw [pathLength_isEmpty f z q hq h, add_zero]
  · split
    · next h => rw [pathLength_isEmpty f z p hp h, zero_add]
    · split
      · next m c1 restf hrev => rw [if_pos (hnoj m c1 restf hrev)]; exact pathLength_cat f z p q hq
      · exact pathLength_cat f z p q hq

/-! ## Gauss–Legendre tables (literals extracted from util.go on every check) -/

/-- n = 3, 5, 7: |Σw − 2| < 2·10⁻⁶, nodes and weights symmetric, and Σ wᵢxᵢᵏ within 10⁻⁵ of ∫₋₁¹xᵏ
for every k ≤ 2n−1 -/
theorem gl_tables :
    glAccurate 3 GenC09.gl3 = true ∧ glAccurate 5 GenC09.gl5 = true ∧ glAccurate 7 GenC09.gl7 = true := by
  decide +kernel

/-- every literal is the correctly rounded digit string of the Gauss–Legendre rule: within half a
unit of its last printed digit (9 digits for n = 3, 6 for n = 5, 7; 5.1·10⁻⁷ covers the 5-digit node
0.90618) of the 16-digit reference rule, which itself integrates all monomials of degree ≤ 2n−1 to
10⁻¹⁴.  A changed digit in util.go breaks this theorem. -/
theorem gl_tables_pinned :
    closeTo GenC09.gl3 ref3 (51 / 100000000000) (1 / 100000000000000) = true ∧
    closeTo GenC09.gl5 ref5 (51 / 100000000) (51 / 100000000) = true ∧
    closeTo GenC09.gl7 ref7 (51 / 100000000) (51 / 100000000) = true ∧
    (momentsWithin 3 ref3 (1 / 100000000000000) && glSymmetric ref3 &&
     momentsWithin 5 ref5 (1 / 100000000000000) && glSymmetric ref5 &&
     momentsWithin 7 ref7 (1 / 100000000000000) && glSymmetric ref7) = true := by
  decide +kernel

/-- a closed triangle and an open polyline satisfy the hypotheses of the Reverse theorems -/
example : ∀ s ∈ ([⟨⟨0, 0⟩, [.line ⟨4, 0⟩, .line ⟨0, 3⟩], true⟩, ⟨⟨5, 5⟩, [.line ⟨6, 6⟩], false⟩] : List (SubPath Int)),
    s.RevOK eqExact ∧ SubPath.flatLines s = true := by
  intro s hs
  simp only [List.mem_cons, List.mem_nil_iff, or_false] at hs
  rcases hs with rfl | rfl <;> exact ⟨revOKb_sound eqExact _ (by decide), by decide⟩

example : toSubs ([.move ⟨0, 0⟩, .line ⟨4, 0⟩, .quad ⟨4, 3⟩ ⟨0, 3⟩, .close ⟨0, 0⟩, .move ⟨5, 5⟩, .line ⟨6, 6⟩] : List (Cmd Int))
    = some [⟨⟨0, 0⟩, [.line ⟨4, 0⟩, .quad ⟨4, 3⟩ ⟨0, 3⟩], true⟩, ⟨⟨5, 5⟩, [.line ⟨6, 6⟩], false⟩] := by
  decide

/-- exact scalar operations over the rationals (the geometric fields are irrelevant for `ExactOps`) -/
def ratOps : SplitOps Rat where
  zero := 0
  one := 1
  add a b := a + b
  sub a b := a - b
  div a b := a / b
  lt a b := decide (a < b)
  le a b := decide (a ≤ b)
  eq a b := decide (a = b)
  interp p _ _ := p
  quadL q _ := q
  quadR q _ := q
  cubeL q _ := q
  cubeR q _ := q
  ellipsePos _ _ _ cx cy _ := ⟨cx, cy⟩
  angleBetween _ _ _ := true
  absSub a b := if a < b then b - a else a - b
  gtPi _ := false

example : ExactOps ratOps := ⟨rfl, fun _ _ => rfl, fun _ _ => rfl, fun _ _ => rfl, fun _ _ => rfl⟩

/-- the interval walk on `M L L M L` with segment lengths 2, 3, 4 and positions 1, 2, 2, 6, 20: cuts at
1 and 2 (twice: an empty piece) in the first record - the second one at its very end -, at 6 in the
third record (second subpath); 20 lies beyond the length 9 and remains -/
example :
    (ivWalk ratOps [.move ⟨0, 0⟩, .line ⟨2, 0⟩, .line ⟨2, 3⟩, .move ⟨9, 9⟩, .line ⟨13, 9⟩]
      [⟨2, [], fun _ e => e, 0, 0, 0, 0⟩, ⟨3, [], fun _ e => e, 0, 0, 0, 0⟩, ⟨4, [], fun _ e => e, 0, 0, 0, 0⟩] 0 (ivInit 0 [1, 2, 2, 6, 20])).map
      (fun s => (s.pieces, s.rem)) =
    some ([[⟨0, 0, 1⟩], [⟨0, 1, 2⟩], [⟨0, 2, 2⟩], [⟨0, 2, 2⟩, ⟨1, 0, 3⟩, ⟨2, 0, 1⟩], [⟨2, 1, 4⟩]], [20]) := by
  decide +kernel

example : reverseVerdict eqExact
    [.move ⟨0, 0⟩, .line ⟨4, 0⟩, .line ⟨0, 3⟩, .close ⟨0, 0⟩]
    [.move ⟨0, 0⟩, .line ⟨0, 3⟩, .line ⟨4, 0⟩, .close ⟨0, 0⟩] = .ok := by decide

example : reverseVerdict eqExact
    [.move ⟨0, 0⟩, .line ⟨4, 0⟩, .line ⟨0, 3⟩, .close ⟨0, 0⟩]
    [.move ⟨0, 0⟩, .line ⟨0, 3⟩, .line ⟨4, 0⟩, .line ⟨0, 0⟩] = .fail "closedness" := by decide

example : ([⟨⟨0, 0⟩, [.line ⟨4, 0⟩, .line ⟨0, 3⟩], true⟩] : List (SubPath Int)).all (SubPath.revOKb eqExact) = true := by
  decide

example : StartsWithMove ([.line ⟨1, (2 : Int)⟩, .move ⟨0, 0⟩] : RPath Int).reverse :=
  Or.inr ⟨⟨0, 0⟩, [.line ⟨1, 2⟩], rfl⟩

example : pathLength 0 (· + ·) (fun (a : Pt Int) c => (c.endp.x - a.x).natAbs + (c.endp.y - a.y).natAbs)
    ⟨0, 0⟩ [.move ⟨0, 0⟩, .line ⟨3, 0⟩, .move ⟨1, 1⟩, .line ⟨1, 5⟩] = 7 := by decide

def ratPolish : PolishOps Rat where
  zero := 0
  add a b := a + b
  sub a b := a - b
  mul a b := a * b
  div a b := a / b
  abs a := |a|
  le a b := decide (a ≤ b)
  lt a b := decide (a < b)
  half a := a / 2
  copysign x s := if s < 0 then -|x| else |x|

example : ExactPolish ratPolish :=
  ⟨rfl, fun _ _ => rfl, fun _ _ => rfl, fun _ _ => rfl, fun _ => rfl, fun _ _ => rfl, fun _ _ => rfl, fun _ => rfl⟩

/-- Newton on fLength(t) = t² (speed 2t) for L = 1/4 from the estimate 1 in [0,1] with tolerance 1/1000:
converges in 3 steps to 3281/6560 ≈ 0.50015 -/
example : (polishLoop ratPolish (fun t => t * t) (fun t => 2 * t) 1 (1/4) (1/1000) 10 ⟨1, 0, 1⟩).converged = true ∧
    (polishLoop ratPolish (fun t => t * t) (fun t => 2 * t) 1 (1/4) (1/1000) 10 ⟨1, 0, 1⟩).iters = 3 := by
  decide +kernel

example : okCuts (0 : Rat) [1/4, 1/2, 1] :=
  ⟨by decide +kernel, by decide +kernel, by decide +kernel, trivial⟩

end C09
