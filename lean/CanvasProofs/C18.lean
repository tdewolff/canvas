import CanvasModel.C18
import CanvasProofs.Lemmas.C18Sub
import CanvasProofs.Lemmas.C18W
import CanvasProofs.Lemmas.C18TU
import CanvasProofs.Lemmas.C18TJ
import CanvasProofs.Lemmas.C18Content
-- no tactic of it is used: the `Zero` of `List.sum` comes from Mathlib's instances, `Int.instSemiring` in
-- `sumX` and `sumY`, `Nat.instMulZeroClass` in `toPath_point_count`
import Mathlib.Tactic.Ring

/-! # C18 — Embedded fonts and glyph paths reproduce the laid-out text

Theorems about the hand-written models in `CanvasModel/C18.lean` (tied to /repo by the correspondence
run of `bin/check C18`).  All quantifiers are unbounded: every `Get` history, every width list, every
list of Unicode scalar values, every advance, every glyph list. -/
namespace C18
open Canvas.C18 C18L

/-- `.notdef` stays at zero: after any history `IDs[0] = 0` and `Get(0)` returns `0`. -/
theorem subsetter_notdef_zero (h : List Nat) (hb : ∀ g ∈ h, g < 65536) :
    (Sub.new.run h).1.ids[0]? = some 0 ∧ ((Sub.new.run h).1.get 0).2 = 0 := by
  have r := run_spec h Sub.new inv_new hb
  have h0 := Canvas.getElem?_of_prefix r.grows (rfl : Sub.new.ids[0]? = some 0)
  refine ⟨h0, ?_⟩
  rw [get_old (r.inv.lookup h0)]

/-- `IDs[Get g] = g`: every code handed out during the history names its glyph in the final table. -/
theorem subsetter_ids_get (h : List Nat) (hb : ∀ g ∈ h, g < 65536) :
    ∀ p ∈ h.zip (Sub.new.run h).2, (Sub.new.run h).1.ids[p.2]? = some p.1 :=
  (run_spec h Sub.new inv_new hb).ids_get

theorem subsetter_codes_length (h : List Nat) (hb : ∀ g ∈ h, g < 65536) :
    (Sub.new.run h).2.length = h.length :=
  (run_spec h Sub.new inv_new hb).length

/-- `Get` is a function of the glyph over the whole history (a code never changes once assigned). -/
theorem subsetter_function (h : List Nat) (hb : ∀ g ∈ h, g < 65536) (g c c' : Nat)
    (h1 : (g, c) ∈ h.zip (Sub.new.run h).2) (h2 : (g, c') ∈ h.zip (Sub.new.run h).2) : c = c' := by
  have r := run_spec h Sub.new inv_new hb
  exact Option.some.inj ((r.inv.lookup (r.ids_get _ h1)).symm.trans (r.inv.lookup (r.ids_get _ h2)))

/-- `Get` is injective: two glyphs never share a code. -/
theorem subsetter_injective (h : List Nat) (hb : ∀ g ∈ h, g < 65536) (g g' c : Nat)
    (h1 : (g, c) ∈ h.zip (Sub.new.run h).2) (h2 : (g', c) ∈ h.zip (Sub.new.run h).2) : g = g' := by
  have r := run_spec h Sub.new inv_new hb
  exact Option.some.inj ((r.ids_get _ h1).symm.trans (r.ids_get _ h2))

/-- codes are dense: every code is an index into `IDs` (so the subset font has a glyph for it). -/
theorem subsetter_code_lt (h : List Nat) (hb : ∀ g ∈ h, g < 65536) (g c : Nat)
    (h1 : (g, c) ∈ h.zip (Sub.new.run h).2) : c < (Sub.new.run h).1.ids.length := by
  exact (List.getElem?_eq_some_iff.1 (subsetter_ids_get h hb _ h1)).1

/-- `IDs` has no duplicates and is bounded by the uint16 code space, so `uint16(len(IDs))` never wraps. -/
theorem subsetter_nodup (h : List Nat) (hb : ∀ g ∈ h, g < 65536) :
    (Sub.new.run h).1.ids.Nodup ∧ (Sub.new.run h).1.ids.length ≤ 65536 := by
  have i := (run_spec h Sub.new inv_new hb).inv
  exact ⟨i.nodup, Canvas.nodup_bounded_length 65536 _ i.nodup i.bound⟩

theorem run_append (s : Sub) (h1 h2 : List Nat) :
    s.run (h1 ++ h2) = (((s.run h1).1.run h2).1, (s.run h1).2 ++ ((s.run h1).1.run h2).2) := by
  induction h1 generalizing s with
  | nil => simp [Sub.run]
  | cons g h ih => simp [Sub.run, ih]

/-- Stability under continuation: extending a history neither changes the codes already returned nor the
table entries already made (`IDs` only grows at the end). -/
theorem subsetter_stable (h1 h2 : List Nat) (hb : ∀ g ∈ h1 ++ h2, g < 65536) :
    (Sub.new.run (h1 ++ h2)).2.take h1.length = (Sub.new.run h1).2 ∧
    (Sub.new.run h1).1.ids <+: (Sub.new.run (h1 ++ h2)).1.ids := by
  obtain ⟨hb1, hb2⟩ := List.forall_mem_append.1 hb
  have r := run_spec h1 Sub.new inv_new hb1
  rw [run_append]
  exact ⟨by simp [← r.length], (run_spec h2 _ r.inv hb2).grows⟩

/-- What a §9.7.4.3 reader computes for each CID of the list is the width that was put in — for every
run-length threshold, in particular the `4` of the source. -/
theorem w_cid_lookup_any_threshold (thr : Nat) (ws : List Int) (hne : ws ≠ []) (cid : Nat) (hc : cid < ws.length) :
    lookupW (encodeWT thr ws).1 (encodeWT thr ws).2 cid = ws[cid] := by
  have hlen : (wWidths ws).length = ws.length + 1 := List.length_append
  have hpos := List.length_pos_iff.2 hne
  have inv := winv_all (thr := thr) rfl (show 2 ≤ (wWidths ws).length by omega) (Nat.le_refl _)
  simp only [encodeWT]
  rw [lookup_finish inv.emitted (show cid < (wWidths ws).length by omega)]
  simp [wWidths, List.getD, List.getElem?_append_left hc, List.getElem?_eq_getElem hc]

theorem w_cid_lookup (ws : List Int) (hne : ws ≠ []) (cid : Nat) (hc : cid < ws.length) :
    lookupW (encodeW ws).1 (encodeW ws).2 cid = ws[cid] :=
  w_cid_lookup_any_threshold 4 ws hne cid hc

/-- `decodeW DW (encodeW ws) = ws` for every non-empty width list (`.notdef` is always present). -/
theorem w_roundtrip (ws : List Int) (hne : ws ≠ []) :
    decodeW (encodeW ws).1 (encodeW ws).2 ws.length = ws := by
  apply List.ext_getElem
  · simp [decodeW]
  · intro k h1 h2
    simp only [decodeW, List.getElem_map, List.getElem_range]
    exact w_cid_lookup ws hne k h2

/-- DW is the width of `.notdef` (CID 0), which is never listed in W. -/
theorem w_dw (ws : List Int) (hne : ws ≠ []) : (encodeW ws).1 = ws[0]'(by cases ws with | nil => exact absurd rfl hne | cons a t => simp) := by
  cases ws with
  | nil => exact absurd rfl hne
  | cons a t => rfl

/-- `decode (encode us) = us` under the strict §9.10.3 reader for every list of Unicode
scalar values (the builder closes a bfrange before the last byte of its destination would pass 0xFF). -/
theorem tounicode_roundtrip (us : List Nat) (hv : ∀ u ∈ us, validScalar u = true) :
    decodeTU (encodeTU us).1 (encodeTU us).2 us.length = us.map some := by
  apply List.ext_getElem
  · simp [decodeTU]
  · intro k _ hk
    rw [List.length_map] at hk
    simp only [decodeTU, List.getElem_map, List.getElem_range]
    exact tuLookup_encodeTU us hv k hk

theorem tounicode_notdef (us : List Nat) :
    tuLookup (encodeTU us).1 (encodeTU us).2 0 = some 0xFFFD := by
  rw [encodeTU, encodeTUP_spec _ 0 0xFFFD rfl]
  decide

/-- since /repo 6081df5 a run over the `..FF → ..00` step is written as two entries -/
theorem tounicode_low_byte_split :
    encodeTU [0xFE, 0xFF, 0x100, 0x101] = ([(1, 2, 0xFE), (3, 4, 0x100)], [(0, 0xFFFD)]) ∧
    encodeTU [0xFF, 0x100] = ([], [(0, 0xFFFD), (1, 0xFF), (2, 0x100)]) := by
  decide

example : decodeTU (encodeTU [0x1F0FF, 0x1F100]).1 (encodeTU [0x1F0FF, 0x1F100]).2 2 = [some 0x1F0FF, some 0x1F100] := by
  decide
example : decodeTU (encodeTU [72, 101, 108, 109, 0x1F600, 0x1F601]).1 (encodeTU [72, 101, 108, 109, 0x1F600, 0x1F601]).2 6
    = [some 72, some 101, some 108, some 109, some 0x1F600, some 0x1F601] := by decide

/-! Drift is in units of 1/(2000·upm) em: `tjAdjust upm dx` is written into the TJ array for an advance
correction of `dx` font units, and a reader moves the pen by `-(tjAdjust upm dx)/1000` em where the layout
asked for `dx/upm` em. -/

/-- corrections with `1000·dx/upm ≥ -1/2`: rounded to nearest, |error| ≤ 1/2 thousandth of an em -/
theorem tj_drift_nonneg (upm dx : Int) (hu : 0 < upm) (h : 0 ≤ 2000 * dx + upm) :
    - upm < 2 * upm * (- tjAdjust upm dx) - 2000 * dx ∧ 2 * upm * (- tjAdjust upm dx) - 2000 * dx ≤ upm := by
  simp only [tjAdjust, neg_neg]
  exact round_err_nonneg (2000 * dx) upm hu h

/-- negative corrections are truncated the wrong way: the pen ends between 1/2 and 3/2 thousandths of an
em to the right of where the layout put it (the exact rounding asymmetry of `int(x+0.5)` for `x < -1/2`) -/
theorem tj_drift_neg (upm dx : Int) (hu : 0 < upm) (h : 2000 * dx + upm < 0) :
    upm ≤ 2 * upm * (- tjAdjust upm dx) - 2000 * dx ∧ 2 * upm * (- tjAdjust upm dx) - 2000 * dx < 3 * upm := by
  simp only [tjAdjust, neg_neg]
  exact round_err_neg (2000 * dx) upm hu h

/-- per-glyph drift bound for every correction: strictly less than 3/2 thousandths of an em -/
theorem tj_drift (upm dx : Int) (hu : 0 < upm) :
    - upm < 2 * upm * (- tjAdjust upm dx) - 2000 * dx ∧ 2 * upm * (- tjAdjust upm dx) - 2000 * dx < 3 * upm := by
  rcases Int.lt_or_le (2000 * dx + upm) 0 with h | h
  · have := tj_drift_neg upm dx hu h
    omega
  · have := tj_drift_nonneg upm dx hu h
    omega

/-- the asymmetry is real: a kern of −50/1000 em is written as 49, a correction of −1/1000 em is lost -/
theorem tj_negative_witness : tjAdjust 1000 (-50) = 49 ∧ tjAdjust 1000 (-1) = 0 ∧ tjAdjust 1000 50 = -50 := by
  decide

/-- W widths (advances are unsigned): rounded to nearest, |error| ≤ 1/2 thousandth of an em -/
theorem w_width_drift (upm adv : Int) (hu : 0 < upm) (ha : 0 ≤ adv) :
    - upm < 2 * upm * wWidth upm adv - 2000 * adv ∧ 2 * upm * wWidth upm adv - 2000 * adv ≤ upm := by
  simp only [wWidth]
  exact round_err_nonneg (2000 * adv) upm hu (by omega)

/-! Pen positions of `toPath` and `textWidth` are in font units; the code multiplies by `MmPerEm`. -/

def sumX (gs : List G) : Int := (gs.map (·.xadv)).sum
def sumY (gs : List G) : Int := (gs.map (·.yadv)).sum

/-- glyph `k` is placed at the face offset plus the sum of the preceding advances plus its own offset -/
theorem topath_positions (gs : List G) (x y : Int) (k : Nat) (hk : k < gs.length) :
    (penRun x y gs).1[k]? = some (x + sumX (gs.take k) + gs[k].xoff, y + sumY (gs.take k) + gs[k].yoff) := by
  induction gs generalizing x y k with
  | nil => simp at hk
  | cons g gs ih =>
    cases k with
    | zero => simp [penRun, sumX, sumY]
    | succ k =>
      simp only [penRun, List.getElem?_cons_succ, List.take_succ_cons, List.getElem_cons_succ]
      rw [ih (x + g.xadv) (y + g.yadv) k (Nat.lt_of_succ_lt_succ hk)]
      simp only [sumX, sumY, List.map_cons, List.sum_cons, Int.add_assoc]

/-- the returned pen position is the face offset plus all horizontal advances -/
theorem topath_final (gs : List G) (x y : Int) : (penRun x y gs).2 = x + sumX gs := by
  induction gs generalizing x y with
  | nil => simp [penRun, sumX]
  | cons g gs ih =>
    simp only [penRun, ih, sumX, List.map_cons, List.sum_cons, Int.add_assoc]

/-- for horizontal glyphs the width returned by `toPath` is `XOffset + textWidth` (equal when the face has
no horizontal offset) -/
theorem topath_width_textwidth (gs : List G) (x y : Int) (hh : ∀ g ∈ gs, g.vert = false) :
    (penRun x y gs).2 = x + textWidthUnits gs := by
  induction gs generalizing x y with
  | nil => exact (Int.add_zero x).symm
  | cons g gs ih =>
    obtain ⟨hg, hgs⟩ := List.forall_mem_cons.1 hh
    simp [penRun, textWidthUnits, hg, ih _ _ hgs, Int.add_assoc]

theorem topath_count (gs : List G) (x y : Int) : (penRun x y gs).1.length = gs.length := by
  induction gs generalizing x y with
  | nil => simp [penRun]
  | cons g gs ih => simp [penRun, ih]

theorem glyphPts_scale (f px py : Int) (o : List (Int × Int)) :
    glyphPts f px py o = scalePts f (glyphPts 1 px py o) := by
  simp [glyphPts, scalePts, Int.mul_add]

/-- `toPath` at scale `f` = `f ·` (`toPath` at scale 1), for every face offset, glyph list and outline: the
result depends on nothing else (no `ppem`, no history). -/
theorem toPath_scale_unit (f x y : Int) (gs : List (G × List (Int × Int))) :
    toPathPts f x y gs = scalePts f (toPathPts 1 x y gs) := by
  induction gs generalizing x y with
  | nil => simp [toPathPts, scalePts]
  | cons go gs ih =>
    obtain ⟨g, o⟩ := go
    simp only [toPathPts]
    rw [ih, glyphPts_scale]
    simp [scalePts]

/-- outlines of two faces of one font are proportional: `f₀ · outline(f) = f · outline(f₀)` -/
theorem toPath_scale_linear (f f0 x y : Int) (gs : List (G × List (Int × Int))) :
    scalePts f0 (toPathPts f x y gs) = scalePts f (toPathPts f0 x y gs) := by
  rw [toPath_scale_unit f, toPath_scale_unit f0]
  simp [scalePts, Int.mul_left_comm f0 f]

/-- every glyph contributes exactly its outline points (nothing dropped, nothing shared between glyphs) -/
theorem toPath_point_count (f x y : Int) (gs : List (G × List (Int × Int))) :
    (toPathPts f x y gs).length = (gs.map (fun go => go.2.length)).sum := by
  induction gs generalizing x y with
  | nil => simp [toPathPts]
  | cons go gs ih =>
    obtain ⟨g, o⟩ := go
    simp [toPathPts, glyphPts, ih]

/-- For every list of codes: a §7.3.4.2 reader that has consumed `(` reads the written bytes up to the
closing parenthesis as exactly the big-endian code bytes, and stops right behind it. -/
theorem content_string_roundtrip (cs rest : List Nat) :
    readLit LSt.start (escCodes cs ++ 41 :: rest) = some (allCodeBytes cs, rest) := by
  have := readLit_escCodes cs [] (41 :: rest)
  simp only [LSt.start]
  rw [this]
  simp [readLit, litStep, litNormal]

/-- the two-byte codes come back from the bytes (codes are uint16) -/
theorem content_codes_roundtrip (cs : List Nat) (hb : ∀ c ∈ cs, c < 65536) :
    codesOfBytes (allCodeBytes cs) = some cs := by
  induction cs with
  | nil => rfl
  | cons c cs ih =>
    obtain ⟨hc, hcs⟩ := List.forall_mem_cons.1 hb
    simp only [allCodeBytes, codeBytes, List.cons_append, List.nil_append, codesOfBytes]
    rw [ih hcs, Option.map_some, Canvas.be16, Nat.mod_eq_of_lt hc]

/-- Reading the array `WriteText` builds (§9.4.3) gives every glyph's code in order, each followed by the
rounded adjustment of its own advance difference (none when the advance is the font's), and no leading
adjustment. -/
theorem tj_read_build (upm : Int) (gs : List (Nat × Int)) :
    tjRead (tjBuild upm gs) = (0, gs.map (tjSpec upm)) :=
  tjRead_go upm [] gs

/-- accumulated pen error of a glyph run in units of 1/(2000·upm) em: what the reader adds up
(`-(adjustment)` thousandths per glyph) minus what the layout asked for (`dx/upm` em per glyph) -/
def tjError (upm : Int) : List (Nat × Int) → Int
  | [] => 0
  | g :: gs => (2 * upm * (- (tjSpec upm g).2) - 2000 * g.2) + tjError upm gs

/-- Error bound for a whole run: after `n` glyphs the pen is at most `n/2` thousandths of an em left and
`3n/2` right of the laid-out position (the one-sided bias of `int(x+0.5)` for negative `x`). -/
theorem tj_error_total (upm : Int) (hu : 0 < upm) (gs : List (Nat × Int)) :
    - (upm * gs.length) ≤ tjError upm gs ∧ tjError upm gs ≤ 3 * upm * gs.length := by
  induction gs with
  | nil => simp [tjError]
  | cons g gs ih =>
    -- one glyph: no error without an adjustment, else the drift of the rounded adjustment
    have d := tj_drift upm g.2 hu
    simp only [tjError, tjSpec, List.length_cons, Nat.cast_succ, mul_add, mul_one]
    split <;> omega

/-- and without any adjusted glyph there is no error at all -/
theorem tj_error_none (upm : Int) (gs : List (Nat × Int)) (h : ∀ g ∈ gs, g.2 = 0) : tjError upm gs = 0 := by
  induction gs with
  | nil => rfl
  | cons g gs ih =>
    obtain ⟨hg, hgs⟩ := List.forall_mem_cons.1 h
    simp [tjError, tjSpec, hg, ih hgs]

/-- the CIDToGIDMap stream reads back the glyph list, for every list of uint16 glyph IDs -/
theorem cidmap_roundtrip (ids : List Nat) (hb : ∀ g ∈ ids, g < 65536) (cid : Nat) :
    cidToGid (encodeCidMap ids) cid = ids[cid]? := by
  induction ids generalizing cid with
  | nil => rfl
  | cons g gs ih =>
    obtain ⟨hg, hgs⟩ := List.forall_mem_cons.1 hb
    cases cid with
    | zero => exact congrArg some ((Canvas.be16 g).trans (Nat.mod_eq_of_lt hg))
    | succ k => exact ih hgs k

/-- Glyph selection end to end: after any history of `Get` calls, the code that was written into the
content stream for glyph `g` selects exactly `g` of the source font — when a subset program is embedded, and
for TrueType fonts whenever the full program is embedded (CIDToGIDMap stream). -/
theorem code_selects_glyph_partial (subset trueType : Bool) (hmode : subset = true ∨ trueType = true)
    (h : List Nat) (hb : ∀ g ∈ h, g < 65536) (g c : Nat)
    (hgc : (g, c) ∈ h.zip (Sub.new.run h).2) : codeGlyph subset trueType (Sub.new.run h).1.ids c = some g := by
  have r := run_spec h Sub.new inv_new hb
  have hs := r.ids_get _ hgc
  unfold codeGlyph
  cases subset with
  | true => simpa using hs
  | false =>
    have ht : trueType = true := by simpa using hmode
    simp only [Bool.false_eq_true, if_false, ht, if_true]
    rw [cidmap_roundtrip _ r.inv.bound]
    exact hs

/-- TrueType fonts need no hypothesis on the mode: whatever the SubsetFonts option and whether or not
`sfnt.Subset` succeeded (the fallback of /repo 788048f writes the stream), every code shows the laid-out glyph. -/
theorem code_selects_glyph_truetype (wanted subsetOK : Bool) (h : List Nat) (hb : ∀ g ∈ h, g < 65536) (g c : Nat)
    (hgc : (g, c) ∈ h.zip (Sub.new.run h).2) :
    fontCodeGlyph wanted subsetOK true (Sub.new.run h).1.ids c = some g :=
  code_selects_glyph_partial _ true (Or.inr rfl) h hb g c hgc

/-- for CFF fonts: whenever the subset program is embedded -/
theorem code_selects_glyph_cff_subset (h : List Nat) (hb : ∀ g ∈ h, g < 65536) (g c : Nat)
    (hgc : (g, c) ∈ h.zip (Sub.new.run h).2) :
    fontCodeGlyph true true false (Sub.new.run h).1.ids c = some g :=
  code_selects_glyph_partial true false (Or.inl rfl) h hb g c hgc

/-- the full statement (every font format and embedding outcome); it does not hold for /repo as it stands
(`code_selects_glyph_statement_false`) -/
def code_selects_glyph_statement : Prop :=
  ∀ (wanted subsetOK trueType : Bool) (h : List Nat), (∀ g ∈ h, g < 65536) → ∀ g c,
    (g, c) ∈ h.zip (Sub.new.run h).2 → fontCodeGlyph wanted subsetOK trueType (Sub.new.run h).1.ids c = some g

/-- Witness of the remaining defect: an OpenType/CFF font embedded whole (SubsetFonts off, or subsetting
failed). The first glyph used, say glyph 5, gets code 1; the CIDToGIDMap stream that would translate 1 ↦ 5
does not apply to a CIDFontType0, a conforming reader shows glyph 1. -/
theorem cff_whole_font_witness :
    (Sub.new.run [5]).2 = [1] ∧ fontCodeGlyph false true false (Sub.new.run [5]).1.ids 1 = some 1 ∧
    fontCodeGlyph true false false (Sub.new.run [5]).1.ids 1 = some 1 := by decide

theorem code_selects_glyph_statement_false : ¬ code_selects_glyph_statement := by
  intro h
  have := h false true false [5] (by decide) 5 1 (by decide)
  revert this
  decide

example : codeGlyph true false (Sub.new.run [5, 7, 5, 300]).1.ids 3 = some 300 := by decide
example : fontCodeGlyph true false true (Sub.new.run [5, 7, 5, 300]).1.ids 3 = some 300 := by decide

theorem w_font_lookup (upm : Int) (advs : List Int) (hne : advs ≠ []) (cid : Nat) (hc : cid < advs.length) :
    lookupW (fontW upm advs).1 (fontW upm advs).2 cid = wWidth upm advs[cid] := by
  have := w_cid_lookup (advs.map (wWidth upm)) (by simpa using hne) cid (by simpa using hc)
  simpa [fontW] using this

/-- the width a reader uses for a glyph is its advance in thousandths of an em rounded to nearest -/
theorem w_font_error (upm : Int) (hu : 0 < upm) (advs : List Int) (ha : ∀ a ∈ advs, 0 ≤ a) (hne : advs ≠ [])
    (cid : Nat) (hc : cid < advs.length) :
    - upm < 2 * upm * lookupW (fontW upm advs).1 (fontW upm advs).2 cid - 2000 * advs[cid] ∧
    2 * upm * lookupW (fontW upm advs).1 (fontW upm advs).2 cid - 2000 * advs[cid] ≤ upm := by
  rw [w_font_lookup upm advs hne cid hc]
  exact w_width_drift upm advs[cid] hu (ha _ (List.getElem_mem hc))

example : tjRead (tjBuild 1000 [(1, 0), (2, -50), (3, 0), (4, 7)]) = (0, [(1, 0), (2, 49), (3, 0), (4, -7)]) := by decide
example : readLit LSt.start (escCodes [10, 40, 0x5C29, 65] ++ 41 :: [32]) = some ([0, 10, 0, 40, 0x5C, 0x29, 0, 65], [32]) := by decide
example : codeGlyph false true (Sub.new.run [5, 7, 5, 300]).1.ids 3 = some 300 := by decide

/-- verdict "ok" ⇒ for every code of the font a §9.7.4.3 reader gets the rounded advance of the glyph and a
strict §9.10.3 reader gets its character. -/
theorem fontVerdict_sound (o : FontObs) (h : fontVerdict o = none) (k : Nat) (hk : k < o.advs.length) :
    lookupW o.dw o.w k = wWidth o.upm (o.advs.getD k 0) ∧
    ∀ u, o.unis.getD k none = some u → tuLookup o.ranges o.chars k = some u := by
  have := List.find?_eq_none.1 h k (List.mem_range.2 hk)
  simp only [Bool.not_eq_true, Bool.not_eq_false', codeOK, Bool.and_eq_true, beq_iff_eq] at this
  refine ⟨this.1, fun u hu => ?_⟩
  have h2 := this.2
  rw [hu] at h2
  simpa using h2

/-- verdict `some k` ⇒ code `k` really is wrong (the verdict never alarms on a correct table) -/
theorem fontVerdict_complete (o : FontObs) (k : Nat) (h : fontVerdict o = some k) : codeOK o k = false := by
  have := List.find?_some h
  simpa using this

/-- the writer's own tables always pass: W built by `fontW`, ToUnicode built by `encodeTU` (codes 1…n carry
the glyphs' runes, code 0 is `.notdef`) -/
theorem fontVerdict_of_model (upm : Int) (advs : List Int) (us : List Nat) (hne : advs ≠ [])
    (hlen : advs.length = us.length + 1) (hv : ∀ u ∈ us, validScalar u = true) :
    fontVerdict ⟨upm, advs, none :: us.map some, (fontW upm advs).1, (fontW upm advs).2,
      (encodeTU us).1, (encodeTU us).2⟩ = none := by
  apply List.find?_eq_none.2
  intro k hk
  have hk' : k < advs.length := List.mem_range.1 hk
  have hw := w_font_lookup upm advs hne k hk'
  cases k with
  | zero => simp [codeOK, hw, hk']
  | succ j =>
    have hj : j < us.length := by omega
    simp [codeOK, hw, hk', hj, tuLookup_encodeTU us hv j hj]

/-! non-vacuity: the hypotheses of the theorems above are met by ordinary inputs -/

example : (Sub.new.run [36, 72, 0, 36, 65535]).2 = [1, 2, 0, 1, 3] ∧ (Sub.new.run [36, 72, 0, 36, 65535]).1.ids = [0, 36, 72, 65535] := by decide
example : ∀ g ∈ [36, 72, 0, 36, 65535], g < 65536 := by decide
example : decodeW (encodeW [600, 500, 500, 500, 500, 500, 500, 300, 600, 600, 600, 600, 600, 0]).1
    (encodeW [600, 500, 500, 500, 500, 500, 500, 300, 600, 600, 600, 600, 600, 0]).2 14
    = [600, 500, 500, 500, 500, 500, 500, 300, 600, 600, 600, 600, 600, 0] :=
  w_roundtrip _ (by decide)
example : ∀ u ∈ [0x48, 0xFF, 0x100, 0x1F600], validScalar u = true := by decide
example : (0 : Int) < 2048 ∧ - (2048 * 3) ≤ tjError 2048 [(1, -50), (2, 0), (3, 7)] ∧ tjError 2048 [(1, -50), (2, 0), (3, 7)] ≤ 3 * 2048 * 3 :=
  ⟨by decide, (tj_error_total 2048 (by decide) [(1, -50), (2, 0), (3, 7)]).1, (tj_error_total 2048 (by decide) _).2⟩
example : tjError 2048 [(1, -50), (2, 0), (3, 7)] = 4080 := by decide
example : fontVerdict ⟨1000, [500, 600, 600], [none, some 65, some 66], 500, [WEnt.arr 1 [600, 600, 0]], [(1, 2, 65)], [(0, 0xFFFD)]⟩ = none := by decide
example : fontVerdict ⟨1000, [500, 600, 700], [none, some 65, some 66], 500, [WEnt.arr 1 [600, 600, 0]], [(1, 2, 65)], [(0, 0xFFFD)]⟩ = some 2 := by decide
example : scalePts 3 (toPathPts 2 10 20 [(⟨5, 0, 1, 2, false⟩, [(0, 0), (4, 7)])]) = scalePts 2 (toPathPts 3 10 20 [(⟨5, 0, 1, 2, false⟩, [(0, 0), (4, 7)])]) :=
  toPath_scale_linear 2 3 10 20 _

end C18
