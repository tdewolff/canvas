import CanvasProofs.Lemmas.C17Optimal
import CanvasProofs.Lemmas.C17Term
import CanvasProofs.Lemmas.C17BPList
import CanvasProofs.Lemmas.C17Verdict
import Mathlib.Algebra.Order.Ring.Rat

/-! # C17 — `text.Linebreak` (Knuth–Plass line breaking)

Theorems about the hand-written model `Canvas.C17.linebreak` (CanvasModel/C17.lean), which is tied to
/repo/text/linebreak.go by bit-exact correspondence of its `Float` instance on every run.

The structural theorems hold for **every** scalar type and **every** interpretation of
`+ - * / < ≤ ==` (in particular for the `Float` instance that is compared with the Go code); the
only law used is reflexivity of `==` (`hrefl`, false only for NaN). The precondition of the
property — the paragraph ends in a forced break — is `hlen/hfo/hle`. -/
set_option linter.unusedSectionVars false
namespace C17
open Canvas.C17

section
variable {α : Type} [Add α] [Sub α] [Mul α] [Div α] [Neg α] [LT α] [LE α] [BEq α]
  [DecidableLT α] [DecidableLE α] [NatCast α]

/-- The returned breakpoints are strictly increasing and every one of them is a legal breakpoint
(a penalty below +Infinity, or glue directly after a box and not directly before a penalty). -/
theorem legal_increasing (hrefl : ∀ a : α, (a == a) = true) (P : Params α) (items : List (Item α)) (lineW : α)
    (loose : Int) (breaks : List (ND α)) (fit : Bool) (m : Nat) (hlen : items.length = m + 1)
    (hfo : forcedAt P items m = true) (hle : legalAt P items m = true)
    (h : linebreak P items lineW loose = Outcome.ok breaks fit) :
    (breaks.map (·.pos)).Pairwise (· < ·) ∧ ∀ d, d ∈ breaks → legalAt P items d.pos = true := by
  obtain ⟨tol, c, anc, hch, rfl, _, _, _⟩ := result_chain hrefl hlen hfo hle h
  constructor
  · rw [List.map_reverse, fixNonRoot_pos, List.pairwise_reverse]
    exact chain_sorted hch
  · intro d hd
    have : d.pos ∈ nonRootPos (c :: anc) := by
      rw [← fixNonRoot_pos P]
      exact List.mem_map_of_mem (List.mem_reverse.mp hd)
    exact chain_legal hch this

/-- The breaking ends at the final forced break. -/
theorem ends_at_final (hrefl : ∀ a : α, (a == a) = true) (P : Params α) (items : List (Item α)) (lineW : α)
    (loose : Int) (breaks : List (ND α)) (fit : Bool) (m : Nat) (hlen : items.length = m + 1)
    (hfo : forcedAt P items m = true) (hle : legalAt P items m = true)
    (h : linebreak P items lineW loose = Outcome.ok breaks fit) :
    (breaks.getLast?).map (·.pos) = some m := by
  obtain ⟨tol, c, anc, _, rfl, hpos, hanc, _⟩ := result_chain hrefl hlen hfo hle h
  rw [fixNonRoot_getLast P c hanc]
  exact congrArg some hpos

/-- Every forced break is among the returned breakpoints — also when overflow is reported (the
overflow fallback only picks parents at or after the last forced break). -/
theorem forced_included (hrefl : ∀ a : α, (a == a) = true) (P : Params α) (items : List (Item α)) (lineW : α)
    (loose : Int) (breaks : List (ND α)) (fit : Bool) (m : Nat) (hlen : items.length = m + 1)
    (hfo : forcedAt P items m = true) (hle : legalAt P items m = true)
    (h : linebreak P items lineW loose = Outcome.ok breaks fit) :
    ∀ f, forcedAt P items f = true → legalAt P items f = true → f ∈ breaks.map (·.pos) := by
  obtain ⟨tol, c, anc, _, rfl, _, _, hforced⟩ := result_chain hrefl hlen hfo hle h
  intro f hf hl
  rw [List.map_reverse, fixNonRoot_pos]
  exact List.mem_reverse.mpr (hforced f hf hl)

/-- Every returned breakpoint — with or without overflow — reports the measures of its line
(`LinesAnyr`, breakpoints latest first): `Width` is the running width at the break (plus the width of
a penalty) minus the sums after the previous break; and either (`LineOK`) the line's adjustment
ratio `r`, computed from the same sums, lies in `[-1, tol]` for the tolerance `tol` of the pass that
completed and `Ratio` is `r` (0 if `r > Tolerance` after a relaxation), or (`LineFb`) the breakpoint
was made by the overflow fallback and reports `Ratio` 0 and class 1. -/
theorem reported_widths_ratios (hrefl : ∀ a : α, (a == a) = true) (P : Params α) (items : List (Item α))
    (lineW : α) (loose : Int) (breaks : List (ND α)) (fit : Bool) (m : Nat) (hlen : items.length = m + 1)
    (hfo : forcedAt P items m = true) (hle : legalAt P items m = true)
    (h : linebreak P items lineW loose = Outcome.ok breaks fit) :
    ∃ tol, LinesAnyr P items lineW tol breaks.reverse ∧ WidthsOKr P items breaks.reverse := by
  obtain ⟨tol, c, anc, hch, rfl, _, _, _⟩ := result_chain hrefl hlen hfo hle h
  rw [List.reverse_reverse]
  exact ⟨tol, chain_lines_any hch, linesAny_widths (chain_lines_any hch)⟩

/-- When no overflow is reported, no returned breakpoint is a fallback breakpoint: every one reports the measures of its line:
`Width` is the running width at the break (plus the width of a penalty) minus the sums after the
previous break, the line's adjustment ratio `r` computed from the same sums lies in `[-1, tol]` for
the tolerance `tol` of the pass that completed, and `Ratio` is `r` (or 0 if `r > Tolerance` after
a relaxation). `LinesOKr` lists the breakpoints latest first. -/
theorem reported_widths_ratios_ok (hrefl : ∀ a : α, (a == a) = true) (P : Params α) (items : List (Item α))
    (lineW : α) (loose : Int) (breaks : List (ND α)) (m : Nat) (hlen : items.length = m + 1)
    (hfo : forcedAt P items m = true) (hle : legalAt P items m = true)
    (h : linebreak P items lineW loose = Outcome.ok breaks true) :
    ∃ tol, LinesOKr P items lineW tol breaks.reverse := by
  obtain ⟨tol, c, anc, hch, rfl, _, _, _⟩ := result_chain hrefl hlen hfo hle h
  exact ⟨tol, by rw [List.reverse_reverse]; exact chain_lines hch⟩

/-- Feasibility: if the first pass (at `Tolerance`) runs to completion and no overflow is reported,
every returned line has its adjustment ratio in `[-1, Tolerance]`. -/
theorem feasible (hrefl : ∀ a : α, (a == a) = true) (P : Params α) (items : List (Item α))
    (lineW : α) (loose : Int) (breaks : List (ND α)) (m : Nat) (lb : LB α) (hlen : items.length = m + 1)
    (hfo : forcedAt P items m = true) (hle : legalAt P items m = true)
    (hpass : passLoop P items lineW (some P.tolerance) 0 none items (initLB false) = PassRes.done lb)
    (h : linebreak P items lineW loose = Outcome.ok breaks true) :
    LinesOKr P items lineW (some P.tolerance) breaks.reverse := by
  have hf : finish P items.length loose lb = Outcome.ok breaks true := by
    unfold linebreak fuelFor at h
    simp only [linebreakFuel, hpass] at h
    exact h
  obtain ⟨_, hov⟩ := finish_ok P items.length loose lb
  rw [hf] at hov
  exact (finish_lines hlen hfo hle (passLoop_inv P items lineW hrefl _ false lb hpass)
    (by simpa using (Outcome.ok.inj hov).2) hf).2

/-- Soundness of the Lean verdict that judges the positions returned by the REAL `text.Linebreak`
(`!` lines of kind `structure`): verdict ok (`structClass = none`) implies that the observed positions
are non-empty, strictly increasing, all legal, end at the last item and contain every forced break. -/
theorem structVerdict_sound (P : Params α) (items : List (Item α)) (pos : List Nat)
    (h : structClass P items pos = none) :
    pos ≠ [] ∧ pos.Pairwise (· < ·) ∧ (∀ p, p ∈ pos → legalAt P items p = true) ∧
      pos.getLast? = some (items.length - 1) ∧
      (∀ f, forcedAt P items f = true → legalAt P items f = true → f ∈ pos) := by
  -- each test of `structClass` that does not fire gives one conjunct
  simp only [structClass, Canvas.ite_some_eq_none] at h
  obtain ⟨h1, h2, h3, h4, h5, _⟩ := h
  rw [Bool.not_not_eq] at h2 h3 h5
  refine ⟨fun e => h1 (e ▸ rfl), increasing_pairwise h2, fun p hp => List.all_eq_true.mp h3 p hp,
    by simpa using h4, fun f hf hl => ?_⟩
  have := List.all_eq_true.mp h5 f (List.mem_range.mpr (legalAt_lt hl))
  rw [hf, hl] at this
  simpa using this

/-- The relaxation loop terminates: `linebreak` never runs out of passes. Each restart strictly
increases the tolerance, and the new tolerance is one of the finitely many ratios
`adjRatio (item b, sums at b, sums after a break or running sums)`; the pass at tolerance +∞ falls
back instead of restarting. Holds for every scalar whose `<` is irreflexive and transitive
(`Float` included). -/
theorem terminates (hrefl : ∀ a : α, (a == a) = true) (hirr : ∀ a : α, ¬ a < a)
    (htr : ∀ a b c : α, a < b → b < c → a < c) (P : Params α) (items : List (Item α)) (lineW : α) (loose : Int) :
    linebreak P items lineW loose ≠ Outcome.fuelOut := by
  unfold linebreak
  apply linebreakFuel_ne_fuelOut hrefl hirr htr
  have h1 := mu_le (Slist P items lineW) (some P.tolerance)
  have h2 := Slist_length P items lineW
  have h3 : (2 * items.length + 1) * items.length ≤ (2 * items.length + 2) * items.length :=
    Nat.mul_le_mul_right _ (Nat.le_succ _)
  unfold fuelFor
  omega

/-- Totality: if no glue item is the last item (in particular if the paragraph ends in a forced
break) the run never reads `items[b+1]` out of range and returns a breaking. -/
theorem total (hrefl : ∀ a : α, (a == a) = true) (hirr : ∀ a : α, ¬ a < a)
    (htr : ∀ a b c : α, a < b → b < c → a < c) (P : Params α) (items : List (Item α)) (lineW : α) (loose : Int)
    (hnp : ∀ b it, items[b]? = some it → it.ty = Ty.glue → b + 1 < items.length) :
    ∃ breaks fit, linebreak P items lineW loose = Outcome.ok breaks fit := by
  have h1 := terminates hrefl hirr htr P items lineW loose
  have h2 : linebreak P items lineW loose ≠ Outcome.panic :=
    linebreakFuel_ne_panic P items lineW loose hnp _ _ _
  cases h : linebreak P items lineW loose with
  | panic => exact absurd h h2
  | fuelOut => exact absurd h h1
  | ok breaks fit => exact ⟨breaks, fit, rfl⟩

end

/-! ## The doubly linked lists `Breakpoints` (active / inactive nodes)

Pointer-level model `Canvas.C17.BP` (CanvasModel/C17/BPList.lean), tied to the real methods
`Has/Push/InsertBefore/Remove` by exact correspondence of head/tail of both lists and prev/next of
every node over arbitrary operation histories (hook `text.VerifBreakpointsRun`). -/
section breakpoints
open Canvas.C17.BP

/-- Representation invariant over ALL disciplined histories (a node is named by an operation on one
list only while it is not a member of the other list — what `mainLoop` and the overflow fallback
do): starting from two empty lists, every history of `Push`, `InsertBefore`, `Remove`, `Has` runs
without nil dereference; afterwards each list header and the node pointers represent a duplicate-free
sequence (`head` = first, `tail` = last, `prev`/`next` link consecutive members, first `prev` and last
`next` are nil — so a stale `tail` or `prev` is impossible), the two sequences are disjoint, all other
nodes have nil pointers, and the sequences and `Has` answers are exactly those of the abstract list
operations append / insert-before / erase / membership (`absRun`). -/
theorem breakpoints_refine (ops : List Op) (h : DiscAll [] [] [] ops) :
    ∃ s obs, run ⟨emptyHeap, emptyHdr, emptyHdr⟩ [] ops = some (s, obs) ∧
      Rep2 s (absRun [] [] [] ops).1 (absRun [] [] [] ops).2.1 ∧ obs = (absRun [] [] [] ops).2.2 :=
  run_rep2 rep2_init h

/-- `Has` is membership for the list's own nodes and for free nodes (it inspects only the node's own
pointers and `head`, which is why it must not be asked about a member of the other list). -/
theorem breakpoints_has (h : Heap) (l : Hdr) (xs : List Nat) (b : Nat) (hr : Rep h l xs)
    (hf : b ∉ xs → Free h b) : has h l b = decide (b ∈ xs) :=
  has_iff_mem hr hf

/-- non-vacuity: a history that pushes, inserts before a member, moves a node to the other list and asks `Has` -/
example : DiscAll [] [] [] [Op.push 0 0, Op.push 0 1, Op.insertBefore 0 2 1, Op.remove 0 0, Op.push 1 0, Op.has 0 1] ∧
    absRun [] [] [] [Op.push 0 0, Op.push 0 1, Op.insertBefore 0 2 1, Op.remove 0 0, Op.push 1 0, Op.has 0 1] =
      ([2, 1], [0], [true]) :=
  ⟨by simp [DiscAll, Disc, absStep, absPush, absInsert, insBefore], by decide⟩

end breakpoints

section field
variable {K : Type} [Field K] [LinearOrder K] [IsStrictOrderedRing K]

/-- Over a field the reported `Width` of a (non-empty) line is the direct sum of the widths of the
boxes and glue between the first box after the previous break and the break, plus the width of a
penalty broken at: the L3 measure `lineNat`, not just a difference of running sums. -/
theorem reported_width_is_line_sum (P : Params K) (items : List (Item K)) (lineW : K) (tol : Option K)
    (prev : Option Nat) (d : ND K) (h : LineOK P items lineW tol prev d)
    (hs : lineStart P items prev ≤ d.pos) : d.width = (lineNat P items prev d.pos).1 := by
  obtain ⟨it, r, hit, _, _, _, hw⟩ := h
  rw [hw, lineNat_eq P items prev d.pos it hit hs]
  unfold widthAt
  rw [hit]
  by_cases hp : it.ty = Ty.penalty <;> simp only [hp, if_true, if_false] <;> ring

/-- Sufficient well-formedness for optimality (`Canvas.C17.WF`): positive `Infinity` and line width,
non-negative `DemeritsFitness`; non-negative widths, glue with `0 ≤ shrink ≤ width` (known finding
`glue-shrink-exceeds-width`, see `feasible_missed_witness`) and non-negative stretch; between any two
legal breakpoints `a < b` a box, or a forced break after `a` that may be `b` itself (`box`: the line
after `a` starts no later than `b`); an unflagged first item (the start node reads `items[0].Flagged`);
no glue as last item; `eps ≥ 0`; and `snap`: the exact-fit guard of `computeAdjustmentRatio` (`|L−W| ≤ eps·W ⇒ L := W`,
`|r+1| ≤ eps ⇒ r := −1`, `eps = 1e-10` in the code, `Params.eps` in the model) changes the ratio of no
candidate line, i.e. no line lies strictly inside the guard band (trivial for `eps = 0`, decidable per
paragraph by `snapFreeB`). Penalties may have width (hyphens). -/
abbrev WellFormed (P : Params K) (items : List (Item K)) (lineW : K) : Prop := WF P items lineW

/-- **Optimality** (`C17.optimal` of the design), against the L3 specification: for a well-formed
paragraph (`WF`, with `Tolerance < Infinity`) and looseness 0, whenever the exhaustive specification
`best` — the least total demerits over ALL legal breakings whose lines, measured by direct summation
over their items, have their ratio in `[-1, Tolerance]` — finds a breaking with demerits `dOpt`,
`linebreak` reports no overflow, needs no relaxation, and the total demerits of the breaking it returns
are exactly `dOpt`. Ingredients: DP completeness (`optimal_over_breakings`: deactivation, fitness-class
pruning and line grouping lose nothing), `bestFrom` = minimum of `seqCost` over all breakings
(`bestFrom_attained`, `bestFrom_le`), equality of the direct-sum and running-sum measures
(`step_equiv`), and `Fitness = fitClass Ratio` with exact cost accounting for the returned chain. -/
theorem optimal (P : Params K) (items : List (Item K)) (lineW : K) (hwf : WF P items lineW)
    (htol : P.tolerance < P.infinity) (m : Nat) (hlen : items.length = m + 1)
    (hfo : forcedAt P items m = true) (hle : legalAt P items m = true) (dOpt : K)
    (hbest : best P items lineW = some dOpt) :
    ∃ breaks, linebreak P items lineW 0 = Outcome.ok breaks true ∧
      (breaks.getLast?).map (·.dem) = some dOpt := by
  have hb0 : bestFrom P items lineW P.tolerance none 1 (List.range' 0 items.length) = some dOpt := by
    unfold best at hbest
    rw [List.range_eq_range'] at hbest
    exact hbest
  -- the optimum is attained by a legal breaking ...
  obtain ⟨seq, _, s2, s3, hlast, s6⟩ := bestFrom_attained P items lineW P.tolerance hwf htol m items.length 0 none 1 dOpt
    (by omega) (fun x hx => by cases hx) (fun f _ hf => by omega) hb0
  have hcost : seqCost P items lineW (some P.tolerance) none 1 0 seq = some dOpt := by
    rw [s6 0, zero_add]
  -- ... so the code returns something at least as cheap
  obtain ⟨lbf, nb, breaks, h1⟩ :=
    firstPass_done P items lineW hwf m hlen hfo hle (ahead_init P items lineW hwf.fl hlen s2 s3 hlast hcost)
  refine ⟨breaks, h1.ok, ?_⟩
  rw [h1.chain, fixNonRoot_getLast P nb.d h1.anc, Option.map_some]
  congr 1
  apply le_antisymm h1.le
  -- and what it returns is itself a legal breaking, so it cannot be cheaper than the optimum
  have hch : ChainOK P items lineW (some P.tolerance) false (nb.d :: nb.anc) := by
    have := (h1.inv.act nb h1.mem).1
    rw [h1.noOvf] at this
    exact this
  have hfit : FitAll nb :=
    (run_fit P items lineW (run_start P items lineW _ (initLB false)) (fitInv_init false) lbf h1.pass).1 nb h1.mem
  have hcost' : seqCost P items lineW (some P.tolerance) none 1 0 (nonRootPos (nb.d :: nb.anc)).reverse = some nb.d.dem := by
    have := chain_seqCost P items lineW _ hwf.fl hch hfit nb.d nb.anc rfl []
    rwa [List.append_nil] at this
  have hsorted := chain_sorted hch
  have hpw' : ((nonRootPos (nb.d :: nb.anc)).reverse).Pairwise (· < ·) := List.pairwise_reverse.mpr hsorted
  have hns' : NoSkip P items none (nonRootPos (nb.d :: nb.anc)).reverse := by
    apply noSkip_of_mem P items _ none hpw' (fun y _ a ha => by cases ha)
    intro f hfo' _
    have hlf := forced_legal P items hwf.inf f hfo'
    exact List.mem_reverse.mpr (h1.inv.forced nb h1.mem f (legalAt_lt hlf) hfo' hlf)
  have hlast' : ((nonRootPos (nb.d :: nb.anc)).reverse).getLast? = some m := by
    cases ha : nb.anc with
    | nil => exact absurd ha h1.anc
    | cons p rest => simp only [nonRootPos, List.getLast?_reverse, List.head?_cons, h1.pos]
  obtain ⟨d', hd', hle''⟩ := bestFrom_le P items lineW P.tolerance hwf htol m items.length 0 none 1 _ 0 nb.d.dem
    (by omega) (fun x hx => by cases hx) (fun x _ => Nat.zero_le x) hpw' hns' hlast' hcost'
  rw [hb0] at hd'
  cases hd'
  rwa [zero_add] at hle''

/-- **DP completeness** (the hard half of optimality). For a well-formed paragraph and looseness 0:
for EVERY breaking `seq` — strictly increasing legal breakpoints that skip no forced break and end at
the final one — whose lines all have their adjustment ratio in `[-1, Tolerance]` (`seqCost`, lines
measured as the code measures them), `linebreak` reports no overflow, needs no relaxation, and returns
a breaking whose total demerits are at most the total demerits `d` of `seq`. Neither the
deactivation rule nor the fitness-class pruning (`D[c] ≤ Dmin + DemeritsFitness`) nor the line
grouping loses a better breaking. -/
theorem optimal_over_breakings (P : Params K) (items : List (Item K)) (lineW : K) (hwf : WF P items lineW)
    (m : Nat) (hlen : items.length = m + 1) (hfo : forcedAt P items m = true) (hle : legalAt P items m = true)
    (seq : List Nat) (d : K) (hpw : seq.Pairwise (· < ·)) (hns : NoSkip P items none seq)
    (hlast : seq.getLast? = some m)
    (hcost : seqCost P items lineW (some P.tolerance) none 1 0 seq = some d) :
    ∃ breaks dd, linebreak P items lineW 0 = Outcome.ok breaks true ∧
      (breaks.getLast?).map (·.dem) = some dd ∧ dd ≤ d := by
  obtain ⟨lbf, nb, breaks, h1⟩ :=
    firstPass_done P items lineW hwf m hlen hfo hle (ahead_init P items lineW hwf.fl hlen hpw hns hlast hcost)
  exact ⟨breaks, nb.d.dem, h1.ok, by rw [h1.chain, fixNonRoot_getLast P nb.d h1.anc, Option.map_some], h1.le⟩

/-- **The stretch limit is relaxed only as far as needed** (any looseness). For a well-formed paragraph:
if some legal breaking that skips no forced break has all its line ratios in `[-1, t]` for a tolerance
`t ≥ Tolerance`, then `linebreak` reports no overflow and every line of the breaking it returns has its
ratio in `[-1, tf]` for the tolerance `tf ≤ t` of the pass that completed. So the largest ratio of the
result is at most the least `t` for which a breaking exists; in particular the restart tolerance
`nextTolerance` never jumps past a tolerance at which a breaking exists, and never to +∞. -/
theorem relax_minimal (P : Params K) (items : List (Item K)) (lineW : K) (hwf : WF P items lineW) (loose : Int)
    (m : Nat) (hlen : items.length = m + 1) (hfo : forcedAt P items m = true) (hle : legalAt P items m = true)
    (seq : List Nat) (t d : K) (ht : P.tolerance ≤ t) (hpw : seq.Pairwise (· < ·)) (hns : NoSkip P items none seq)
    (hlast : seq.getLast? = some m) (hcost : seqCost P items lineW (some t) none 1 0 seq = some d)
    (breaks : List (ND K)) (fit : Bool) (h : linebreak P items lineW loose = Outcome.ok breaks fit) :
    fit = true ∧ ∃ tf, tf ≤ t ∧ LinesOKr P items lineW (some tf) breaks.reverse := by
  obtain ⟨_, lbf, htf, hp, hov, hf⟩ := run_seq P items lineW hwf
    (ahead_init P items lineW hwf.fl hlen hpw hns hlast hcost) (fun t' ht' => ⟨_, rfl, Option.some.inj ht' ▸ ht⟩) h
  obtain ⟨tf, rfl, htle⟩ := htf t rfl
  obtain ⟨hfit, hl⟩ := finish_lines hlen hfo hle
    (passLoop_inv P items lineW (fun a => beq_self_eq_true a) _ false lbf hp) hov hf
  exact ⟨hfit, tf, htle, hl⟩

/-- **Overflow is reported only if it cannot be avoided** (any looseness). For a well-formed paragraph:
if some legal breaking that skips no forced break has only lines that can be shrunk to fit (every ratio
`≥ -1`, no bound on stretching), `linebreak` does not report overflow. -/
theorem overflow_only_if_unavoidable (P : Params K) (items : List (Item K)) (lineW : K) (hwf : WF P items lineW)
    (loose : Int) (m : Nat) (hlen : items.length = m + 1) (seq : List Nat) (d : K) (hpw : seq.Pairwise (· < ·))
    (hns : NoSkip P items none seq) (hlast : seq.getLast? = some m)
    (hcost : seqCost P items lineW none none 1 0 seq = some d)
    (breaks : List (ND K)) (fit : Bool) (h : linebreak P items lineW loose = Outcome.ok breaks fit) : fit = true := by
  obtain ⟨_, lbf, _, _, hov, hf⟩ := run_seq P items lineW hwf
    (ahead_init P items lineW hwf.fl hlen hpw hns hlast hcost) (fun t ht => by cases ht) h
  obtain ⟨_, h2⟩ := finish_ok P items.length loose lbf
  rw [hf, hov] at h2
  exact (Outcome.ok.inj h2).2

/-- Cost accounting and local minimality (looseness 0, no overflow reported; no well-formedness
needed): the returned breaking is the parent walk of a node `nb` of the final active list such that
(a) every node of that list — every candidate that survived the pruning — ends a well-formed chain
    of legal breaks whose lines all have their ratio in `[-1, tol]` and whose recorded total
    demerits are exactly the sum of the line demerits along the chain (`chainCost`), and
(b) `nb` has the least total demerits among them.
So the result is optimal among the breakings that survive deactivation and the fitness-class
pruning — for arbitrary items; for well-formed paragraphs `optimal` shows nothing better is lost. -/
theorem optimal_partial (P : Params K) (items : List (Item K)) (lineW : K) (breaks : List (ND K)) (m : Nat)
    (hlen : items.length = m + 1) (hfo : forcedAt P items m = true) (hle : legalAt P items m = true)
    (h : linebreak P items lineW 0 = Outcome.ok breaks true) :
    ∃ tol ovf0 lb nb, passLoop P items lineW tol 0 none items (initLB ovf0) = PassRes.done lb ∧
      (∀ n, n ∈ lb.act → ChainOK P items lineW tol false (n.d :: n.anc) ∧
        n.d.dem = chainCost P items (n.d :: n.anc)) ∧
      nb ∈ lb.act ∧ breaks = (fixNonRoot P (nb.d :: nb.anc)).reverse ∧
      ∀ n, n ∈ lb.act → nb.d.dem ≤ n.d.dem := by
  obtain ⟨tol, ovf0, lb, nb, hp, hI, hnb, hb, hfit, _, _, h0⟩ :=
    run_chain (fun a => beq_self_eq_true a) hlen hfo hle h
  have hov : lb.ovf = false := by simpa using hfit.symm
  have hch : ∀ n, n ∈ lb.act → ChainOK P items lineW tol false (n.d :: n.anc) := by
    intro n hn
    have := (hI.act n hn).1
    rw [hov] at this
    exact this
  refine ⟨tol, ovf0, lb, nb, hp, ?_, hnb, hb, ?_⟩
  · intro n hn
    exact ⟨hch n hn, chain_cost (hch n hn)⟩
  · exact chooseBest_none_min (h0 rfl)

end field

/-! ## Witnesses over exact rationals (core `Rat`): what the code does outside the hypotheses above
(no final forced break, glue that shrinks by more than its width, a line inside the guard band), and
non-vacuity of those hypotheses. Evaluated by the kernel. -/
section witnesses

def Pq : Params Rat := ⟨2, 10, 100, 100, 1000, 1 / 10000000000⟩
def bx (w : Rat) : Item Rat := ⟨Ty.box, w, 0, 0, 0, false⟩
def gl (w y z : Rat) : Item Rat := ⟨Ty.glue, w, y, z, 0, false⟩
def pn (w p : Rat) (f : Bool) : Item Rat := ⟨Ty.penalty, w, 0, 0, p, f⟩
/-- an explicit newline as produced by `GlyphsToItems` -/
def nl : List (Item Rat) := [gl 0 1000 0, pn 0 (-1000) false]

/-- observable part of an outcome: positions, reported widths, `ok` flag -/
def obs : Outcome Rat → Option (List Nat × List Rat × Bool)
  | Outcome.ok brs fit => some (brs.map (·.pos), brs.map (·.width), fit)
  | _ => none

/-- Out-of-range witness: a paragraph that ends in glue after a box makes the code read `items[b+1]`. -/
theorem panic_witness : linebreak Pq [bx 1, gl 1 1 1] 10 0 = Outcome.panic := by
  have h : (match linebreak Pq [bx 1, gl 1 1 1] 10 0 with | Outcome.panic => true | _ => false) = true := by
    decide +kernel
  cases hl : linebreak Pq [bx 1, gl 1 1 1] 10 0 with
  | panic => rfl
  | fuelOut => rw [hl] at h; cases h
  | ok b f => rw [hl] at h; cases h

/-- Feasibility without well-formedness: whenever some legal breaking keeps every line within
`[-1, Tolerance]` (the exhaustive specification `best` finds one), no overflow is reported. It does
**not** hold for arbitrary items (known finding `glue-shrink-exceeds-width`); for well-formed
paragraphs with `Tolerance < Infinity` it follows from `optimal`. -/
def feasible_statement : Prop :=
  ∀ (P : Params Rat) (items : List (Item Rat)) (lineW : Rat) (m : Nat), items.length = m + 1 →
    forcedAt P items m = true → legalAt P items m = true → (best P items lineW).isSome = true →
    ∃ breaks, linebreak P items lineW 0 = Outcome.ok breaks true

/-- Defect witness (`glue-shrink-exceeds-width`): "11 |1 ~1" in a line of width 10, where the second
glue shrinks by 5 — the single line (natural width 14, shrink 5) fits, but the start node is
deactivated at the first glue (11 > 10, no shrink yet) and overflow is reported. -/
theorem feasible_missed_witness : ¬ feasible_statement := by
  intro h
  obtain ⟨breaks, h1⟩ := h Pq ([bx 11, gl 0 0 0, bx 1, gl 1 0 5, bx 1] ++ nl) 10 6 (by decide) (by decide +kernel)
    (by decide +kernel) (by decide +kernel)
  have hrun : obs (linebreak Pq ([bx 11, gl 0 0 0, bx 1, gl 1 0 5, bx 1] ++ nl) 10 0) = some ([1, 6], [11, 3], false) := by
    decide +kernel
  rw [h1] at hrun
  simp [obs] at hrun

/-- non-vacuity: a justified paragraph over `Rat` satisfies the hypotheses of the theorems above
(final forced legal break, successful run without overflow, first pass completes) -/
example : ∃ breaks lb, linebreak Pq ([bx 3, gl 1 (1/2) (1/3), bx 3, gl 1 (1/2) (1/3), bx 3] ++ nl) 8 0 = Outcome.ok breaks true ∧
    passLoop Pq ([bx 3, gl 1 (1/2) (1/3), bx 3, gl 1 (1/2) (1/3), bx 3] ++ nl) 8 (some Pq.tolerance) 0 none
      ([bx 3, gl 1 (1/2) (1/3), bx 3, gl 1 (1/2) (1/3), bx 3] ++ nl) (initLB false) = PassRes.done lb ∧
    forcedAt Pq ([bx 3, gl 1 (1/2) (1/3), bx 3, gl 1 (1/2) (1/3), bx 3] ++ nl) 6 = true ∧
    legalAt Pq ([bx 3, gl 1 (1/2) (1/3), bx 3, gl 1 (1/2) (1/3), bx 3] ++ nl) 6 = true ∧
    breaks.map (·.pos) = [3, 6] := by
  generalize hpar : ([bx 3, gl 1 (1/2) (1/3), bx 3, gl 1 (1/2) (1/3), bx 3] ++ nl) = para
  have hrun : obs (linebreak Pq para 8 0) = some ([3, 6], [7, 3], true) := by subst hpar; decide +kernel
  have hpass : (match passLoop Pq para 8 (some Pq.tolerance) 0 none para (initLB false) with
      | PassRes.done _ => true | _ => false) = true := by subst hpar; decide +kernel
  cases hl : linebreak Pq para 8 0 with
  | panic => rw [hl] at hrun; cases hrun
  | fuelOut => rw [hl] at hrun; cases hrun
  | ok brs fit =>
    rw [hl] at hrun
    simp only [obs, Option.some.injEq, Prod.mk.injEq] at hrun
    cases hp : passLoop Pq para 8 (some Pq.tolerance) 0 none para (initLB false) with
    | panic => rw [hp] at hpass; cases hpass
    | restart nt o => rw [hp] at hpass; cases hpass
    | done lb =>
      refine ⟨brs, lb, ?_, rfl, by subst hpar; decide +kernel, by subst hpar; decide +kernel, hrun.1⟩
      rw [hrun.2.2]

/-- the justified paragraph "3 3 3" of the non-vacuity examples -/
def paraJustified : List (Item Rat) := [bx 3, gl 1 (1/2) (1/3), bx 3, gl 1 (1/2) (1/3), bx 3] ++ nl

/-- non-vacuity of `optimal_over_breakings`: the paragraph is well-formed (`WF`) ... -/
example : WF Pq paraJustified 8 := wf_of_wfB Pq paraJustified 8 (by decide +kernel)

/-- ... and the breaking [3, 6] satisfies the hypotheses on `seq` (legal, feasible, no forced break skipped) -/
example : (seqCost Pq paraJustified 8 (some Pq.tolerance) none 1 0 [3, 6]).isSome = true ∧
    [3, 6].Pairwise (· < ·) ∧ [3, 6].getLast? = some 6 := by
  refine ⟨by decide +kernel, by decide, rfl⟩

/-- non-vacuity of `optimal`: the specification finds an optimum for this paragraph and `Tolerance < Infinity` -/
example : (best Pq paraJustified 8).isSome = true ∧ Pq.tolerance < Pq.infinity := by
  exact ⟨by decide +kernel, by decide +kernel⟩

example : NoSkip Pq paraJustified none [3, 6] := by
  have h : ∀ f, f < 6 → forcedAt Pq paraJustified f = false := by decide +kernel
  exact ⟨fun f _ hf => h f (by omega), fun f _ hf => h f hf, True.intro⟩

/-- "3 ~ 3" without final glue: the only breaking has ratio 3 > Tolerance -/
def paraRelax : List (Item Rat) := [bx 3, gl 1 1 0, bx 3, pn 0 (-1000) false]

/-- non-vacuity of `relax_minimal` / `overflow_only_if_unavoidable`: the paragraph is well-formed, its only
breaking is feasible at `t = 3` (and at +∞) but not at `Tolerance = 2`, and the run indeed relaxes -/
example : WF Pq paraRelax 10 := wf_of_wfB Pq paraRelax 10 (by decide +kernel)

example : (seqCost Pq paraRelax 10 (some 3) none 1 0 [3]).isSome = true ∧
    (seqCost Pq paraRelax 10 none none 1 0 [3]).isSome = true ∧
    (seqCost Pq paraRelax 10 (some Pq.tolerance) none 1 0 [3]).isSome = false ∧
    obs (linebreak Pq paraRelax 10 0) = some ([3], [7], true) := by
  refine ⟨by decide +kernel, by decide +kernel, by decide +kernel, by decide +kernel⟩

/-- a box 1.1e-9 wider than the line, then glue that can shrink by 1000 -/
def paraBand : List (Item Rat) := [bx (10 + 11 / 10000000000), gl 0 0 0, bx 0, gl 1000 0 1000, pn 0 (-1000) false]

/-- Why the hypothesis `snap` of `WF` cannot be dropped (it can be for `eps = 0`): inside the guard band
the code's feasibility test is snapped (`|r+1| ≤ 1e-10 ⇒ r := −1`) while the ratio-based deactivation is
strict. Here the start node is deactivated at the first glue (the box is wider than the line by more than
the guard), yet the single line to the final break has ratio −1 − 1.1e-12, which the guard accepts: the
breaking [4] is feasible by the code's own measure (`seqCost`), but overflow is reported. The paragraph
violates only `snap` (`snapFreeB = false`); the unguarded specification `best` finds nothing. -/
theorem guard_band_witness :
    (seqCost Pq paraBand 10 (some Pq.tolerance) none 1 0 [4]).isSome = true ∧
    obs (linebreak Pq paraBand 10 0) = some ([1, 4], [100000000011 / 10000000000, 1000], false) ∧
    snapFreeB Pq paraBand 10 = false ∧ best Pq paraBand 10 = none := by
  refine ⟨by decide +kernel, by decide +kernel, by decide +kernel, by decide +kernel⟩

end witnesses

end C17
