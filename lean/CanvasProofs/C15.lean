import CanvasProofs.Lemmas.C15Fit
import CanvasProofs.Lemmas.C15Spec
import CanvasProofs.Lemmas.C15HeapLemmas
import CanvasModel.C15Verdict

/-! # C15 — Context and Canvas apply views, coordinate systems and state as documented

Theorems about the hand-written model `CanvasModel/C15.lean` of /repo/canvas.go.  The first part is
generic in the scalar type and in the matrix operations (`Ops α`); the second part instantiates the
model with the *generated* translations of /repo/util.go over an arbitrary linearly ordered field
(`opsK`), with `Path.checkDash` (`cd`) and the float→int truncation (`tr`) left arbitrary.
The model is tied to the code by the bit-exact correspondence run of `bin/check C15`. -/
set_option linter.unusedSectionVars false
namespace C15
open Canvas Canvas.C15 GenK

section Generic
variable {α : Type} (o : Ops α)

/-- histories in which every Pop matches an earlier Push of the same history -/
inductive Balanced : List (Op α) → Prop
  | nil : Balanced []
  | op (x : Op α) (h : List (Op α)) : x.isStack = false → Balanced h → Balanced (x :: h)
  | nest (h1 h2 : List (Op α)) : Balanced h1 → Balanced h2 → Balanced (Op.push :: h1 ++ Op.pop :: h2)

/-- a balanced history leaves the stack exactly as it found it (any nesting depth) -/
theorem balanced_stack (h : List (Op α)) (hb : Balanced h) : ∀ c : Ctx α, (run o h c).stack = c.stack := by
  induction hb with
  | nil => intro c; rfl
  | op x h hx _ ih => intro c; exact (ih (step o x c)).trans (step_stack o x c hx)
  | nest h1 h2 _ _ ih1 ih2 => intro c; rw [run_push_pop o h1 h2 c (ih1 _), ih2]

/-- Push … Pop around any balanced history restores style, view, coordinate view and coordinate
system exactly, and leaves the stack unchanged. -/
theorem push_pop_restore (h : List (Op α)) (hb : Balanced h) (c : Ctx α) :
    (run o (Op.push :: h ++ [Op.pop]) c).st = c.st ∧
    (run o (Op.push :: h ++ [Op.pop]) c).stack = c.stack := by
  rw [run_push_pop o h [] c (balanced_stack o h hb _)]
  exact ⟨rfl, rfl⟩

/-- Pop on an empty stack does nothing. -/
theorem pop_empty_noop (c : Ctx α) (h : c.stack = []) : step o Op.pop c = c := by
  simp only [step, h]

/-- Setters (style, view, coordinate system/view, z-index) and Push/Pop make no renderer call and
change no recorded layer: they affect only subsequent draws. -/
theorem setters_local (op : Op α) (c : Ctx α) (hd : op.isDraw = false) (hc : op.isCanvasOp = false) :
    (step o op c).emitted = c.emitted ∧ (step o op c).cv.layers = c.cv.layers ∧
    (step o op c).cv.log = c.cv.log ∧ (step o op c).cv.W = c.cv.W ∧ (step o op c).cv.H = c.cv.H := by
  refine ⟨step_emitted_of_not_draw o op c hd, ?_⟩
  cases op <;> cases hd <;> cases hc
  case pop => rw [step_pop]; exact ⟨rfl, rfl, rfl, rfl⟩
  all_goals exact ⟨rfl, rfl, rfl, rfl⟩

/-- Draws and canvas operations do not touch the Context state. -/
theorem draws_leave_state (op : Op α) (c : Ctx α) (h : op.isDraw = true ∨ op.isCanvasOp = true) :
    (step o op c).st = c.st ∧ (step o op c).stack = c.stack := step_st_of_draw_or_canvasOp o op c h

/-- The calls a renderer has received are never changed by any later history. -/
theorem recorded_calls_immutable (h : List (Op α)) (c : Ctx α) : c.emitted <+: (run o h c).emitted := by
  induction h generalizing c with
  | nil => exact List.prefix_refl _
  | cons op ops ih =>
    refine List.IsPrefix.trans ?_ (ih (step o op c))
    cases hd : op.isDraw
    · rw [step_emitted_of_not_draw o op c hd]; exact List.prefix_refl _
    · rw [(step_recorded_of_draw o op c hd).1]; exact List.prefix_append _ _

/-- A draw records exactly its renderer calls, in order, under the z-index current at that time. -/
theorem draw_recorded (op : Op α) (c : Ctx α) (h : op.isDraw = true) :
    (step o op c).emitted = c.emitted ++ drawCalls o op c ∧
    (step o op c).cv.log = c.cv.log ++ (drawCalls o op c).map (fun k => (c.cv.z, k)) :=
  step_recorded_of_draw o op c h

/-- `RenderViewTo` replays exactly the recorded layers (a permutation of the recording-order log,
each pre-multiplied by the view), in ascending z-index, and in drawing order within one z-index —
for the canvas reached by *any* history (arbitrary z changes, Transform/Clip/Fit/Reset in between). -/
theorem replay_order (h : List (Op α)) (W H : α) (view : Mat α) :
    let cv := (run o h (newContext o (newCanvas W H))).cv
    cv.renderViewTo o view = (replayZ o view cv).map (·.2) ∧
    (replayZ o view cv).Perm (cv.log.map (fun zc => (zc.1, Call.pre o view zc.2))) ∧
    (replayZ o view cv).Pairwise (fun a b => a.1 ≤ b.1) ∧
    ∀ k : Int, (replayZ o view cv).filter (fun a => decide (a.1 = k)) =
      (cv.log.filter (fun zc => decide (zc.1 = k))).map (fun zc => (zc.1, Call.pre o view zc.2)) := by
  intro cv
  have hw := Grouped_WF cv (Grouped_run o h _ rfl)
  exact ⟨(replayZ_snd o view cv).symm, replay_perm o view cv hw, replayZ_sorted o view cv,
    fun k => replay_stable o view cv hw k⟩

/-- For the canvas reached by any history (draws under arbitrary z-indices, Transform, Clip, Fit,
Reset, nested RenderViewTo) the association list modelling the Go map `layers` is exactly the
recording-order log grouped by z-index. -/
theorem layers_are_grouped_log (h : List (Op α)) (W H : α) :
    Grouped (run o h (newContext o (newCanvas W H))).cv :=
  Grouped_run o h _ rfl

/-- The specification's sort is a sort, is stable, and is the only list with these properties. -/
theorem stable_sort_spec {β : Type} (l : List (Int × β)) :
    (stableSortZ l).Perm l ∧ (stableSortZ l).Pairwise (fun a b => a.1 ≤ b.1) ∧
    (∀ k : Int, (stableSortZ l).filter (fun a => decide (a.1 = k)) = l.filter (fun a => decide (a.1 = k))) ∧
    (∀ l' : List (Int × β), l'.Pairwise (fun a b => a.1 ≤ b.1) →
      (∀ k : Int, l'.filter (fun a => decide (a.1 = k)) = l.filter (fun a => decide (a.1 = k))) → l' = stableSortZ l) :=
  ⟨stableSortZ_perm l, stableSortZ_sorted l, stableSortZ_stable l,
   fun l' h1 h2 => sorted_stable_unique l' _ h1 (stableSortZ_sorted l) (fun k => (h2 k).trans (stableSortZ_stable l k).symm)⟩

/-- `RenderViewTo` emits exactly the log stably sorted by z, each call pre-multiplied by the view
(an equation, for the canvas reached by any history). -/
theorem replay_is_stable_sort (h : List (Op α)) (W H : α) (view : Mat α) :
    let cv := (run o h (newContext o (newCanvas W H))).cv
    cv.renderViewTo o view = (stableSortZ cv.log).map (fun zc => Call.pre o view zc.2) := by
  intro cv
  exact renderViewTo_eq_spec o view cv (Grouped_WF cv (layers_are_grouped_log o h W H))

/-- Refinement: projecting the model state to the abstract state (Context state, stack, renderer
calls, and a canvas that is only `(log, z, W, H)`) commutes with every history; the abstract machine
`specStep` appends draws to the log under the current z, maps the log for Transform/Clip/Fit, clears
it for Reset and flattens it for a nested replay. -/
theorem refines_abstract_spec (h : List (Op α)) (W H : α) :
    absCtx (run o h (newContext o (newCanvas W H))) = specRun o h (absCtx (newContext o (newCanvas W H))) :=
  (congrArg absCtx (run_new o h W H)).trans (abs_conc _)

/-- …and what `RenderViewTo` emits after any history is the replay of the abstract machine:
the recorded operations in ascending z, then drawing order, each with the style and matrix recorded
for it (moved by the canvas transformations applied since). -/
theorem replay_refines_spec (h : List (Op α)) (W H : α) (view : Mat α) :
    (run o h (newContext o (newCanvas W H))).cv.renderViewTo o view
      = ACanvas.replay o view (specRun o h (absCtx (newContext o (newCanvas W H)))).cv :=
  (congrArg (·.cv.renderViewTo o view) (run_new o h W H)).trans (renderViewTo_conc o view _)

/-- Nested canvases: replaying a canvas into a fresh canvas records the stably sorted replay in
drawing order under the fresh canvas' z-index 0. -/
theorem nested_canvas_log (h : List (Op α)) (W H W' H' : α) (view : Mat α) :
    let src := (run o h (newContext o (newCanvas W H))).cv
    (src.renderInto o view (newCanvas W' H')).log =
      (stableSortZ src.log).map (fun zc => ((0 : Int), Call.pre o view zc.2)) := by
  intro src
  exact nested_replay_log o src view W' H' (Grouped_WF src (layers_are_grouped_log o h W H))

end Generic

variable {K : Type} [Field K] [LinearOrder K] [IsStrictOrderedRing K] [Env K]
variable (tr : K → K) (cd : K → List K → K → List K × Bool)

/-- the elementary matrix of each view composer, as the code builds it -/
def composerMat : Op K → Option (Mat K)
  | .composeView m => some m
  | .translate x y => some (Matrix.Translate C15M.ident x y)
  | .reflectX => some (Matrix.ReflectX C15M.ident)
  | .reflectY => some (Matrix.ReflectY C15M.ident)
  | .reflectXAbout x => some (Matrix.ReflectXAbout C15M.ident x)
  | .reflectYAbout y => some (Matrix.ReflectYAbout C15M.ident y)
  | .rotate sn cs => some (Matrix.Mul C15M.ident ⟨cs, -sn, 0, sn, cs, 0⟩)
  | .rotateAbout sn cs x y =>
    some (Matrix.Translate (Matrix.Mul (Matrix.Translate C15M.ident x y) ⟨cs, -sn, 0, sn, cs, 0⟩) (-x) (-y))
  | .scale sx sy => some (Matrix.Scale C15M.ident sx sy)
  | .scaleAbout sx sy x y => some (Matrix.ScaleAbout C15M.ident sx sy x y)
  | .shear sx sy => some (Matrix.Shear C15M.ident sx sy)
  | .shearAbout sx sy x y => some (Matrix.ShearAbout C15M.ident sx sy x y)
  | _ => none

/-- the documented action of each composer on a point -/
def composerAct : Op K → Pt K → Pt K
  | .composeView m, p => Matrix.Dot m p
  | .translate x y, p => ⟨p.x + x, p.y + y⟩
  | .reflectX, p => ⟨-p.x, p.y⟩
  | .reflectY, p => ⟨p.x, -p.y⟩
  | .reflectXAbout x, p => ⟨2 * x - p.x, p.y⟩
  | .reflectYAbout y, p => ⟨p.x, 2 * y - p.y⟩
  | .rotate sn cs, p => ⟨cs * p.x - sn * p.y, sn * p.x + cs * p.y⟩
  | .rotateAbout sn cs x y, p => ⟨x + (cs * (p.x - x) - sn * (p.y - y)), y + (sn * (p.x - x) + cs * (p.y - y))⟩
  | .scale sx sy, p => ⟨sx * p.x, sy * p.y⟩
  | .scaleAbout sx sy x y, p => ⟨x + sx * (p.x - x), y + sy * (p.y - y)⟩
  | .shear sx sy, p => ⟨p.x + sx * p.y, sy * p.x + p.y⟩
  | .shearAbout sx sy x y, p => ⟨x + ((p.x - x) + sx * (p.y - y)), y + (sy * (p.x - x) + (p.y - y))⟩
  | _, p => p

theorem dot_ident (q : Pt K) : Matrix.Dot C15M.ident q = q :=
  Aff.one_dot q

/-- Every view composer post-multiplies: `view := view · E`, nothing else changes, so a drawn point
is first transformed by the new `E` and then by the previous view. -/
theorem views_postmultiply (op : Op K) (E : Mat K) (hE : composerMat op = some E) (c : Ctx K) :
    step (opsK tr cd) op c = c.withView (Matrix.Mul c.st.view E) ∧
    ∀ p, Matrix.Dot (Matrix.Mul c.st.view E) p = Matrix.Dot c.st.view (Matrix.Dot E p) := by
  refine ⟨?_, fun p => Aff.dot_mul _ _ _⟩
  -- every composer is `c.compose (E built from the operations of opsK)`; compare the two spellings of `E`
  cases op <;> cases hE <;> show c.compose (opsK tr cd) _ = _ <;>
    simp only [Ctx.compose, rotateAbout, rotate, rotMat, opsK_mmul, opsK_translate, opsK_ident, opsK_neg,
      opsK_zero, opsK_scale, opsK_shear, opsK_reflectX, opsK_reflectY, opsK_reflectXAbout, opsK_reflectYAbout,
      opsK_scaleAbout, opsK_shearAbout, C15M.ident]

/-- …and `E` acts on points as documented (Translate, Rotate by the angle whose sine/cosine are
given, Scale, Shear, Reflect, the *About variants about their centre). -/
theorem composer_action (op : Op K) (E : Mat K) (hE : composerMat op = some E) (p : Pt K) :
    Matrix.Dot E p = composerAct op p := by
  cases op <;> cases hE
  · rfl
  · exact (Aff.translate_dot _ _ _ p).trans (dot_ident _)
  · exact (Aff.reflectX_dot _ p).trans (dot_ident _)
  · exact (Aff.reflectY_dot _ p).trans (dot_ident _)
  · exact (Aff.reflectXAbout_dot _ _ p).trans (dot_ident _)
  · exact (Aff.reflectYAbout_dot _ _ p).trans (dot_ident _)
  · exact (Aff.rotate_dot _ _ _ p).trans (dot_ident _)
  · -- Translate(x, y) · rotation · Translate(−x, −y), read from the right
    rw [Aff.translate_dot, Aff.rotate_dot, Aff.translate_dot, dot_ident]
    show (Pt.mk _ _ : Pt K) = Pt.mk _ _
    congr 1 <;> ring
  · exact (Aff.scale_dot _ _ _ p).trans (dot_ident _)
  · exact (Aff.scaleAbout_dot _ _ _ _ _ p).trans (dot_ident _)
  · exact (Aff.shear_dot _ _ _ p).trans (dot_ident _)
  · exact (Aff.shearAbout_dot _ _ _ _ _ p).trans (dot_ident _)

/-- ResetView / SetView replace the view. -/
theorem view_reset_set (c : Ctx K) (m : Mat K) :
    (step (opsK tr cd) .resetView c).st.view = C15M.ident ∧ (step (opsK tr cd) (.setView m) c).st.view = m :=
  ⟨rfl, rfl⟩

/-- the coordinate-system matrix in one formula -/
theorem csv_dot (cs : CoordSys) (W H : K) (q : Pt K) :
    Matrix.Dot (csv (opsK tr cd) cs W H) q =
      ⟨if cs.flipX then W - q.x else q.x, if cs.flipY then H - q.y else q.y⟩ := by
  cases cs <;>
    simp only [csv, opsK_div_two, opsK_reflectXAbout, opsK_reflectYAbout, C15M.reflectXAbout_half_dot,
      C15M.reflectYAbout_half_dot] <;>
    exact dot_ident _

/-- The coordinate-system matrix puts the origin in the documented corner of the W×H canvas and
flips exactly the documented axes: I bottom-left, II bottom-right (x to the left), III top-right
(both flipped), IV top-left (y downwards). -/
theorem coord_origin (W H : K) (p : Pt K) :
    Matrix.Dot (csv (opsK tr cd) .I W H) p = p ∧
    Matrix.Dot (csv (opsK tr cd) .II W H) p = ⟨W - p.x, p.y⟩ ∧
    Matrix.Dot (csv (opsK tr cd) .III W H) p = ⟨W - p.x, H - p.y⟩ ∧
    Matrix.Dot (csv (opsK tr cd) .IV W H) p = ⟨p.x, H - p.y⟩ :=
  ⟨csv_dot tr cd .I W H p, csv_dot tr cd .II W H p, csv_dot tr cd .III W H p, csv_dot tr cd .IV W H p⟩

/-- the matrix every draw starts from -/
def baseK (c : Ctx K) (x y : K) : Mat K :=
  Matrix.Translate (Matrix.Mul (csv (opsK tr cd) c.st.cs c.cv.W c.cv.H) c.st.view)
    (Matrix.Dot c.st.coordView ⟨x, y⟩).x (Matrix.Dot c.st.coordView ⟨x, y⟩).y

theorem baseK_eq (c : Ctx K) (x y : K) : c.baseMatrix (opsK tr cd) x y = baseK tr cd c x y := rfl

/-- `CoordSystemView × View × Translate(CoordView·(x,y))` applied to a point -/
theorem baseK_dot (c : Ctx K) (x y : K) (p : Pt K) :
    Matrix.Dot (baseK tr cd c x y) p =
      Matrix.Dot (csv (opsK tr cd) c.st.cs c.cv.W c.cv.H)
        (Matrix.Dot c.st.view ⟨p.x + (Matrix.Dot c.st.coordView ⟨x, y⟩).x, p.y + (Matrix.Dot c.st.coordView ⟨x, y⟩).y⟩) := by
  rw [baseK, Aff.translate_dot, Aff.dot_mul]

def visible (c : Ctx K) : Bool := c.st.style.hasFill || c.st.style.hasStroke (opsK tr cd)

/-- the style a path receives when it is drawn on its own: the current style with the dash pattern
canonicalised by `checkDash` (and no stroke paint when `checkDash` finds that no dash reaches the path) -/
def styleFor (s : Style K) (p : PathRef K) : Style K :=
  { s with dashes := (drawDashes (opsK tr cd) s.width s.dashOff s.dashes p.len).1,
           stroke := if (drawDashes (opsK tr cd) s.width s.dashOff s.dashes p.len).2 then s.stroke else Paint.none }

/-- DrawPath judges the dash pattern in the units the renderers use (7030ab4): `checkDash` sees the
offset and every dash multiplied by the stroke width; the stroke paint is kept iff it says so; the
recorded pattern is empty when it returns none and the canonical *unscaled* pattern otherwise. With
stroke width 1 this is `checkDash` on the pattern itself. -/
theorem draw_dashes_units (w off len : K) (d : List K) :
    (drawDashes (opsK tr cd) w off d len).2 = (cd (off * w) (d.map (· * w)) len).2 ∧
    ((cd (off * w) (d.map (· * w)) len).1 = [] → (drawDashes (opsK tr cd) w off d len).1 = []) ∧
    ((cd (off * w) (d.map (· * w)) len).1 ≠ [] →
      (drawDashes (opsK tr cd) w off d len).1 = (dashCanonical (arithK tr) off d).2) ∧
    (drawDashes (opsK tr cd) 1 off d len).2 = (cd off d len).2 := by
  refine ⟨rfl, fun h => ?_, fun h => ?_, ?_⟩
  · exact (if_pos (List.isEmpty_iff.mpr h)).trans h
  · exact if_neg (mt List.isEmpty_iff.mp h)
  · show (cd (off * 1) (d.map (· * 1)) len).2 = _
    simp only [mul_one, List.map_id']

/-- In `DrawPath(x, y, p₁ … pₙ)` every path is drawn with the current style (dash pattern as
canonicalised by `checkDash` for that path), whatever `checkDash` says about the other paths of the
same call: the renderer calls are exactly one per path, in order. -/
theorem draw_style_loop (s : Style K) (m : Mat K) (ps : List (PathRef K)) :
    loopCalls (opsK tr cd) s.dashOff s.dashes m s ps = ps.map (fun p => ⟨.path p (styleFor tr cd s p), m⟩) :=
  loopCalls_eq_map ..

/-- DrawPath(x, y, paths…): one renderer call per path, each with the matrix
`CoordSystemView × View × Translate(CoordView·(x,y))`; nothing when the style neither fills nor strokes. -/
theorem draw_matrix (c : Ctx K) (x y : K) (ps : List (PathRef K)) :
    (∀ k ∈ drawCalls (opsK tr cd) (.drawPath x y ps) c, k.m = baseK tr cd c x y) ∧
    (visible tr cd c = true → (drawCalls (opsK tr cd) (.drawPath x y ps) c).length = ps.length) ∧
    (visible tr cd c = false → drawCalls (opsK tr cd) (.drawPath x y ps) c = []) := by
  have e : drawCalls (opsK tr cd) (.drawPath x y ps) c = _ := pathCalls_eq (opsK tr cd) c x y ps
  refine ⟨fun k hk => ?_, fun hv => ?_, fun hv => e.trans (if_neg (Bool.eq_false_iff.mp hv))⟩
  · rw [e] at hk
    split at hk
    · obtain ⟨p, -, rfl⟩ := List.mem_map.mp hk
      rfl
    · cases hk
  · exact (congrArg List.length (e.trans (if_pos hv))).trans (List.length_map _)

theorem draw_style (c : Ctx K) (x y : K) (ps : List (PathRef K)) (hv : visible tr cd c = true) :
    drawCalls (opsK tr cd) (.drawPath x y ps) c =
      ps.map (fun p => ⟨.path p (styleFor tr cd c.st.style p), baseK tr cd c x y⟩) :=
  (pathCalls_eq (opsK tr cd) c x y ps).trans (if_pos hv)

/-- `Fill()`, `Stroke()`, `FillStroke()` draw the current path at (0,0) exactly like `DrawPath` under a
style whose stroke (resp. fill) paint is cleared (resp. the current style), and leave the Context
state — in particular the style — exactly as it was. -/
theorem fill_stroke_semantics (c : Ctx K) (p : PathRef K) :
    drawCalls (opsK tr cd) (.fill p) c =
      drawCalls (opsK tr cd) (.drawPath 0 0 [p]) (c.withStyle { c.st.style with stroke := Paint.none }) ∧
    drawCalls (opsK tr cd) (.stroke p) c =
      drawCalls (opsK tr cd) (.drawPath 0 0 [p]) (c.withStyle { c.st.style with fill := Paint.none }) ∧
    drawCalls (opsK tr cd) (.fillStroke p) c = drawCalls (opsK tr cd) (.drawPath 0 0 [p]) c ∧
    (step (opsK tr cd) (.fill p) c).st = c.st ∧ (step (opsK tr cd) (.stroke p) c).st = c.st ∧
    (step (opsK tr cd) (.fillStroke p) c).st = c.st :=
  ⟨rfl, rfl, rfl, (step_st_of_draw_or_canvasOp _ _ c (Or.inl rfl)).1,
   (step_st_of_draw_or_canvasOp _ _ c (Or.inl rfl)).1, (step_st_of_draw_or_canvasOp _ _ c (Or.inl rfl)).1⟩

/-- what `Fill()` sends to the renderer never carries a stroke paint, what `Stroke()` sends never a fill paint -/
theorem fill_has_no_stroke (c : Ctx K) (p : PathRef K) :
    (∀ k ∈ drawCalls (opsK tr cd) (.fill p) c, ∃ s, k.item = .path p s ∧ s.stroke = Paint.none ∧
        s.fill = c.st.style.fill ∧ k.m = baseK tr cd c 0 0) ∧
    (∀ k ∈ drawCalls (opsK tr cd) (.stroke p) c, ∃ s, k.item = .path p s ∧ s.fill = Paint.none ∧
        k.m = baseK tr cd c 0 0) := by
  constructor <;> intro k hk
  · rw [show drawCalls (opsK tr cd) (.fill p) c = _ from pathCalls_eq (opsK tr cd) _ _ _ [p]] at hk
    split at hk
    · cases List.mem_singleton.mp hk
      exact ⟨_, rfl, ite_self _, rfl, rfl⟩
    · cases hk
  · rw [show drawCalls (opsK tr cd) (.stroke p) c = _ from pathCalls_eq (opsK tr cd) _ _ _ [p]] at hk
    split at hk
    · cases List.mem_singleton.mp hk
      exact ⟨_, rfl, rfl, rfl⟩
    · cases hk

/-- DrawText: the extra reflections cancel the coordinate system's flips — the text is anchored at
`CoordSystemView × View × CoordView·(x,y)` and, in every coordinate system, for the identity view
it is merely translated (upright, not mirrored). -/
theorem text_upright (c : Ctx K) (x y : K) (t : TextRef K) (ht : t.empty = false) :
    ∃ m, drawCalls (opsK tr cd) (.drawText x y t) c = [⟨.text t, m⟩] ∧
      (∀ p : Pt K, Matrix.Dot m p = Matrix.Dot (baseK tr cd c x y)
        ⟨(if c.st.cs.flipX then -1 else 1) * p.x, (if c.st.cs.flipY then -1 else 1) * p.y⟩) ∧
      (c.st.view = C15M.ident → ∀ p : Pt K, Matrix.Dot m p =
        ⟨(Matrix.Dot (baseK tr cd c x y) ⟨0, 0⟩).x + p.x, (Matrix.Dot (baseK tr cd c x y) ⟨0, 0⟩).y + p.y⟩) := by
  have hm := C15M.textFlip_dot c.st.cs.flipX c.st.cs.flipY (baseK tr cd c x y)
  refine ⟨_, ?_, hm, fun hv p => ?_⟩
  · simp only [drawCalls, ht, Bool.false_eq_true, if_false, baseK_eq]; rfl
  · -- under the identity view the base matrix is the flips of the coordinate system after a translation
    rw [hm p]
    simp only [baseK_dot, hv, dot_ident, csv_dot]
    exact congrArg₂ Pt.mk (C15M.flip_anchor ..) (C15M.flip_anchor ..)

/-- DrawImage: in every coordinate system the image is upright — for the identity view pixel `p` lands at
`anchor + (p − corner)/res` with the *positive* scale 1/res on both axes, where `anchor` is the
mapped position (x,y) and `corner` the image corner nearest to the system's origin side
(e.g. the top-left corner in CartesianIV). -/
theorem image_upright (c : Ctx K) (x y : K) (i : ImgRef K) (res : K) (hne : ¬ (i.w = 0 ∧ i.h = 0)) :
    ∃ m, drawCalls (opsK tr cd) (.drawImage x y i res) c = [⟨.image i, m⟩] ∧
      (∀ p : Pt K, Matrix.Dot m p = Matrix.Dot (baseK tr cd c x y)
        ⟨(if c.st.cs.flipX then -1 else 1) * (p.x - (if c.st.cs.flipX then i.w else 0)) / res,
         (if c.st.cs.flipY then -1 else 1) * (p.y - (if c.st.cs.flipY then i.h else 0)) / res⟩) ∧
      (c.st.view = C15M.ident → ∀ p : Pt K, Matrix.Dot m p =
        ⟨(Matrix.Dot (baseK tr cd c x y) ⟨0, 0⟩).x + (p.x - (if c.st.cs.flipX then i.w else 0)) / res,
         (Matrix.Dot (baseK tr cd c x y) ⟨0, 0⟩).y + (p.y - (if c.st.cs.flipY then i.h else 0)) / res⟩) := by
  have hz : (decide (i.w = 0) && decide (i.h = 0)) = false := by
    rw [Bool.and_eq_false_iff, decide_eq_false_iff_not, decide_eq_false_iff_not]
    exact not_and_or.mp hne
  have hm : ∀ p : Pt K,
      Matrix.Dot (imageFlip (opsK tr cd) c.st.cs (Matrix.Scale (baseK tr cd c x y) (1 / res) (1 / res)) i.w i.h) p =
        Matrix.Dot (baseK tr cd c x y)
          ⟨(if c.st.cs.flipX then -1 else 1) * (p.x - (if c.st.cs.flipX then i.w else 0)) / res,
           (if c.st.cs.flipY then -1 else 1) * (p.y - (if c.st.cs.flipY then i.h else 0)) / res⟩ := fun p => by
    rw [imageFlip_dot, Aff.scale_dot]
    exact Aff.dot_congr _ (C15M.flip_scale ..) (C15M.flip_scale ..)
  refine ⟨_, ?_, hm, fun hv p => ?_⟩
  · show (if ((decide (i.w = 0) && decide (i.h = 0)) = true) then [] else _) = _
    rw [hz]; rfl
  · rw [hm p, mul_div_assoc, mul_div_assoc]
    simp only [baseK_dot, hv, dot_ident, csv_dot]
    exact congrArg₂ Pt.mk (C15M.flip_anchor ..) (C15M.flip_anchor ..)

/-- Transform moves all layers consistently: replaying the transformed canvas through `view` is
replaying the original canvas through `view · m` (Clip and Fit are Transform by a translation). -/
theorem transform_consistent (m view : Mat K) (cv : Canvas K) :
    (cv.transform (opsK tr cd) m).renderViewTo (opsK tr cd) view
      = cv.renderViewTo (opsK tr cd) (Matrix.Mul view m) := by
  simp only [Canvas.renderViewTo, Canvas.transform, List.map_map, lookupZ_map, Function.comp_def]
  congr 1
  funext k
  exact List.map_congr_left fun a _ => congrArg (Call.mk a.item) (Aff.mul_assoc view m a.m).symm

/-- Nested canvases flatten: `a.RenderViewTo(b, view)` into a fresh `b`, then `b.RenderViewTo(r, view2)`
sends `r` exactly what `a.RenderViewTo(r, view2 · view)` sends — for the canvas reached by any history. -/
theorem nested_canvas_flattens (h : List (Op K)) (W H W' H' : K) (view view2 : Mat K) :
    let src := (run (opsK tr cd) h (newContext (opsK tr cd) (newCanvas W H))).cv
    (src.renderInto (opsK tr cd) view (newCanvas W' H')).renderViewTo (opsK tr cd) view2
      = src.renderViewTo (opsK tr cd) (Matrix.Mul view2 view) := by
  intro src
  exact nested_replay (opsK tr cd) (fun a b c => Aff.mul_assoc a b c) src view view2 W' H'
    (Grouped_WF src (layers_are_grouped_log (opsK tr cd) h W H))

theorem clip_is_translation (r : Rct K) (cv : Canvas K) :
    (cv.clip (opsK tr cd) r).layers = (cv.transform (opsK tr cd) (Matrix.Translate C15M.ident (-r.x0) (-r.y0))).layers ∧
    (cv.clip (opsK tr cd) r).W = r.x1 - r.x0 ∧ (cv.clip (opsK tr cd) r).H = r.y1 - r.y0 := ⟨rfl, rfl, rfl⟩

/-- the factor of half the stroke width that `Fit` allows for a join with limit `L` -/
def joinReach (join : Nat) (L : K) : K :=
  if (opsK tr cd).joinClips join then Env.hypot (max L (1001 / 1000)) 1 else max L (1001 / 1000)

/-- How far `Fit` lets a stroke reach from the path (the repaired code, 79f3f8c + 2516dea): exactly
half the width for butt/round caps with bevel/round joins (unchanged); at least `max(Limit, 1.001)`
half widths for a miter or arcs join with a finite limit (conservative: the full miter tip lies at
most `Limit` half widths from its vertex), `hypot(max(Limit, 1.001), 1)` half widths when the joiner
clips (MiterClipJoin: the two corners of the cut lie at most one half width beside the bisector at
`Limit` half widths along it); at least √2 half widths for square caps (their corners). -/
theorem stroke_extent (s : Style K) :
    ((opsK tr cd).isSquareCap s.cap = false → (opsK tr cd).joinLimit s.join = none →
        strokeExtent (opsK tr cd) s = s.width / 2) ∧
    (∀ L, (opsK tr cd).joinLimit s.join = some L → joinReach tr cd s.join L * s.width / 2 ≤ strokeExtent (opsK tr cd) s) ∧
    ((opsK tr cd).isSquareCap s.cap = true → s.width / 2 * Env.sqrt 2 ≤ strokeExtent (opsK tr cd) s) ∧
    (1 ≤ (Env.sqrt 2 : K) → 0 ≤ s.width → s.width / 2 ≤ strokeExtent (opsK tr cd) s) := by
  -- what the caps reach is a lower bound whatever the join
  have hcap : (if (opsK tr cd).isSquareCap s.cap then s.width / 2 * Env.sqrt 2 else s.width / 2)
      ≤ strokeExtent (opsK tr cd) s := by
    unfold strokeExtent
    cases (opsK tr cd).joinLimit s.join with
    | none => exact le_rfl
    | some L => exact le_max_left _ _
  refine ⟨fun h1 h2 => ?_, fun L hL => ?_, fun h1 => ?_, fun h2 hw => ?_⟩
  · unfold strokeExtent
    rw [h1, h2]
    rfl
  · unfold strokeExtent
    rw [hL]
    exact le_max_right _ _
  · rwa [if_pos h1] at hcap
  · refine le_trans ?_ hcap
    split
    · exact le_mul_of_one_le_right (div_nonneg hw zero_le_two) h2
    · exact le_rfl

/-- the clipping joiner is identity 4 (MiterClipJoin) and only that one; miter (0), arcs (3) and
miter-clip (4) carry the limit 4 -/
example : (opsK tr cd).joinClips 4 = true ∧ (opsK tr cd).joinClips 0 = false ∧
    (opsK tr cd).joinLimit 4 = some (4 : K) ∧ (opsK tr cd).joinLimit 1 = none := by
  simp [opsK]

/-- The bounds `Fit` uses for a stroked path contain every point whose coordinates are within
`strokeExtent` of a point of the path's bounds — in particular every miter tip (≤ Limit·hw from a
vertex) and every square-cap corner (≤ √2·hw from an end point). -/
theorem stroke_reach_in_bounds (p : PathRef K) (s : Style K) (hs : s.hasStroke (opsK tr cd) = true)
    (q pt : Pt K) (hqx : p.bounds.x0 ≤ q.x ∧ q.x ≤ p.bounds.x1) (hqy : p.bounds.y0 ≤ q.y ∧ q.y ≤ p.bounds.y1)
    (hx : |pt.x - q.x| ≤ strokeExtent (opsK tr cd) s) (hy : |pt.y - q.y| ≤ strokeExtent (opsK tr cd) s) :
    (itemBounds (opsK tr cd) (.path p s)).x0 ≤ pt.x ∧ pt.x ≤ (itemBounds (opsK tr cd) (.path p s)).x1 ∧
    (itemBounds (opsK tr cd) (.path p s)).y0 ≤ pt.y ∧ pt.y ≤ (itemBounds (opsK tr cd) (.path p s)).y1 := by
  have hX := within_reach hqx hx
  have hY := within_reach hqy hy
  rw [itemBounds, if_pos hs]
  exact ⟨hX.1, hX.2, hY⟩

/-- full statement of fit_inside: every layer with non-empty bounds ends up inside the margins -/
def fit_inside_statement : Prop :=
  ∀ (c : Ctx K) (μ : K),
    let c' := step (opsK tr cd) (.cvFit μ) c
    ∀ kl ∈ c'.cv.layers, ∀ k ∈ kl.2,
      rectEmpty (opsK tr cd) (itemBounds (opsK tr cd) k.item) = false →
      ∀ p : Pt K, (itemBounds (opsK tr cd) k.item).x0 ≤ p.x → p.x ≤ (itemBounds (opsK tr cd) k.item).x1 →
                  (itemBounds (opsK tr cd) k.item).y0 ≤ p.y → p.y ≤ (itemBounds (opsK tr cd) k.item).y1 →
        μ ≤ (Matrix.Dot k.m p).x ∧ (Matrix.Dot k.m p).x ≤ c'.cv.W - μ ∧
        μ ≤ (Matrix.Dot k.m p).y ∧ (Matrix.Dot k.m p).y ≤ c'.cv.H - μ

/-- After `Fit(μ)` every point of the bounds (path bounds ± `strokeExtent` — half the stroke width,
√2 half widths with square caps, at least `max(Limit,1.001)` half widths with miter/arcs joins, see
`stroke_extent` and `stroke_reach_in_bounds` —, text bounds, image rectangle) of every layer, transformed by the layer's new matrix, lies in
`[μ, W−μ] × [μ, H−μ]` of the new canvas size. Proved for canvases in which no layer's transformed
bounds degenerate to an Epsilon-thin rectangle (such a layer makes `rect.Empty()` true and is
overwritten by the next one: content that is thinner than 1e-10 mm). -/
theorem fit_inside_partial (c : Ctx K) (μ : K) (hnd : NonDegenerate tr cd c.cv) :
    let c' := step (opsK tr cd) (.cvFit μ) c
    ∀ kl ∈ c'.cv.layers, ∀ k ∈ kl.2,
      rectEmpty (opsK tr cd) (itemBounds (opsK tr cd) k.item) = false →
      ∀ p : Pt K, (itemBounds (opsK tr cd) k.item).x0 ≤ p.x → p.x ≤ (itemBounds (opsK tr cd) k.item).x1 →
                  (itemBounds (opsK tr cd) k.item).y0 ≤ p.y → p.y ≤ (itemBounds (opsK tr cd) k.item).y1 →
        μ ≤ (Matrix.Dot k.m p).x ∧ (Matrix.Dot k.m p).x ≤ c'.cv.W - μ ∧
        μ ≤ (Matrix.Dot k.m p).y ∧ (Matrix.Dot k.m p).y ≤ c'.cv.H - μ := by
  intro c' kl' hkl' k' hk' hne p hx0 hx1 hy0 hy1
  -- `Fit` is `Transform` by the translation that moves the fitted rectangle to `(μ, μ)`
  obtain ⟨kl, hkl, rfl⟩ := List.mem_map.mp hkl'
  obtain ⟨k, hk, rfl⟩ := List.mem_map.mp hk'
  obtain ⟨s1, s2, s3, s4⟩ := (fitRect_good tr cd c.cv hnd).cover k
    (List.mem_flatMap.mpr ⟨kl, hkl, hk⟩) hne
  obtain ⟨t1, t2, t3, t4⟩ := Aff.rect_transform_contains k.m _ p ⟨hx0, hx1⟩ ⟨hy0, hy1⟩
  simp only [opsK_translate, opsK_ident, opsK_neg, opsK_sub, pre_translate_dot]
  have hX := margin_shift μ s1 t1 t2 s2
  have hY := margin_shift μ s3 t3 t4 s4
  exact ⟨hX.1, hX.2, hY.1, hY.2⟩

/-- non-vacuity: a canvas with one 1×1 image layer under the identity matrix is non-degenerate
(for any Epsilon below 1) -/
example (heps : (Env.epsilon : K) < 1) :
    NonDegenerate tr cd ({ layers := [(0, [⟨.image ⟨1, 1⟩, C15M.ident⟩])], z := 0, W := 10, H := 10, log := [] } : Canvas K) := by
  intro kl hkl k hk _
  simp only [List.mem_singleton] at hkl
  subst hkl
  simp only [List.mem_singleton] at hk
  subst hk
  have h01 : ¬ ((1 : K) < 0) := not_lt.mpr zero_le_one
  have h10 : ¬ ((1 : K) ≤ Env.epsilon) := not_le.mpr heps
  simp [rectEmpty, itemBounds, opsK, arithK, Rect.Transform, Matrix.Dot, C15M.ident, Equal, h01, h10]

/-- non-vacuity of `draw_style`/`draw_matrix`: a fresh Context is visible (black fill) -/
example (W H : K) : visible tr cd (newContext (opsK tr cd) (newCanvas W H)) = true := by
  simp [visible, newContext, defaultStyle, Style.hasFill, Paint.has, Paint.color]

/-- non-vacuity of `views_postmultiply`: `Translate` has a matrix -/
example (x y : K) : composerMat (Op.translate x y) = some (Matrix.Translate C15M.ident x y) := rfl

/-- non-vacuity of `image_upright`: a 4×3 image is not the empty image -/
example : ¬ ((⟨4, 3⟩ : ImgRef K).w = 0 ∧ (⟨4, 3⟩ : ImgRef K).h = 0) := by
  intro h; exact four_ne_zero h.1

/-- non-vacuity of `Balanced`: Push; Pop; ResetView is balanced -/
example : Balanced ([Op.push, Op.pop, Op.resetView] : List (Op K)) :=
  Balanced.nest [] [Op.resetView] Balanced.nil (Balanced.op _ _ rfl Balanced.nil)

section VerdictSpec

theorem vInsert_eq {β : Type} (x : Int × β) (l : List (Int × β)) : vInsert x l = insertZ x l := by
  induction l with
  | nil => rfl
  | cons y ys ih => simp only [vInsert, insertZ, ih]

theorem vSort_eq {β : Type} (l : List (Int × β)) : vSort l = stableSortZ l :=
  congrArg (fun f => l.foldr f []) (funext fun x => funext (vInsert_eq x))

theorem firstDiff_none (a b : List Nat) (i : Nat) : firstDiff a b i = none ↔ a = b := by
  induction a generalizing b i with
  | nil => cases b <;> simp [firstDiff]
  | cons x xs ih =>
    cases b with
    | nil => simp [firstDiff]
    | cons y ys =>
      simp only [firstDiff]
      split
      · rename_i h; subst h; simp [ih]
      · rename_i h; simp [h]

/-- Soundness and completeness of the executable verdict: it answers `ok` exactly when the replayed
fingerprints are the recorded ones stably sorted by z — i.e. (by `stable_sort_spec`) a permutation,
in ascending z, in drawing order within each z. -/
theorem verdict_ok_iff (recorded : List (Int × Nat)) (replayed : List Nat) :
    replayVerdict recorded replayed = Verdict.ok ↔ replayed = (stableSortZ recorded).map (·.2) := by
  unfold replayVerdict
  constructor
  · intro h
    split at h
    · cases h
    · split at h
      · rename_i hn
        rw [← vSort_eq]; exact ((firstDiff_none _ _ 0).mp hn).symm
      · cases h
  · intro h
    have hl : recorded.length = replayed.length := by
      rw [h, List.length_map, (stableSortZ_perm recorded).length_eq]
    have hd : firstDiff ((vSort recorded).map (·.2)) replayed 0 = none := by
      rw [firstDiff_none, vSort_eq, h]
    simp [hl, hd]

/-- The model passes the verdict after every history, for any fingerprint that ignores the matrix:
a failing verdict on the real code is therefore a disagreement with the model's proven behaviour. -/
theorem model_passes_verdict {α : Type} (o : Ops α) (h : List (Op α)) (W H : α) (view : Mat α)
    (fp : Call α → Nat) (hfp : ∀ m c, fp (Call.pre o m c) = fp c) :
    let cv := (run o h (newContext o (newCanvas W H))).cv
    replayVerdict (cv.log.map (fun zc => (zc.1, fp zc.2))) ((cv.renderViewTo o view).map fp) = Verdict.ok := by
  intro cv
  rw [verdict_ok_iff, replay_is_stable_sort o h W H view]
  show List.map fp (List.map (fun zc => Call.pre o view zc.2) (stableSortZ cv.log)) = _
  rw [stableSortZ_map fp cv.log, List.map_map, List.map_map]
  apply List.map_congr_left
  intro a _
  simp [Function.comp, hfp]

/-- non-vacuity: the verdict accepts the stable sort and rejects a replay in descending z and one that swaps equal z -/
example : replayVerdict [(1, 10), (0, 20), (1, 30)] [20, 10, 30] = .ok := by decide
example : replayVerdict [(1, 10), (0, 20), (1, 30)] [10, 30, 20] = .order 0 := by decide
example : replayVerdict [(1, 10), (0, 20), (1, 30)] [20, 30, 10] = .order 1 := by decide

end VerdictSpec

/-! ## The slice-typed style field `Dashes` over an explicit heap (CanvasModel/C15Heap.lean)

Slice headers over arrays by identity; `SetDashes` aliases the caller's array, `Push`/`Pop` and the
recorded layer copy headers, `DrawPath` canonicalises into a fresh array; the caller may write into
its own arrays at any time.  Tied to the code by the aliasing probes of harness/c15/alias.go. -/
section HeapModel
open Canvas.C15.Heap
variable {β : Type} (zero : β) (cdv : β → List β → β → List β × Bool)

/-- No Context/Canvas operation writes into an existing array: the heap only grows. -/
theorem dashes_library_never_writes (op : Heap.Op β) (s : Heap.State β) (h : op.isCallerWrite = false) :
    s.heap <+: (Heap.step zero cdv op s).heap := C15.Heap.lib_never_writes zero cdv op s h

/-- A recorded layer reads the same dash pattern after ANY later history — setters, draws, Push/Pop
and writes of the caller into every array it owns included. -/
theorem dashes_recorded_immune (pre ops : List (Heap.Op β)) (l : Heap.HLayer β)
    (hl : l ∈ (Heap.run zero cdv pre (Heap.init zero)).layers) :
    Heap.deref (Heap.run zero cdv (pre ++ ops) (Heap.init zero)).heap l.dashes
      = Heap.deref (Heap.run zero cdv pre (Heap.init zero)).heap l.dashes := by
  rw [C15.Heap.run_append]
  exact C15.Heap.recorded_immune zero cdv ops (C15.Heap.Inv_run zero cdv pre (C15.Heap.Inv_init zero)) hl

/-- Value semantics: as long as the caller does not write into an array it has handed over, the
heap machine is observationally the pure value machine (dashes as lists: SetDashes replaces, Push
copies, Pop restores, DrawPath records the canonical pattern) — the semantics of the main model. -/
theorem dashes_value_semantics (ops : List (Heap.Op β)) (hw : ∀ op ∈ ops, op.isCallerWrite = false) :
    C15.Heap.absState (Heap.run zero cdv ops (Heap.init zero)) =
      C15.Heap.vrun zero cdv (C15.Heap.toVs zero cdv ops (Heap.init zero)) (C15.Heap.absState (Heap.init zero)) :=
  C15.Heap.value_semantics_run zero cdv ops hw (C15.Heap.Inv_init zero)

/-- Push … Pop around any balanced history restores the dash slice header exactly (always), and the
dash *values* provided the caller wrote to none of its arrays in between. -/
theorem dashes_push_pop_restore (pre ops : List (Heap.Op β)) (hb : C15.Heap.bal 0 ops = true) :
    let s := Heap.run zero cdv pre (Heap.init zero)
    ((Heap.run zero cdv (.push :: ops ++ [.pop]) s).cur = s.cur ∧
     (Heap.run zero cdv (.push :: ops ++ [.pop]) s).stack = s.stack) ∧
    ((∀ op ∈ ops, op.isCallerWrite = false) →
      (C15.Heap.absState (Heap.run zero cdv (.push :: ops ++ [.pop]) s)).cur = (C15.Heap.absState s).cur) := by
  intro s
  refine ⟨C15.Heap.push_pop_header zero cdv s ops hb, fun hw => ?_⟩
  exact C15.Heap.push_pop_value zero cdv s ops hw hb (C15.Heap.Inv_run zero cdv pre (C15.Heap.Inv_init zero))

/-- the dash component (offset, pattern) of a Context state of the MAIN model -/
def dashOf {γ : Type} (st : CState γ) : γ × List γ := (st.style.dashOff, st.style.dashes)

/-- which value-machine operation a main-model operation is, as far as the dashes are concerned -/
def dashOp {γ : Type} : Canvas.C15.Op γ → C15.Heap.VOp γ
  | .setDashes off d => .setDashes off d
  | .push => .push
  | .pop => .pop
  | .resetStyle => .resetStyle
  | _ => .nop

/-- Link: on the dash component, the main (value-semantics) model of the Context *is* the value
machine to which the heap model reduces: every operation other than a draw transforms
(current dashes, stack of dashes) exactly as `vstep` does. (What a draw records is `draw_style`.) -/
theorem dashes_main_model_is_value_machine {γ : Type} (o : Ops γ) (cdv' : γ → List γ → γ → List γ × Bool)
    (op : Canvas.C15.Op γ) (c : Ctx γ) (hd : op.isDraw = false) (ls : List (γ × List γ × Bool)) :
    (C15.Heap.vstep o.zero cdv' (dashOp op) ⟨dashOf c.st, c.stack.map dashOf, ls⟩) =
      ⟨dashOf (Canvas.C15.step o op c).st, (Canvas.C15.step o op c).stack.map dashOf, ls⟩ := by
  cases op <;> cases hd
  case pop =>
    cases hs : c.stack with
    | nil => rw [pop_empty_noop o c hs]; simp [dashOp, C15.Heap.vstep, hs]
    | cons t rest => rw [step_pop_of_stack o hs]; simp [dashOp, C15.Heap.vstep]
  all_goals rfl

/-- non-vacuity / documentation of Go semantics: `SetDashes` does alias the caller's array (a write
after the call is visible in the current style) while the layer drawn before the write is not affected -/
example :
    Heap.observe (Heap.run (0 : Nat) (fun _ d _ => (d, true))
      [.callerAlloc [1, 2, 3], .setDashes 0 ⟨1, 0, 3⟩, .drawPath 10, .callerWrite 1 0 9] (Heap.init 0))
      = ([9, 2, 3], [([1, 2, 3], true)]) := by decide

example : C15.Heap.bal 0 ([.push, .drawPath 3, .pop, .resetStyle] : List (Heap.Op Nat)) = true := by decide

end HeapModel

end C15
