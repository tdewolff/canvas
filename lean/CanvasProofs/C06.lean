import CanvasModel.C06Proto
import CanvasProofs.Lemmas.Wn
import CanvasProofs.Lemmas.C06Path
import CanvasProofs.Lemmas.C06Boundary
import CanvasProofs.Lemmas.C06Cross
import CanvasProofs.Lemmas.C06Ccw
import CanvasProofs.Lemmas.C06Verdict
import CanvasGen.SweepF

/-! # C06 — Containment and winding queries (partial)

`windings(zs)` is modelled by hand (tied by exhaustive correspondence over all intersection lists
of length ≤ 4 and random longer ones through hook VerifWindings); since 0cf6beb it is total.
`RayIntersections` on flat subpaths is modelled in exact arithmetic (`rayHits`: the hits of every
segment with their flags, pre-checks, the rotation of the start vertex' end hit at Close (847036a),
stable sort by X; tied by exact correspondence of the real hit lists) and `windings ∘ rayHits` is
PROVED to be the winding number of the specification for every closed flat subpath and every point
off the path — rays through vertices, through the start vertex, along horizontal edges, and arbitrary
self-intersections included. -/
namespace C06
open Canvas Canvas.C06 Canvas.Wn

/-- Since 0cf6beb `windings` is total: an end-point hit that is the last of the list (end point of an
open subpath, nothing to pair it with) stops the loop and counts nothing. (Before, the look-ahead
`zs[i+1]` left the list: index-out-of-range panic.) -/
theorem windings_unpaired_endpoint_ignored (z : Z) (n : Int) (b : Bool) (st : Bool × Bool)
    (h0 : z.t0zero = false) (he : z.endpoint = true) : go [z] n b st = .ok n b := by
  simp [go, h0, he]

/-- A path that comes from above, runs along the ray on a horizontal edge and leaves downwards
(hits: overlap end point + tangent end point, twice, both `into`) passes through the ray once and is
counted once, downwards; if it leaves the way it came (a U shape) nothing is counted. (Before /repo
commit "fix: windings counts a path that steps through the ray along a horizontal edge" both cases
counted nothing: L-shaped polygons were misjudged.) -/
theorem windings_horizontal_step :
    windings [⟨false, false, true, true⟩, ⟨false, true, true, false⟩,
              ⟨false, false, true, true⟩, ⟨false, true, true, false⟩] = .ok (-1) false ∧
    windings [⟨false, false, true, true⟩, ⟨false, true, true, false⟩,
              ⟨false, false, true, true⟩, ⟨false, false, true, false⟩] = .ok 0 false := by
  constructor <;> simp [windings, go]

/-- general form: entering an overlapping section with direction `e` and leaving it with direction
`l` (each end given as an overlap hit paired with a non-overlap end-point hit, in either order) adds
the crossing iff `e = l`. -/
theorem windings_overlap_section (z1 z2 z3 z4 : Z) (rest : List Z) (n : Int) (b : Bool) (st2 : Bool)
    (h1 : z1.t0zero = false ∧ z1.endpoint = true) (h3 : z3.t0zero = false ∧ z3.endpoint = true)
    (hs12 : z1.same ≠ z2.same) (hs34 : z3.same ≠ z4.same) :
    go (z1 :: z2 :: z3 :: z4 :: rest) n b (false, st2) =
      go rest (let e := if z1.same then z2.into else z1.into
               let l := if z3.same then z4.into else z3.into
               if l = e then (if l then n - 1 else n + 1) else n) b
        (false, if z1.same then z2.into else z1.into) := by
  simp only [go, h1.1, h1.2, h3.1, h3.2, Bool.eq_not_of_ne hs12, Bool.eq_not_of_ne hs34,
    Bool.not_or_self, Bool.not_bne_self, Bool.false_eq_true, if_false, Bool.not_true,
    Bool.not_false, if_true]
  simp

def crossingSum : List Z → Int
  | [] => 0
  | z :: rest => dir z + crossingSum rest

theorem go_generic (zs : List Z) (n : Int) (b : Bool) (st : Bool × Bool)
    (h : ∀ z ∈ zs, z.t0zero = false ∧ z.endpoint = false ∧ z.same = false) :
    go zs n b st = .ok (n + crossingSum zs) b := by
  induction zs generalizing n with
  | nil => simp [go, crossingSum]
  | cons z rest ih =>
    have hz := h z (by simp)
    have hr : ∀ z ∈ rest, z.t0zero = false ∧ z.endpoint = false ∧ z.same = false :=
      fun z hz => h z (by simp [hz])
    rw [go.eq_def]
    simp only [hz.1, hz.2.1, hz.2.2, Bool.false_eq_true, if_false, Bool.not_false, if_true]
    rw [ih _ hr]
    simp only [crossingSum]
    congr 1; omega

/-- Generic case (no hit at a vertex, on an overlap or at the ray start): the result is the signed
number of crossings, +1 for each upward and −1 for each downward crossing, and not a boundary. -/
theorem windings_generic (zs : List Z)
    (h : ∀ z ∈ zs, z.t0zero = false ∧ z.endpoint = false ∧ z.same = false) :
    windings zs = .ok (crossingSum zs) false := by
  have := go_generic zs 0 false (false, false) h
  simpa [windings] using this

/-- Vertex-pair rule: two consecutive end-point hits (the two segments meeting at a vertex on the
ray) count once iff the path passes through the ray there (both go the same way), and not at all if
it only touches it; overlapping (horizontal) hits are ignored. -/
theorem windings_vertex_pair (z z2 : Z) (rest : List Z) (n : Int) (b : Bool) (st : Bool × Bool)
    (h0 : z.t0zero = false) (he : z.endpoint = true) (hs : (z.same || z2.same) = false) :
    go (z :: z2 :: rest) n b st =
      go rest (if z.into = z2.into then n + dir z else n) b st := by
  simp only [go, h0, he, hs, Bool.false_eq_true, if_false, Bool.not_true, Bool.not_false, if_true]
  congr 1
  by_cases hi : z.into = z2.into <;> simp_all

theorem go_boundary_mono (zs : List Z) (n : Int) (b : Bool) (st : Bool × Bool) (hb : b = true) :
    ∀ m b', go zs n b st = .ok m b' → b' = true := by
  intro m b' hm
  rcases go_flag zs n b st m b' hm with h | h
  exacts [h.trans hb, h.1]

/-- A hit at the ray's start (the query point lies on the path) is reported as boundary. -/
theorem windings_boundary_reported (z : Z) (rest : List Z) (h : z.t0zero = true) (m : Int) (b' : Bool)
    (hr : windings (z :: rest) = .ok m b') : b' = true := by
  rw [windings, go.eq_def] at hr
  simp only [h, if_true] at hr
  exact go_boundary_mono rest 0 true (false, false) rfl m b' hr

/-- Reverse negates the winding number of the specification around every point. -/
theorem reverse_negates (p : IPt) (polys : List (List IPt)) :
    wn p (polys.map List.reverse) = - wn p polys := wn_reverse p polys

/-- non-vacuity: a paired list exists and is evaluated -/
example : windings [⟨false, false, true, false⟩, ⟨false, false, true, false⟩, ⟨false, true, false, false⟩] = .ok 0 false := by
  simp [windings, go, dir]

/-- `windings` on a list in which the walk always finds an end-point partner (and no hit is at the
ray start): never reads past the end, and — when the overlapping sections close — twice the result is
the order-independent weight sum (2 per crossing inside a segment, 1 per end-point hit, 0 per
overlapping hit, signed by direction) plus what an open overlapping section owed. -/
theorem windings_is_half_weight_sum (zs : List Z) (n : Int) (b : Bool) (st : Bool × Bool)
    (hw : WPz zs = true) (hc : Clean zs) :
    ∃ m, go zs n b st = .ok m b ∧
      ((st.1 != decide (nsame zs % 2 = 1)) = false → 2 * m = 2 * n + phi st + W zs) :=
  go_weight zs n b st hw hc

example : WPz [⟨false, false, true, false⟩, ⟨false, true, true, true⟩] = true ∧
    Clean [⟨false, false, true, false⟩, ⟨false, true, true, true⟩] := by
  constructor
  · decide
  · intro z hz; simp at hz; rcases hz with rfl | rfl <;> simp

/-- The stable sort cannot separate partners: inserting a generic hit, or two end-point hits with the
same position one after the other, into a walk-paired list keeps it walk-paired. -/
theorem pairing_survives_sort (g z1 z2 : Hit) (s : List Hit) (hs : WP s = true)
    (hg : g.tb = .mid) (h1 : z1.tb ≠ .mid) (h2 : z2.tb ≠ .mid) (hx : z2.x = z1.x) :
    WP (ins g s) = true ∧ WP (ins z1 (ins z2 s)) = true :=
  ⟨WP_ins_mid hg hs, WP_ins_pair h1 h2 hx hs⟩

example : WP [⟨3, false, true, .one, false⟩, ⟨3, false, false, .zero, false⟩] = true := by decide +kernel

/-- Off the segment, the hits of one segment are: none, one inside, one at its start, one at its end,
or the two overlapping end hits — with the geometric facts that go with each shape. -/
theorem segment_hits_classified (p a b : IPt) (hne : a ≠ b) (hoff : ¬ onSeg p a b) :
    EdgeCase p a b := edge_cases p a b hne hoff

example : ¬ onSeg ⟨0, 0⟩ ⟨2, -1⟩ ⟨2, 3⟩ := by decide

/-- Along any vertex chain off the query point the hit weights are twice the specification's
crossing sum plus a telescoping term: [last vertex on the ray] − [first vertex on the ray]. -/
theorem hit_weights_telescope (p a : IPt) (rest : List IPt) (hoff : offChain p (a :: rest)) :
    W ((chainHits p (a :: rest)).map Hit.z) =
      2 * chainW p (a :: rest) + fI p ((a :: rest).getLast (by simp)) - fI p a :=
  (chain_sums p rest a hoff).1

example : offChain ⟨-1, 0⟩ [⟨0, 3⟩, ⟨0, 0⟩, ⟨4, 0⟩, ⟨4, -3⟩] := by
  decide

/-- Full statement: for every closed flat subpath and every point off it, the model of
`windings(RayIntersections(x,y))` is the winding number. -/
def windings_refines_wn_statement : Prop :=
  ∀ (p : IPt) (poly : List IPt), offChain p (subpathVerts true poly) →
    windingsSub true p poly = .ok (wn1 p poly) false

/-- Closed flat subpath (any number of vertices, self-intersections, vertices and horizontal edges on
the ray, the start vertex on the ray), query point on no segment: `windings(RayIntersections)`
reports no boundary and returns the winding number. Full strength since 847036a (the two end-point
hits of the start vertex are kept adjacent). -/
theorem windings_refines_wn : windings_refines_wn_statement := by
  intro p poly hoff
  cases poly with
  | nil => simp [windingsSub, rayHits, subHits, isort, windings, go, wn1]
  | cons a r => exact windingsSub_refines p a r hoff

/-- non-vacuity: an L-shaped polygon, ray along a horizontal edge through which the path steps; and
the former start-vertex defect input (an edge passes through the start vertex, the point is level
with it), now evaluated to its winding number 0 -/
example : offChain ⟨-1, 0⟩ (subpathVerts true [⟨4, -3⟩, ⟨-2, -3⟩, ⟨-2, 3⟩, ⟨0, 3⟩, ⟨0, 0⟩, ⟨4, 0⟩]) := by
  decide

example : offChain ⟨-1, 0⟩ (subpathVerts true [⟨2, 0⟩, ⟨4, 2⟩, ⟨0, -2⟩, ⟨4, -2⟩, ⟨0, 2⟩]) ∧
    windingsSub true ⟨-1, 0⟩ [⟨2, 0⟩, ⟨4, 2⟩, ⟨0, -2⟩, ⟨4, -2⟩, ⟨0, 2⟩] = .ok 0 false := by
  refine ⟨by decide, by decide +kernel⟩

/-- the rotation at the Close command: a hit list that starts with the start-hit and ends with the
end-hit of the subpath's start vertex is handed to the sort with the end-hit in front -/
theorem start_vertex_hits_made_adjacent (p v0 : IPt) (z0 e : Hit) (t : List Hit)
    (h0 : z0.tb = .zero) (h1 : e.tb = .one) (hy : v0.y = p.y)
    (hx0 : z0.x = (v0.x : Rat)) (hx1 : e.x = (v0.x : Rat)) :
    rotateStart p v0 (z0 :: (t ++ [e])) = e :: z0 :: t :=
  rotateStart_fire p v0 z0 e t h0 h1 hy hx0 hx1

/-- `Path.Windings` on closed flat subpaths, point off the path, is the winding number of the whole path -/
theorem windingsPath_refines (p : IPt) (subs : List Sub) (h : ∀ s ∈ subs, GoodSub p s) :
    windingsPath p subs = .ok (wn p (subs.map (·.2))) false := by
  have := windingsPathGo_refines p subs h 0
  simpa [windingsPath] using this

/-- `Path.Contains(x, y, rule)` is `rule.Fills(winding number)` -/
theorem contains_refines (rule : Rule) (p : IPt) (subs : List Sub)
    (h : ∀ s ∈ subs, GoodSub p s) :
    containsPath rule p subs = rule.fills (wn p (subs.map (·.2))) := by
  simp [containsPath, windingsPath_refines p subs h]

example : GoodSub ⟨1, 1⟩ (true, [⟨0, 0⟩, ⟨4, 0⟩, ⟨4, 4⟩, ⟨0, 4⟩]) := by
  exact goodSub_closed (by decide)

/-- `Path.Filling`, inner loop for subpath i: the sum over the other subpaths is the winding number
of the other contours around the start vertex of subpath i -/
theorem filling_others_refines (pos : IPt) (i : Nat) (subs : List Sub) (n : Int)
    (h : ∀ k (hk : k < subs.length), k ≠ i → GoodSub pos subs[k]) :
    othersGo pos i subs 0 n = n + wnOthers pos i (subs.map (·.2)) 0 :=
  othersGo_refines pos i subs 0 n (fun k hk hne => h k hk (by omega))

example : ∀ k (hk : k < [((true, [⟨5, 5⟩, ⟨6, 5⟩, ⟨6, 6⟩]) : Sub), (true, [⟨0, 0⟩, ⟨9, 0⟩, ⟨9, 9⟩, ⟨0, 9⟩])].length),
    k ≠ 0 → GoodSub ⟨5, 5⟩ [((true, [⟨5, 5⟩, ⟨6, 5⟩, ⟨6, 6⟩]) : Sub), (true, [⟨0, 0⟩, ⟨9, 0⟩, ⟨9, 9⟩, ⟨0, 9⟩])][k] := by
  intro k hk hne
  have : k = 1 := by simp at hk; omega
  subst this
  exact goodSub_closed (by decide)

/-- only crossings strictly inside segments: every hit is one crossing -/
theorem crossings_generic (l : List Hit) (st : CSt) (n : Int) (b : Bool)
    (hg : ∀ h ∈ l, h.t0zero = false ∧ h.tb = .mid ∧ h.same = false) (pe : Option Hit) :
    crossWalk pe l st n b = (n + l.length, b, st) := by
  induction l generalizing n pe with
  | nil => simp [crossWalk]
  | cons z rest ih =>
    have hz := hg z (by simp)
    simp only [crossWalk, hz.1, hz.2.1, hz.2.2, Bool.false_eq_true, if_false, if_true]
    rw [ih _ (fun h hh => hg h (by simp [hh]))]
    simp only [List.length_cons]
    congr 1; push_cast; omega

/-- The invariant of the walk along ANY vertex chain off the query point: twice the count, plus what
the state (overlapping section entered / left before being entered) and the pending end hit still
owe, is the weight sum of the hits modulo 4; the pending hit exists exactly at a vertex on the ray;
the boundary flag is untouched. -/
theorem crossings_walk_invariant (p a : IPt) (rest : List IPt) (pe : Option Hit) (st : CSt) (n : Int)
    (b : Bool) (hoff : offChain p (a :: rest)) (hp : PendOK p a pe) (hi : CInv st pe) :
    ∃ n' st' pe', crossWalkP pe (chainHits p (a :: rest)) st n b = (n', b, st', pe') ∧
      PendOK p ((a :: rest).getLast (by simp)) pe' ∧ CInv st' pe' ∧
      (2 * n' + cphi st' + pw pe' -
        (2 * n + cphi st + pw pe + W ((chainHits p (a :: rest)).map Hit.z))) % 4 = 0 :=
  chain_cross p rest a pe st n b hoff hp hi

example : PendOK ⟨-1, 0⟩ ⟨2, 3⟩ none ∧ CInv {} none :=
  ⟨pendOK_none (by decide), cinv_none rfl⟩

/-- Crossings of a closed flat subpath at EVERY point off the path (vertices, the start vertex,
horizontal edges on the ray, touching and crossing alike): the count has the parity of the winding
number, the boundary flag is left alone. -/
theorem crossings_parity_is_winding_parity (p a : IPt) (r : List IPt) (b : Bool)
    (hoff : offChain p (subpathVerts true (a :: r))) :
    (crossingsSub true p (a :: r) b).2 = b ∧
    ((crossingsSub true p (a :: r) b).1 - wn1 p (a :: r)) % 2 = 0 :=
  crossingsSub_parity p a r b hoff

/-- `Path.Crossings` decides the even-odd fill rule: for closed flat subpaths and a point off the path
no boundary is reported and EvenOdd.Fills(Crossings) = EvenOdd.Fills(winding number). -/
theorem crossings_decides_evenodd (p : IPt) (subs : List Sub) (h : ∀ s ∈ subs, GoodSub p s) :
    (crossingsPath p subs).2 = false ∧
    Rule.evenOdd.fills (crossingsPath p subs).1 = Rule.evenOdd.fills (wn p (subs.map (·.2))) := by
  obtain ⟨h1, h2⟩ := crossingsPathGo_parity p subs h 0 false
  refine ⟨h1, ?_⟩
  simp only [crossingsPath, Rule.fills]
  exact decide_eq_decide.mpr (by omega)

/-- the L-shaped polygon whose crossing along a horizontal edge the old half counts missed, a
triangle with a redundant vertex on its bottom edge (old count −1), and a ray touching a peak vertex
(now 0 crossings) -/
example : crossingsPath ⟨-2, 0⟩ [(true, [⟨0, 0⟩, ⟨8, 0⟩, ⟨8, -6⟩, ⟨-4, -6⟩, ⟨-4, 6⟩, ⟨0, 6⟩])] = (1, false) ∧
    crossingsPath ⟨-6, 0⟩ [(true, [⟨0, 0⟩, ⟨8, 0⟩, ⟨8, 8⟩, ⟨-4, 0⟩])] = (0, false) ∧
    crossingsPath ⟨-2, 6⟩ [(true, [⟨0, 0⟩, ⟨8, 0⟩, ⟨4, 6⟩])] = (0, false) := by
  refine ⟨by decide +kernel, by decide +kernel, by decide +kernel⟩

/-- The vertex search of `CCW` ends on a vertex that no vertex of the subpath beats: none lies
further right, none equally far right lies lower (Close's end point is not a candidate). -/
theorem ccw_picks_bottom_right_most (v0 : IPt) (rest : List IPt) (d : IPt) :
    extreme (v0 :: rest) < (v0 :: rest).length ∧
    ∀ v ∈ v0 :: rest, better ((v0 :: rest).getD (extreme (v0 :: rest)) d) v = false :=
  extremeGo_best d rest [v0] 0 v0 (by simp) rfl (by simp [better_irrefl])

/-- At such a vertex both neighbours lie to the left (or straight above), and there the comparison of
the two angles in [0,2π) is exactly the sign of the cross product of the two directions. -/
theorem ccw_angle_test_is_cross (v u w : IPt) (hu : better v u = false) (hw : better v w = false)
    (hune : u ≠ v) (hwne : w ≠ v) :
    angLt (vsub w v) (vsub u v) = decide (0 < cross (vsub w v) (vsub u v)) :=
  angLt_leftward (leftward_of_not_better v w hw hwne) (leftward_of_not_better v u hu hune)

example : better ⟨3, 0⟩ ⟨1, 2⟩ = false ∧ better ⟨3, 0⟩ ⟨3, 5⟩ = false := by decide

/-- Full statement: CCW of a simple closed polygon is the sign of its area. -/
def ccw_is_area_sign_statement : Prop :=
  ∀ vs : List IPt, isSimple vs = true → area2 vs ≠ 0 →
    ccwFlat true vs = some (decide (0 < area2 vs))

/-- proved for triangles (every vertex order, every start vertex); for more vertices the step from
"left turn at the bottom-right-most vertex" to "positive area" needs the Jordan curve theorem for
polygons and is only tested (verdict `CCWSPEC`) -/
theorem ccw_is_area_sign_partial (a b c : IPt) (hA : area2 [a, b, c] ≠ 0) :
    ccwFlat true [a, b, c] = some (decide (0 < area2 [a, b, c])) := by
  have hca : c ≠ a := by
    intro h; subst h; apply hA; simp only [area2, area2Chain, List.cons_append, List.nil_append]; ring
  obtain ⟨hlt, hbest⟩ := ccw_picks_bottom_right_most a [b, c] ⟨0, 0⟩
  simp only [List.length_cons, List.length_nil] at hlt
  have hk : extreme [a, b, c] = 0 ∨ extreme [a, b, c] = 1 ∨ extreme [a, b, c] = 2 := by omega
  simp only [ccwFlat, List.length_cons, List.length_nil, if_true]
  have hlen : ¬ (0 + 1 + 1 + 1 - 1 + 1 ≤ 1) := by omega
  simp only [hlen, if_false]
  rcases hk with hk | hk | hk <;> rw [hk] at hbest
  · have hc : corner true [a, b, c] = ⟨0, vsub c a, vsub b a⟩ := by simp [corner, hk, hca]
    rw [hc]
    exact ccw_at_extreme a c b (hbest c (by simp)) (hbest b (by simp)) (cross_vsub_area a b c) hA
  · have hc : corner true [a, b, c] = ⟨1, vsub a b, vsub c b⟩ := by simp [corner, hk, hca]
    rw [hc]
    exact ccw_at_extreme b a c (hbest a (by simp)) (hbest c (by simp))
      ((cross_vsub_area b c a).trans (area2_triangle_rotate a b c)) hA
  · have hc : corner true [a, b, c] = ⟨2, vsub b c, vsub a c⟩ := by simp [corner, hk, hca]
    rw [hc]
    exact ccw_at_extreme c b a (hbest b (by simp)) (hbest a (by simp))
      ((cross_vsub_area c a b).trans (area2_triangle_rotate c a b).symm) hA

example : area2 [(⟨0, 0⟩ : IPt), ⟨4, 0⟩, ⟨0, 3⟩] ≠ 0 := by decide

/-- verdict ok ⇒ every judged point (farther than δ from the path) was reported correctly -/
theorem verdict_ok_sound (P : List (List IPt)) (d2 : Int) (pts : List IPt) (reps : List Int)
    (c' s' : Nat) (h : judgeWind P d2 pts reps 0 0 0 = .ok c' s') :
    ∀ pr ∈ pts.zip reps, farFromAll pr.1 d2 P = true → wn pr.1 P = pr.2 :=
  judgeWind_sound h

/-- verdict fail ⇒ there is a judged point whose reported value differs from the winding number -/
theorem verdict_fail_exhibits (P : List (List IPt)) (d2 : Int) (pts : List IPt) (reps : List Int)
    (i : Nat) (w r : Int) (h : judgeWind P d2 pts reps 0 0 0 = .fail i w r) :
    ∃ pr ∈ pts.zip reps, farFromAll pr.1 d2 P = true ∧ wn pr.1 P = w ∧ pr.2 = r ∧ w ≠ r :=
  judgeWind_fail h

example : judgeWind [[⟨0, 0⟩, ⟨4, 0⟩, ⟨4, 4⟩, ⟨0, 4⟩]] 1 [⟨2, 2⟩] [0] 0 0 0 = .fail 0 1 0 := by decide

/-- monotone in the tolerance: a point judged with the wider band is judged with every narrower one -/
theorem verdict_band_monotone (p : IPt) (d d' : Int) (hd : d ≤ d') (P : List (List IPt))
    (h : farFromAll p d' P = true) : farFromAll p d P = true :=
  farFromAll_mono p d d' hd P h

/-- the verdict's specification is invariant under translation and under the positive rescaling
used to decode float64 coordinates to integers -/
theorem verdict_spec_invariant (k : Int) (hk : 0 < k) (p t : IPt) (poly : List IPt) :
    wn1 (p.add t) (poly.map (·.add t)) = wn1 p poly ∧
    wn1 (IPt.smul k p) (poly.map (IPt.smul k)) = wn1 p poly :=
  ⟨wn1_translate p t poly, wn1_smul k hk p poly⟩

example : judgeWind [[⟨0, 0⟩, ⟨4, 0⟩, ⟨4, 4⟩, ⟨0, 4⟩]] 1 [⟨2, 2⟩, ⟨9, 9⟩] [1, 0] 0 0 0 = .ok 2 0 := by
  decide

/-- every hit lies at or to the right of the query point, and carries T[0] = 0 exactly when it is at
the query point; such a hit exists exactly when the point lies on a segment of the chain -/
theorem hits_at_query_point_iff_on_path (p : IPt) (l : List IPt) :
    (∀ h ∈ chainHits p l, (p.x : Rat) ≤ h.x ∧ (h.t0zero = true ↔ h.x = (p.x : Rat))) ∧
    ((∃ h ∈ chainHits p l, h.t0zero = true) ↔ onChain p l) := by
  induction l with
  | nil => simp [chainHits, onChain]
  | cons a rest ih =>
    cases rest with
    | nil => simp [chainHits, onChain]
    | cons b rest =>
      obtain ⟨e1, e2⟩ := edge_boundary p a b
      simp only [onChain]
      rw [chainHits_cons, ← e2, ← ih.2]
      exact ⟨List.forall_mem_append.mpr ⟨e1, ih.1⟩,
        by simp only [List.mem_append, or_and_right, exists_or]⟩

/-- Whenever `windings(RayIntersections)` of a subpath returns, its boundary flag is set iff the query
point lies on one of the subpath's segments (the sort brings a hit at the query point to the front,
where `windings` cannot skip it as the partner of an end-point hit). -/
theorem boundary_reported_iff_on_path (closed : Bool) (p : IPt) (poly : List IPt) (m : Int) (b : Bool)
    (h : windingsSub closed p poly = .ok m b) :
    b = true ↔ onChain p (subpathVerts closed poly) := by
  have hc := hits_at_query_point_iff_on_path p (subpathVerts closed poly)
  have hmem := fun g => (rayHits_perm closed p poly).mem_iff (a := g)
  simp only [windingsSub] at h
  constructor
  · intro hb
    rcases go_flag _ 0 false (false, false) m b h with hf | ⟨-, z, hz, ht⟩
    · exact absurd (hf.symm.trans hb) Bool.false_ne_true
    · obtain ⟨g, hg, rfl⟩ := List.mem_map.mp hz
      exact hc.2.mp ⟨g, (hmem g).mp hg, ht⟩
  · intro hon
    obtain ⟨g, hg, ht⟩ := hc.2.mpr hon
    have hgs := (hmem g).mpr hg
    have hs : (rayHits closed p poly).Pairwise _ := isort_sorted _
    cases hl : rayHits closed p poly with
    | nil => rw [hl] at hgs; simp at hgs
    | cons g0 rest =>
      rw [hl] at hs hgs h
      -- the head is `g` itself, or lies at or right of the query point and not right of `g`
      have ht0 : g0.t0zero = true := by
        rcases List.mem_cons.mp hgs with rfl | hm
        · exact ht
        · have hg0 := hc.1 g0 ((hmem g0).mp (by rw [hl]; simp))
          have hmin := (List.pairwise_cons.mp hs).1 g hm
          rw [(hc.1 g hg).2.mp ht] at hmin
          exact hg0.2.mpr (le_antisymm hmin hg0.1)
      exact windings_boundary_reported g0.z (rest.map Hit.z) ht0 m b h

example : windingsSub true ⟨2, 0⟩ [⟨0, 0⟩, ⟨4, 0⟩, ⟨4, 4⟩] = .ok 0 true ∧
    onChain ⟨2, 0⟩ (subpathVerts true [⟨0, 0⟩, ⟨4, 0⟩, ⟨4, 4⟩]) := by
  constructor
  · decide +kernel
  · decide

/-- `FillRule.Fills` regenerated from /repo on every run (L1) is the specification's `Rule.fills`
that `Contains`/`Filling` are stated with -/
theorem fills_translated_eq_spec (w : Int) :
    GenF.FillRule.Fills GenF.NonZero w = Rule.nonZero.fills w ∧
    GenF.FillRule.Fills GenF.EvenOdd w = Rule.evenOdd.fills w ∧
    GenF.FillRule.Fills GenF.Positive w = Rule.positive.fills w ∧
    GenF.FillRule.Fills GenF.Negative w = Rule.negative.fills w := by
  refine ⟨?_, ?_, ?_, ?_⟩ <;>
    simp [GenF.FillRule.Fills, GenF.NonZero, GenF.EvenOdd, GenF.Positive, GenF.Negative, Rule.fills,
      tmod_two_eq_zero]

end C06
