import CanvasModel.Path
import CanvasProofs.Lemmas.Basic
set_option linter.unusedSectionVars false
namespace Canvas.Path
variable {α : Type} [DecidableEq α] (C : Codes α)

theorem encode_eq_flatMap (cs : RPath α) : encode C cs = cs.reverse.flatMap (encodeCmd C) := by
  induction cs with
  | nil => rfl
  | cons c cs ih => simp [encode, ih]

theorem encode_reverse_cons (c : Cmd α) (cs : RPath α) :
    (encode C (c :: cs)).reverse = (encodeCmd C c).reverse ++ (encode C cs).reverse := by
  simp [encode]

/-- `Distinct` as the decoders test it: `decodeFlag`, `takeRec` and `takeRecBwd` compare the value read with
the flag values in the order ff, tf, ft, tt and with the command values in the order move, line, close, quad,
cube, arc, so each value has to differ from those tried before it. -/
theorem Codes.Distinct.ne_earlier (hC : C.Distinct) :
    C.line ≠ C.move ∧ (C.close ≠ C.move ∧ C.close ≠ C.line) ∧
    (C.quad ≠ C.move ∧ C.quad ≠ C.line ∧ C.quad ≠ C.close) ∧
    (C.cube ≠ C.move ∧ C.cube ≠ C.line ∧ C.cube ≠ C.close ∧ C.cube ≠ C.quad) ∧
    (C.arc ≠ C.move ∧ C.arc ≠ C.line ∧ C.arc ≠ C.close ∧ C.arc ≠ C.quad ∧ C.arc ≠ C.cube) ∧
    C.flag true false ≠ C.flag false false ∧
    (C.flag false true ≠ C.flag false false ∧ C.flag false true ≠ C.flag true false) ∧
    C.flag true true ≠ C.flag false false ∧ C.flag true true ≠ C.flag true false ∧
    C.flag true true ≠ C.flag false true := by
  obtain ⟨ml, mq, mc, ma, mz, lq, lc, la, lz, qc, qa, qz, ca, cz, az, f1, f2, f3, f4, f5, f6⟩ := hC
  exact ⟨ml.symm, ⟨mz.symm, lz.symm⟩, ⟨mq.symm, lq.symm, qz⟩, ⟨mc.symm, lc.symm, cz, qc.symm⟩,
    ⟨ma.symm, la.symm, az, qa.symm, ca.symm⟩, f1.symm, ⟨f2.symm, f4.symm⟩, f3.symm, f5.symm, f6.symm⟩

theorem decodeFlag_flag (hC : C.Distinct) (l s : Bool) : decodeFlag C (C.flag l s) = some (l, s) := by
  cases l <;> cases s <;> simp [decodeFlag, hC.ne_earlier]

theorem takeRec_encodeCmd (hC : C.Distinct) (c : Cmd α) (t : List α) :
    takeRec C (encodeCmd C c ++ t) = some (c, t) := by
  cases c <;> simp [takeRec, encodeCmd, decodeFlag_flag C hC, hC.ne_earlier]

theorem takeRecBwd_encodeCmd (hC : C.Distinct) (c : Cmd α) (t : List α) :
    takeRecBwd C ((encodeCmd C c).reverse ++ t) = some (c, t) := by
  cases c <;> simp [takeRecBwd, encodeCmd, decodeFlag_flag C hC, hC.ne_earlier]

theorem decodeN_succ_cons (n : Nat) (x : α) (d : List α) :
    decodeN C (n + 1) (x :: d) =
      match takeRec C (x :: d) with
      | some (c, t) => (decodeN C n t).map (c :: ·)
      | none => none := rfl

/-- Both decoders are this scan; the array length is enough fuel because no record is empty. -/
theorem scan_flatMap {dec : Nat → List α → Option (List (Cmd α))} {take : List α → Option (Cmd α × List α)}
    {enc : Cmd α → List α} (hnil : ∀ n, dec n [] = some [])
    (hdec : ∀ n x d, dec (n + 1) (x :: d) = match take (x :: d) with
      | some (c, t) => (dec n t).map (c :: ·)
      | none => none)
    (htake : ∀ c t, take (enc c ++ t) = some (c, t)) (henc : ∀ c, 1 ≤ (enc c).length) :
    ∀ l : List (Cmd α), (∀ n, l.length ≤ n → dec n (l.flatMap enc) = some l) ∧ l.length ≤ (l.flatMap enc).length
  | [] => ⟨fun n _ => hnil n, Nat.le_refl _⟩
  | c :: t => by
    obtain ⟨ih, hlen⟩ := scan_flatMap hnil hdec htake henc t
    have := henc c
    refine ⟨fun n hn => ?_, by rw [List.flatMap_cons, List.length_append, List.length_cons]; omega⟩
    cases n with
    | zero => exact absurd hn (by simp)
    | succ n =>
      rw [List.flatMap_cons]
      cases he : enc c with
      | nil => rw [he] at this; exact absurd this (by simp)
      | cons x d =>
        rw [List.cons_append, hdec, ← List.cons_append, ← he, htake]
        show Option.map _ (dec n _) = _
        rw [ih n (by simpa using hn)]; rfl

theorem encode_reverse_eq (cs : RPath α) :
    (encode C cs).reverse = cs.flatMap fun c => (encodeCmd C c).reverse := by
  induction cs with
  | nil => rfl
  | cons c cs ih => rw [encode_reverse_cons, ih]; simp [List.flatMap_cons]

theorem decode_encode (hC : C.Distinct) (cs : RPath α) : decode C (encode C cs) = some cs.reverse := by
  unfold decode
  rw [encode_eq_flatMap]
  have h := scan_flatMap (dec := decodeN C) (fun n => by cases n <;> rfl) (decodeN_succ_cons C)
    (takeRec_encodeCmd C hC) (fun c => by cases c <;> exact Nat.le_add_left 1 _) cs.reverse
  exact h.1 _ h.2

theorem decodeBwd_encode (hC : C.Distinct) (cs : RPath α) :
    decodeBwd C (encode C cs).reverse = some cs := by
  unfold decodeBwd
  rw [encode_reverse_eq]
  have h := scan_flatMap (dec := decodeBwdN C) (fun n => by cases n <;> rfl) (fun _ _ _ => rfl)
    (takeRecBwd_encodeCmd C hC) (fun c => by cases c <;> exact Nat.le_add_left 1 _) cs
  exact h.1 _ h.2

theorem posRaw_encode (G : Geo α) (cs : RPath α) : posRaw G (encode C cs).reverse = some (pos G cs) := by
  cases cs with
  | nil => rfl
  | cons c cs => rw [encode_reverse_cons]; cases c <;> rfl

theorem decodeFlag_sound {f : α} {l s : Bool} (h : decodeFlag C f = some (l, s)) : f = C.flag l s := by
  unfold decodeFlag at h
  rcases ite_eq_some h with ⟨hf, h⟩ | ⟨-, h⟩
  · cases h; exact hf
  rcases ite_eq_some h with ⟨hf, h⟩ | ⟨-, h⟩
  · cases h; exact hf
  rcases ite_eq_some h with ⟨hf, h⟩ | ⟨-, h⟩
  · cases h; exact hf
  obtain ⟨hf, h⟩ := Option.ite_none_right_eq_some.1 h
  cases h
  exact hf

theorem closing_eq_some {k k' : α} {c0 c : Cmd α} {t0 t : List α}
    (h : (if k' = k then some (c0, t0) else none) = some (c, t)) : k' = k ∧ c0 = c ∧ t0 = t := by
  obtain ⟨hk, h⟩ := Option.ite_none_right_eq_some.1 h
  cases h
  exact ⟨hk, rfl, rfl⟩

/-- Walk down the dispatch of `takeRec`: in the branch of command value `k` the closing value is
checked to be `k` again, so the values read are exactly the record of the command returned. -/
theorem takeRec_sound {d t : List α} {c : Cmd α} (h : takeRec C d = some (c, t)) : d = encodeCmd C c ++ t := by
  unfold takeRec at h
  split at h
  · rename_i k x y k' t0
    rcases ite_eq_some h with ⟨rfl, h⟩ | ⟨-, h⟩
    · obtain ⟨rfl, rfl, rfl⟩ := closing_eq_some h
      rfl
    rcases ite_eq_some h with ⟨rfl, h⟩ | ⟨-, h⟩
    · obtain ⟨rfl, rfl, rfl⟩ := closing_eq_some h
      rfl
    rcases ite_eq_some h with ⟨rfl, h⟩ | ⟨-, h⟩
    · obtain ⟨rfl, rfl, rfl⟩ := closing_eq_some h
      rfl
    rcases ite_eq_some h with ⟨rfl, h⟩ | ⟨-, h⟩
    · split at h
      · obtain ⟨rfl, rfl, rfl⟩ := closing_eq_some h
        rfl
      · cases h
    rcases ite_eq_some h with ⟨rfl, h⟩ | ⟨-, h⟩
    · split at h
      · obtain ⟨rfl, rfl, rfl⟩ := closing_eq_some h
        rfl
      · cases h
    rcases ite_eq_some h with ⟨rfl, h⟩ | ⟨-, h⟩
    · split at h
      · obtain ⟨rfl, hm⟩ := Option.ite_none_right_eq_some.1 h
        obtain ⟨ls, hf, he⟩ := Option.map_eq_some_iff.1 hm
        cases he
        rw [decodeFlag_sound C hf]; rfl
      · cases h
    · cases h
  · cases h

theorem decodeN_sound {n : Nat} : ∀ {d : List α} {l : List (Cmd α)}, decodeN C n d = some l →
    l.flatMap (encodeCmd C) = d := by
  induction n with
  | zero =>
    intro d l h
    cases d with
    | nil => cases h; rfl
    | cons x t => cases h
  | succ n ih =>
    intro d l h
    cases d with
    | nil => cases h; rfl
    | cons x t =>
      rw [decodeN_succ_cons] at h
      cases hr : takeRec C (x :: t) with
      | none => rw [hr] at h; cases h
      | some ct =>
        rw [hr] at h
        obtain ⟨l', hn, rfl⟩ := Option.map_eq_some_iff.1 h
        rw [List.flatMap_cons, ih hn, takeRec_sound C hr]

theorem decode_sound {d : List α} {recs : List (Cmd α)} (h : decode C d = some recs) :
    encode C recs.reverse = d := by
  rw [encode_eq_flatMap, List.reverse_reverse]
  exact decodeN_sound C h

end Canvas.Path
