import CanvasModel.C17.BPList
/-! C17 — the doubly linked `Breakpoints` lists: representation invariant of the pointer-level
model and refinement of `Push` / `InsertBefore` / `Remove` / `Has` to list operations. The three
mutators are instances of one relation, `Relink` (a block of nodes replaced between two neighbours),
whose effect on the represented sequence is proved once at a split `l1 ++ (out ++ l2)` (`RelinkAt`). Core Lean only. -/
namespace Canvas.C17.BP

theorem upd_same (f : Nat → Option Nat) (i : Nat) (v : Option Nat) : upd f i v i = v := by simp [upd]
theorem upd_other (f : Nat → Option Nat) (i j : Nat) (v : Option Nat) (h : j ≠ i) : upd f i v j = f j := by
  simp [upd, h]

def hd : List Nat → Option Nat → Option Nat
  | [], s => s
  | x :: _, _ => some x

def lst : List Nat → Option Nat → Option Nat
  | [], p => p
  | [x], _ => some x
  | _ :: y :: rest, p => lst (y :: rest) p

/-- the nodes `xs` are linked one after the other; the first has `prev = p`, the last `next = s` -/
def Seg (h : Heap) : Option Nat → List Nat → Option Nat → Prop
  | _, [], _ => True
  | p, x :: rest, s => h.prev x = p ∧ h.next x = hd rest s ∧ Seg h (some x) rest s

theorem lst_indep : ∀ (l : List Nat) (x : Nat) (p q : Option Nat), lst (x :: l) p = lst (x :: l) q := by
  intro l
  induction l with
  | nil => intro x p q; rfl
  | cons y rest ih => intro x p q; exact ih y p q

theorem lst_cons (x : Nat) (l : List Nat) (p : Option Nat) : lst (x :: l) p = lst l (some x) := by
  cases l with
  | nil => rfl
  | cons y rest => exact lst_indep rest y p (some x)

theorem lst_cons_some : ∀ (l : List Nat) (x : Nat) (q : Option Nat), ∃ t, lst (x :: l) q = some t
  | [], x, _ => ⟨x, rfl⟩
  | y :: l, _, q => lst_cons_some l y q

theorem hd_append (l1 l2 : List Nat) (s : Option Nat) : hd (l1 ++ l2) s = hd l1 (hd l2 s) := by
  cases l1 <;> rfl

theorem lst_append (l1 l2 : List Nat) (p : Option Nat) : lst (l1 ++ l2) p = lst l2 (lst l1 p) := by
  induction l1 generalizing p with
  | nil => rfl
  | cons x r ih => rw [List.cons_append, lst_cons, ih, lst_cons]

theorem lst_eq_getLast? (l : List Nat) : lst l none = l.getLast? := by
  induction l with
  | nil => rfl
  | cons x rest ih =>
    cases rest with
    | nil => rfl
    | cons y r => rw [List.getLast?_cons_cons, ← ih]; rfl

theorem hd_eq_head? (l : List Nat) : hd l none = l.head? := by cases l <;> rfl

theorem hd_mem {l : List Nat} {t : Nat} (h : hd l none = some t) : t ∈ l :=
  List.mem_of_head? (hd_eq_head? l ▸ h)

theorem lst_mem {l : List Nat} {t : Nat} (h : lst l none = some t) : t ∈ l :=
  List.mem_of_getLast? (lst_eq_getLast? l ▸ h)

theorem seg_append (h : Heap) : ∀ (l1 l2 : List Nat) (p s : Option Nat),
    Seg h p (l1 ++ l2) s ↔ (Seg h p l1 (hd l2 s) ∧ Seg h (lst l1 p) l2 s) := by
  intro l1
  induction l1 with
  | nil => intro l2 p s; simp [Seg, lst]
  | cons x rest ih =>
    intro l2 p s
    simp only [List.cons_append, Seg]
    rw [ih l2 (some x) s, lst_cons, hd_append]
    constructor
    · rintro ⟨a, b, c, d⟩; exact ⟨⟨a, b, c⟩, d⟩
    · rintro ⟨⟨a, b, c⟩, d⟩; exact ⟨a, b, c, d⟩

theorem seg_frame {h h' : Heap} {l : List Nat} {p s : Option Nat}
    (hag : ∀ x, x ∈ l → h'.prev x = h.prev x ∧ h'.next x = h.next x) (hs : Seg h p l s) : Seg h' p l s := by
  induction l generalizing p with
  | nil => trivial
  | cons x rest ih =>
    obtain ⟨a, b, c⟩ := hs
    have hx := hag x List.mem_cons_self
    exact ⟨by rw [hx.1]; exact a, by rw [hx.2]; exact b, ih (fun y hy => hag y (List.mem_cons_of_mem _ hy)) c⟩

theorem seg_set_right {h h' : Heap} {l : List Nat} {p s s' : Option Nat} (hnd : l.Nodup) (hs : Seg h p l s)
    (hag : ∀ y, y ∈ l → h'.prev y = h.prev y ∧ h'.next y = if lst l p = some y then s' else h.next y) :
    Seg h' p l s' := by
  induction l generalizing p with
  | nil => trivial
  | cons x rest ih =>
    obtain ⟨a, b, c⟩ := hs
    obtain ⟨hxr, hnd'⟩ := List.nodup_cons.mp hnd
    obtain ⟨hp, hn⟩ := hag x List.mem_cons_self
    refine ⟨hp.trans a, ?_, ih hnd' c (fun y hy => by
      rw [← lst_cons]; exact hag y (List.mem_cons_of_mem _ hy))⟩
    rw [hn]
    cases rest with
    | nil => exact if_pos rfl
    | cons y r =>
      exact (if_neg fun he => hxr (lst_mem ((lst_indep r y none p).trans he))).trans b

theorem seg_set_left {h h' : Heap} {l : List Nat} {p p' s : Option Nat} (hnd : l.Nodup) (hs : Seg h p l s)
    (hag : ∀ y, y ∈ l → (h'.prev y = if hd l s = some y then p' else h.prev y) ∧ h'.next y = h.next y) :
    Seg h' p' l s := by
  cases l with
  | nil => trivial
  | cons x r =>
    obtain ⟨hx, hnd'⟩ := List.nodup_cons.mp hnd
    obtain ⟨hp, hn⟩ := hag x List.mem_cons_self
    refine ⟨hp.trans (if_pos rfl), hn.trans hs.2.1, seg_frame (fun y hy => ?_) hs.2.2⟩
    obtain ⟨hp, hn⟩ := hag y (List.mem_cons_of_mem _ hy)
    exact ⟨hp.trans (if_neg fun e => hx (by cases e; exact hy)), hn⟩

def Rep (h : Heap) (l : Hdr) (xs : List Nat) : Prop :=
  xs.Nodup ∧ l.head = hd xs none ∧ l.tail = lst xs none ∧ Seg h none xs none

def Free (h : Heap) (b : Nat) : Prop := h.prev b = none ∧ h.next b = none

section
variable {h : Heap} {l : Hdr} {xs : List Nat}

theorem Rep.nodup (hr : Rep h l xs) : xs.Nodup := hr.1
theorem Rep.head (hr : Rep h l xs) : l.head = hd xs none := hr.2.1
theorem Rep.tail (hr : Rep h l xs) : l.tail = lst xs none := hr.2.2.1
theorem Rep.seg (hr : Rep h l xs) : Seg h none xs none := hr.2.2.2

theorem rep_frame {h' : Heap} (hr : Rep h l xs)
    (hf : ∀ y, y ∈ xs → h'.prev y = h.prev y ∧ h'.next y = h.next y) : Rep h' l xs :=
  ⟨hr.nodup, hr.head, hr.tail, seg_frame hf hr.seg⟩

theorem rep_split {a : Nat} (hr : Rep h l xs) (ha : a ∈ xs) :
    ∃ l1 l2, xs = l1 ++ a :: l2 ∧ a ∉ l1 ∧ h.prev a = lst l1 none ∧ h.next a = hd l2 none := by
  obtain ⟨l1, l2, rfl⟩ := List.append_of_mem ha
  have hs := (seg_append h l1 (a :: l2) none none).mp hr.seg
  exact ⟨l1, l2, rfl, fun e => (List.nodup_append.mp hr.nodup).2.2 a e a List.mem_cons_self rfl, hs.2.1, hs.2.2.1⟩

/-- a member is the head or has a predecessor -/
theorem has_of_mem {b : Nat} (hr : Rep h l xs) (hb : b ∈ xs) : has h l b = true := by
  obtain ⟨l1, l2, rfl, _, hp, _⟩ := rep_split hr hb
  cases l1 with
  | nil => simp [has, hr.head, hd]
  | cons x r =>
    obtain ⟨t, e⟩ := lst_cons_some r x none
    simp [has, hp, e]

theorem has_of_free {b : Nat} (hr : Rep h l xs) (hb : b ∉ xs) (hf : Free h b) : has h l b = false := by
  obtain ⟨f1, f2⟩ := hf
  have hh := hr.head
  cases xs with
  | nil => simp [has, f1, f2, hh, hd]
  | cons x rest =>
    have hne : x ≠ b := fun e => hb (e ▸ List.mem_cons_self)
    simp [has, f1, f2, hh, hd, hne]

theorem has_iff_mem {b : Nat} (hr : Rep h l xs) (hf : b ∉ xs → Free h b) : has h l b = decide (b ∈ xs) := by
  by_cases hb : b ∈ xs
  · rw [decide_eq_true hb, has_of_mem hr hb]
  · rw [decide_eq_false hb, has_of_free hr hb (hf hb)]

end

structure Pair (h : Heap) (l : Hdr) (L : List Nat) (l' : Hdr) (M : List Nat) : Prop where
  this : Rep h l L
  other : Rep h l' M
  dis : ∀ a, a ∈ L → a ∉ M
  free : ∀ b, b ∉ L → b ∉ M → Free h b

theorem Pair.symm {h : Heap} {l l' : Hdr} {L M : List Nat} (p : Pair h l L l' M) : Pair h l' M l L :=
  ⟨p.other, p.this, fun a ha hb => p.dis a hb ha, fun b h1 h2 => p.free b h2 h1⟩

theorem Pair.has {h : Heap} {l l' : Hdr} {L M : List Nat} {b : Nat} (hp : Pair h l L l' M) (hb : b ∉ M) :
    has h l b = decide (b ∈ L) :=
  has_iff_mem hp.this (fun hn => hp.free b hn hb)

/-- What `Push`, `InsertBefore` and `Remove` of text/linebreak.go have in common: between the neighbours
`p` and `n` (nil = the end of the list, where the header field stands in for the neighbour) the nodes `out`
are replaced by the nodes `ins`; nothing else changes. `Remove(b)`: `out = [b]`, `ins = []` between `b.prev`
and `b.next` (`remove_relink`); `InsertBefore(b, at)`: `out = []`, `ins = [b]` between `at.prev` and `at`
(`insert_relink`); `Push(b)`: `out = []`, `ins = [b]` between `list.tail` and nil (`push_relink`). -/
structure Relink (h : Heap) (l : Hdr) (p n : Option Nat) (out ins : List Nat) (h' : Heap) (l' : Hdr) : Prop where
  prev : ∀ y, y ∉ out → y ∉ ins → h'.prev y = if n = some y then lst ins p else h.prev y
  next : ∀ y, y ∉ out → y ∉ ins → h'.next y = if p = some y then hd ins n else h.next y
  head : l'.head = if p = none then hd ins n else l.head
  tail : l'.tail = if n = none then lst ins p else l.tail
  seg : Seg h' p ins n
  free : ∀ y, y ∈ out → y ∉ ins → Free h' y

/-- `Relink` at a place of the sequence that the list represents: `xs = l1 ++ out ++ l2` becomes `xs' = l1 ++ ins ++ l2`,
and the neighbours are the last node of `l1` and the first of `l2`. The appends are nested to the right so that for
`out`, `ins` among `[]`, `[b]` both sequences are the plain `l1 ++ l2`, `l1 ++ b :: l2` by computation. -/
def RelinkAt (h : Heap) (l : Hdr) (xs out ins xs' : List Nat) (h' : Heap) (l' : Hdr) : Prop :=
  ∃ l1 l2, xs = l1 ++ (out ++ l2) ∧ xs' = l1 ++ (ins ++ l2) ∧ Relink h l (lst l1 none) (hd l2 none) out ins h' l'

section
variable {h h' : Heap} {l lnew : Hdr} {xs out ins xs' : List Nat}

theorem RelinkAt.free (hr : RelinkAt h l xs out ins xs' h' lnew) (y : Nat) (ho : y ∈ out) (hi : y ∉ ins) : Free h' y := by
  obtain ⟨_, _, _, _, hr⟩ := hr
  exact hr.free y ho hi

theorem RelinkAt.frame (hr : RelinkAt h l xs out ins xs' h' lnew) (y : Nat) (hy : y ∉ xs) (hyi : y ∉ ins) :
    h'.prev y = h.prev y ∧ h'.next y = h.next y := by
  obtain ⟨l1, l2, rfl, _, hr⟩ := hr
  have ho : y ∉ out := fun e => hy (List.mem_append_right _ (List.mem_append_left _ e))
  rw [hr.prev y ho hyi, hr.next y ho hyi, if_neg, if_neg]
  · exact ⟨rfl, rfl⟩
  · exact fun e => hy (List.mem_append_left _ (lst_mem e))
  · exact fun e => hy (List.mem_append_right _ (List.mem_append_right _ (hd_mem e)))

theorem RelinkAt.rep (hr : RelinkAt h l xs out ins xs' h' lnew) (hrep : Rep h l xs) (hndi : ins.Nodup)
    (hins : ∀ y, y ∈ ins → y ∉ xs) : Rep h' lnew xs' := by
  obtain ⟨l1, l2, rfl, rfl, hr⟩ := hr
  obtain ⟨hnd0, hh, ht, hs⟩ := hrep
  rw [seg_append, seg_append] at hs
  obtain ⟨hs1, _, hs2⟩ := hs
  obtain ⟨hnd1, hndo, hd1o⟩ := List.nodup_append.mp hnd0
  obtain ⟨_, hnd2, hdo2⟩ := List.nodup_append.mp hndo
  have hi1 : ∀ y, y ∈ l1 → y ∉ ins := fun y hy e => hins y e (List.mem_append_left _ hy)
  have hi2 : ∀ y, y ∈ l2 → y ∉ ins := fun y hy e => hins y e (List.mem_append_right _ (List.mem_append_right _ hy))
  have h12 : ∀ y, y ∈ l1 → y ∉ l2 := fun y hy e => hd1o y hy y (List.mem_append_right _ e) rfl
  have hn1 : ∀ y, y ∈ l1 → hd l2 none ≠ some y := fun y hy e => h12 y hy (hd_mem e)
  have hp2 : ∀ y, y ∈ l2 → lst l1 none ≠ some y := fun y hy e => h12 y (lst_mem e) hy
  refine ⟨?_, ?_, ?_, ?_⟩
  · refine List.nodup_append.mpr ⟨hnd1, List.nodup_append.mpr ⟨hndi, hnd2, fun a ha c hc e => hi2 c hc (e ▸ ha)⟩,
      fun a ha c hc e => ?_⟩
    rcases List.mem_append.mp hc with hc | hc
    · exact hi1 a ha (e ▸ hc)
    · exact h12 a ha (e ▸ hc)
  · rw [hr.head, hh]
    cases l1 with
    | nil => exact (if_pos rfl).trans (hd_append ins l2 none).symm
    | cons x r =>
      obtain ⟨t, e⟩ := lst_cons_some r x none
      rw [e]
      exact if_neg nofun
  · rw [hr.tail, ht, lst_append, lst_append, lst_append, lst_append]
    cases l2 with
    | nil => rfl
    | cons x r => exact (if_neg nofun).trans (lst_indep r x _ _)
  · rw [seg_append, seg_append]
    refine ⟨seg_set_right hnd1 hs1 (fun y hy => ?_), hr.seg, seg_set_left hnd2 hs2 (fun y hy => ?_)⟩
    · have ho : y ∉ out := fun e => hd1o y hy y (List.mem_append_left _ e) rfl
      rw [hr.prev y ho (hi1 y hy), hr.next y ho (hi1 y hy), if_neg (hn1 y hy), hd_append]
      exact ⟨rfl, rfl⟩
    · have ho : y ∉ out := fun e => hdo2 y e y hy rfl
      rw [hr.prev y ho (hi2 y hy), hr.next y ho (hi2 y hy), if_neg (hp2 y hy)]
      exact ⟨rfl, rfl⟩

theorem RelinkAt.pair {l' : Hdr} {M : List Nat} (hr : RelinkAt h l xs out ins xs' h' lnew) (hp : Pair h l xs l' M)
    (hnd : ins.Nodup) (hins : ∀ y, y ∈ ins → y ∉ xs ∧ y ∉ M) : Pair h' lnew xs' l' M := by
  have hfr := hr.frame
  have hrep := hr.rep hp.this hnd (fun y hy => (hins y hy).1)
  obtain ⟨l1, l2, rfl, rfl, hr⟩ := hr
  refine ⟨hrep, rep_frame hp.other (fun y hy => hfr y (fun e => hp.dis y e hy) (fun e => (hins y e).2 hy)),
    fun a ha hm => ?_, fun y hy hym => ?_⟩
  · simp only [List.mem_append] at ha
    rcases ha with e | e | e
    · exact hp.dis a (List.mem_append_left _ e) hm
    · exact (hins a e).2 hm
    · exact hp.dis a (List.mem_append_right _ (List.mem_append_right _ e)) hm
  · simp only [List.mem_append, not_or] at hy
    by_cases ho : y ∈ out
    · exact hr.free y ho hy.2.1
    · have hyl : y ∉ l1 ++ (out ++ l2) := by simp only [List.mem_append, not_or]; exact ⟨hy.1, ho, hy.2.2⟩
      obtain ⟨e1, e2⟩ := hfr y hyl hy.2.1
      exact ⟨e1.trans (hp.free y hyl hym).1, e2.trans (hp.free y hyl hym).2⟩

end

def insBefore (b a : Nat) : List Nat → List Nat
  | [] => []
  | x :: rest => if x = a then b :: x :: rest else x :: insBefore b a rest

theorem insBefore_mid (b a : Nat) : ∀ (l1 l2 : List Nat), a ∉ l1 → insBefore b a (l1 ++ a :: l2) = l1 ++ b :: a :: l2 := by
  intro l1
  induction l1 with
  | nil => intro l2 _; simp [insBefore]
  | cons x rest ih =>
    intro l2 ha
    have hx : x ≠ a := fun e => ha (e ▸ List.mem_cons_self)
    have hr : a ∉ rest := fun e => ha (List.mem_cons_of_mem _ e)
    simp only [List.cons_append, insBefore, if_neg hx, ih l2 hr]

section
variable {h : Heap} {l : Hdr} {b : Nat}

theorem push_noop {x : Nat} (hh : l.head = some x) (hb : has h l b = true) : push h l b = some (h, l) := by
  simp [push, hh, hb]

theorem remove_noop (hb : has h l b = false) : remove h l b = (h, l) := by
  simp [remove, hb]

theorem insert_noop {a : Nat} (hg : has h l b = true ∨ has h l a = false) : insertBefore h l b a = (h, l) := by
  rcases hg with e | e
  · simp [insertBefore, e]
  · simp [insertBefore, e]

/-- `b`'s own pointers are read after its neighbours are relinked, but relinking does not change them -/
theorem remove_fields (hhas : has h l b = true) :
    (∀ y, (remove h l b).1.prev y = if y = b then none else if h.next b = some y then h.prev b else h.prev y) ∧
    (∀ y, (remove h l b).1.next y = if y = b then none else if h.prev b = some y then h.next b else h.next y) ∧
    (remove h l b).2.head = (if h.prev b = none then h.next b else l.head) ∧
    (remove h l b).2.tail = (if h.next b = none then h.prev b else l.tail) := by
  unfold remove
  rw [hhas]
  cases hpb : h.prev b <;> cases hnb : h.next b <;> simp [Heap.setPrev, Heap.setNext, upd, hpb, hnb, eq_comm]

theorem remove_relink {xs : List Nat} (hr : Rep h l xs) (hb : b ∈ xs) :
    RelinkAt h l xs [b] [] (xs.erase b) (remove h l b).1 (remove h l b).2 := by
  obtain ⟨cp, cn, ch, ct⟩ := remove_fields (has_of_mem hr hb)
  obtain ⟨l1, l2, rfl, hb1, hpb, hnb⟩ := rep_split hr hb
  refine ⟨l1, l2, rfl, ?_, ?_⟩
  · rw [List.erase_append_right _ hb1, List.erase_cons_head]
    rfl
  rw [← hpb, ← hnb]
  refine ⟨fun y hy _ => ?_, fun y hy _ => ?_, ch, ct, trivial, fun y hy _ => ?_⟩
  · rw [cp y, if_neg (List.ne_of_not_mem_cons hy)]; rfl
  · rw [cn y, if_neg (List.ne_of_not_mem_cons hy)]; rfl
  · rw [List.mem_singleton.mp hy]
    exact ⟨(cp b).trans (if_pos rfl), (cn b).trans (if_pos rfl)⟩

/-- each clause tests the writes last first (`at.prev.next = b` comes after `b.next = at`), so it holds whether or
not `at.prev` is `b` -/
theorem insert_fields {a : Nat} (hb : has h l b = false) (ha : has h l a = true) (hpb : h.prev b = none) :
    (∀ y, (insertBefore h l b a).1.prev y = if y = a then some b else if y = b then h.prev a else h.prev y) ∧
    (∀ y, (insertBefore h l b a).1.next y = if h.prev a = some y then some b else if y = b then some a else h.next y) ∧
    (insertBefore h l b a).2.head = (if h.prev a = none then some b else l.head) ∧
    (insertBefore h l b a).2.tail = l.tail := by
  unfold insertBefore
  rw [hb, ha]
  cases hp : h.prev a with
  | none =>
    simp [Heap.setPrev, Heap.setNext, upd, hp, eq_comm]
    -- left: the clause for `prev` at `y = b`: this branch does not write `b.prev`, the clause says nil, and so does `hpb`
    intro y
    by_cases e : b = y
    · subst e; simp [hpb]
    · simp [e]
  | some p => simp [Heap.setPrev, Heap.setNext, upd, hp, eq_comm]

theorem insert_relink {xs : List Nat} {a : Nat} (hr : Rep h l xs) (hb : b ∉ xs) (hf : Free h b) (ha : a ∈ xs) :
    RelinkAt h l xs [] [b] (insBefore b a xs) (insertBefore h l b a).1 (insertBefore h l b a).2 := by
  have hba : b ≠ a := fun e => hb (e ▸ ha)
  obtain ⟨cp, cn, ch, ct⟩ := insert_fields (has_of_free hr hb hf) (has_of_mem hr ha) hf.1
  obtain ⟨l1, l2, rfl, ha1, hpa, _⟩ := rep_split hr ha
  have hpab : h.prev a ≠ some b := hpa ▸ fun e => hb (List.mem_append_left _ (lst_mem e))
  refine ⟨l1, a :: l2, rfl, insBefore_mid b a l1 l2 ha1, ?_⟩
  -- the right neighbour `hd (a :: l2) none` is written `some a`: the rewriting below looks for `some a = some y`
  show Relink h l _ (some a) _ _ _ _
  rw [← hpa]
  refine ⟨fun y _ hy => ?_, fun y _ hy => ?_, ch, ct, ⟨?_, ?_, trivial⟩, nofun⟩
  · have hyb : y ≠ b := List.ne_of_not_mem_cons hy
    rw [cp y, if_neg hyb]
    by_cases e : y = a
    · rw [if_pos e, if_pos (e ▸ rfl)]; rfl
    · rw [if_neg e, if_neg (fun e' => e (Option.some.inj e').symm)]
  · rw [cn y, if_neg (List.ne_of_not_mem_cons hy)]; rfl
  · rw [cp b, if_neg hba, if_pos rfl]
  · rw [cn b, if_neg hpab, if_pos rfl]; rfl

theorem push_relink {xs : List Nat} (hr : Rep h l xs) (hb : b ∉ xs) (hf : Free h b) :
    ∃ h' l', push h l b = some (h', l') ∧ RelinkAt h l xs [] [b] (xs ++ [b]) h' l' := by
  have hhas := has_of_free hr hb hf
  obtain ⟨_, hh, ht, _⟩ := hr
  cases xs with
  | nil =>
    exact ⟨h, ⟨some b, some b⟩, by simp [push, hh, hd], [], [], rfl, rfl,
      fun y _ _ => rfl, fun y _ _ => rfl, rfl, rfl, ⟨hf.1, hf.2, trivial⟩, nofun⟩
  | cons x r =>
    obtain ⟨t, hlt⟩ := lst_cons_some r x none
    have htb : t ≠ b := fun e => hb (e ▸ lst_mem hlt)
    rw [hlt] at ht
    refine ⟨(h.setPrev b l.tail).setNext t (some b), ⟨l.head, some b⟩, by simp [push, hh, hd, hhas, ht],
      x :: r, [], (List.append_nil _).symm, rfl, ?_⟩
    rw [hlt]
    refine ⟨fun y _ hy => ?_, fun y _ hy => ?_, rfl, rfl, ⟨?_, ?_, trivial⟩, nofun⟩
    · exact upd_other _ _ _ _ (List.ne_of_not_mem_cons hy)
    · show upd h.next t (some b) y = if some t = some y then some b else h.next y
      by_cases e : y = t
      · rw [e, upd_same, if_pos rfl]
      · rw [upd_other _ _ _ _ e, if_neg (fun e' => e (Option.some.inj e').symm)]
    · exact (upd_same _ _ _).trans ht
    · exact (upd_other _ _ _ _ htb.symm).trans hf.2

end

theorem remove_rep {h : Heap} {l : Hdr} {xs : List Nat} {b : Nat} (hr : Rep h l xs) (hb : b ∈ xs) :
    Rep (remove h l b).1 (remove h l b).2 (xs.erase b) ∧ Free (remove h l b).1 b ∧
      (∀ y, y ∉ xs → (remove h l b).1.prev y = h.prev y ∧ (remove h l b).1.next y = h.next y) := by
  have hrl := remove_relink hr hb
  exact ⟨hrl.rep hr List.nodup_nil nofun, hrl.free b List.mem_cons_self nofun, fun y hy => hrl.frame y hy nofun⟩

theorem insert_rep {h : Heap} {l : Hdr} {xs : List Nat} {b a : Nat} (hr : Rep h l xs) (hb : b ∉ xs)
    (hf : Free h b) (ha : a ∈ xs) :
    Rep (insertBefore h l b a).1 (insertBefore h l b a).2 (insBefore b a xs) ∧
      (∀ y, y ∉ xs → y ≠ b → (insertBefore h l b a).1.prev y = h.prev y ∧ (insertBefore h l b a).1.next y = h.next y) := by
  have hrl := insert_relink hr hb hf ha
  exact ⟨hrl.rep hr (List.pairwise_singleton _ b) (List.forall_mem_singleton.mpr hb),
    fun y hy hyb => hrl.frame y hy (fun e => hyb (List.mem_singleton.mp e))⟩

theorem push_rep {h : Heap} {l : Hdr} {xs : List Nat} {b : Nat} (hr : Rep h l xs) (hb : b ∉ xs)
    (hf : Free h b) :
    ∃ h' l', push h l b = some (h', l') ∧ Rep h' l' (xs ++ [b]) ∧
      (∀ y, y ∉ xs → y ≠ b → h'.prev y = h.prev y ∧ h'.next y = h.next y) := by
  obtain ⟨h', l', he, hrl⟩ := push_relink hr hb hf
  exact ⟨h', l', he, hrl.rep hr (List.pairwise_singleton _ b) (List.forall_mem_singleton.mpr hb),
    fun y hy hyb => hrl.frame y hy (fun e => hyb (List.mem_singleton.mp e))⟩

def absPush (L : List Nat) (b : Nat) : List Nat := if b ∈ L then L else L ++ [b]
def absInsert (L : List Nat) (b a : Nat) : List Nat := if b ∈ L ∨ a ∉ L then L else insBefore b a L

theorem push_pair {h : Heap} {l l' : Hdr} {L M : List Nat} {b : Nat} (hp : Pair h l L l' M) (hb : b ∉ M) :
    ∃ h' lnew, push h l b = some (h', lnew) ∧ Pair h' lnew (absPush L b) l' M := by
  unfold absPush
  by_cases hbl : b ∈ L
  · rw [if_pos hbl]
    cases L with
    | nil => cases hbl
    | cons x r => exact ⟨h, l, push_noop hp.this.head (has_of_mem hp.this hbl), hp⟩
  · rw [if_neg hbl]
    obtain ⟨h', ln, he, hrl⟩ := push_relink hp.this hbl (hp.free b hbl hb)
    exact ⟨h', ln, he, hrl.pair hp (List.pairwise_singleton _ b) (List.forall_mem_singleton.mpr ⟨hbl, hb⟩)⟩

theorem remove_pair {h : Heap} {l l' : Hdr} {L M : List Nat} {b : Nat} (hp : Pair h l L l' M) (hb : b ∉ M) :
    Pair (remove h l b).1 (remove h l b).2 (L.erase b) l' M := by
  by_cases hbl : b ∈ L
  · exact (remove_relink hp.this hbl).pair hp List.nodup_nil nofun
  · rw [remove_noop (has_of_free hp.this hbl (hp.free b hbl hb)), List.erase_of_not_mem hbl]
    exact hp

theorem insert_pair {h : Heap} {l l' : Hdr} {L M : List Nat} {b a : Nat} (hp : Pair h l L l' M) (hb : b ∉ M)
    (ha : a ∉ M) : Pair (insertBefore h l b a).1 (insertBefore h l b a).2 (absInsert L b a) l' M := by
  unfold absInsert
  by_cases hg : b ∈ L ∨ a ∉ L
  · rw [if_pos hg, insert_noop (hg.imp (has_of_mem hp.this) fun e => has_of_free hp.this e (hp.free a e ha))]
    exact hp
  · have hbl : b ∉ L := fun e => hg (Or.inl e)
    have hal : a ∈ L := Classical.not_not.mp (fun e => hg (Or.inr e))
    rw [if_neg hg]
    exact (insert_relink hp.this hbl (hp.free b hbl hb) hal).pair hp (List.pairwise_singleton _ b)
      (List.forall_mem_singleton.mpr ⟨hbl, hb⟩)

def Rep2 (s : Sys) (xs ys : List Nat) : Prop := Pair s.heap s.l0 xs s.l1 ys

def absStep (xs ys : List Nat) (obs : List Bool) : Op → List Nat × List Nat × List Bool
  | Op.push i b => if i = 0 then (absPush xs b, ys, obs) else (xs, absPush ys b, obs)
  | Op.insertBefore i b a => if i = 0 then (absInsert xs b a, ys, obs) else (xs, absInsert ys b a, obs)
  | Op.remove i b => if i = 0 then (xs.erase b, ys, obs) else (xs, ys.erase b, obs)
  | Op.has i b => (xs, ys, obs ++ [if i = 0 then decide (b ∈ xs) else decide (b ∈ ys)])

/-- discipline of the algorithm: an operation on one list never names a member of the other list -/
def Disc (xs ys : List Nat) : Op → Prop
  | Op.push i b => if i = 0 then b ∉ ys else b ∉ xs
  | Op.insertBefore i b a => if i = 0 then b ∉ ys ∧ a ∉ ys else b ∉ xs ∧ a ∉ xs
  | Op.remove i b => if i = 0 then b ∉ ys else b ∉ xs
  | Op.has i b => if i = 0 then b ∉ ys else b ∉ xs

theorem step_rep2 {s : Sys} {xs ys : List Nat} (obs : List Bool) {op : Op} (hr : Rep2 s xs ys)
    (hdisc : Disc xs ys op) :
    ∃ s' obs', step s obs op = some (s', obs') ∧
      Rep2 s' (absStep xs ys obs op).1 (absStep xs ys obs op).2.1 ∧ obs' = (absStep xs ys obs op).2.2 := by
  -- list `0` and any other list index `n + 1`: on these `Sys.hdr`, `Sys.set`, `absStep`, `Disc` all compute
  cases op with
  | push i b =>
    cases i with
    | zero =>
      obtain ⟨h', ln, he, hp⟩ := push_pair hr hdisc
      exact ⟨s.set 0 h' ln, obs, by rw [step, show s.hdr 0 = s.l0 from rfl, he], hp, rfl⟩
    | succ n =>
      obtain ⟨h', ln, he, hp⟩ := push_pair hr.symm hdisc
      exact ⟨s.set (n + 1) h' ln, obs, by rw [step, show s.hdr (n + 1) = s.l1 from rfl, he], hp.symm, rfl⟩
  | insertBefore i b a =>
    cases i with
    | zero => exact ⟨_, _, rfl, insert_pair hr hdisc.1 hdisc.2, rfl⟩
    | succ n => exact ⟨_, _, rfl, (insert_pair hr.symm hdisc.1 hdisc.2).symm, rfl⟩
  | remove i b =>
    cases i with
    | zero => exact ⟨_, _, rfl, remove_pair hr hdisc, rfl⟩
    | succ n => exact ⟨_, _, rfl, (remove_pair hr.symm hdisc).symm, rfl⟩
  | has i b =>
    cases i with
    | zero => exact ⟨s, _, rfl, hr, congrArg (obs ++ [·]) (hr.has hdisc)⟩
    | succ n => exact ⟨s, _, rfl, hr, congrArg (obs ++ [·]) (hr.symm.has hdisc)⟩

def absRun : List Nat → List Nat → List Bool → List Op → List Nat × List Nat × List Bool
  | xs, ys, obs, [] => (xs, ys, obs)
  | xs, ys, obs, op :: rest =>
    absRun (absStep xs ys obs op).1 (absStep xs ys obs op).2.1 (absStep xs ys obs op).2.2 rest

def DiscAll : List Nat → List Nat → List Bool → List Op → Prop
  | _, _, _, [] => True
  | xs, ys, obs, op :: rest =>
    Disc xs ys op ∧ DiscAll (absStep xs ys obs op).1 (absStep xs ys obs op).2.1 (absStep xs ys obs op).2.2 rest

theorem rep2_init : Rep2 ⟨emptyHeap, emptyHdr, emptyHdr⟩ [] [] :=
  ⟨⟨List.nodup_nil, rfl, rfl, trivial⟩, ⟨List.nodup_nil, rfl, rfl, trivial⟩, (fun a ha => by cases ha),
    fun b _ _ => ⟨rfl, rfl⟩⟩

theorem run_rep2 {ops : List Op} {s : Sys} {xs ys : List Nat} {obs : List Bool} (hr : Rep2 s xs ys)
    (hdisc : DiscAll xs ys obs ops) :
    ∃ s' obs', run s obs ops = some (s', obs') ∧
      Rep2 s' (absRun xs ys obs ops).1 (absRun xs ys obs ops).2.1 ∧ obs' = (absRun xs ys obs ops).2.2 := by
  induction ops generalizing s xs ys obs with
  | nil => exact ⟨s, obs, rfl, hr, rfl⟩
  | cons op rest ih =>
    obtain ⟨s1, obs1, he, hr1, ho1⟩ := step_rep2 obs hr hdisc.1
    simp only [run, he, absRun]
    rw [ho1]
    exact ih hr1 hdisc.2

end Canvas.C17.BP
