import CanvasProofs.Lemmas.C17Loop
import CanvasProofs.Lemmas.C17Base
/-! C17: the invariant `Inv` of the item loop, one iteration (`mid_of_inv`, `step_inv`), and a pass as the relation
`Run` with what the invariant gives at its end (any scalar, no laws except reflexivity of `==` where stated). -/
set_option linter.unusedSectionVars false
namespace Canvas.C17

section
variable {α : Type} [Add α] [Sub α] [Mul α] [Div α] [Neg α] [LT α] [LE α] [BEq α]
  [DecidableLT α] [DecidableLE α] [NatCast α]
variable (P : Params α) (items : List (Item α)) (lineW : α)

def rootD : ND α := ⟨0, 0, 1, k 0, k 0, k 0, k 0, k 0, k 0⟩

theorem root_eq : (root : Node α) = ⟨rootD, []⟩ := rfl

/-- Well-formed chain of breakpoints (nearest first, root last). `fb`: breakpoints made by the
overflow fallback are allowed. A normal breakpoint records exactly the measures of its line. -/
inductive ChainOK (P : Params α) (items : List (Item α)) (lineW : α) (tol : Option α) (fb : Bool) :
    List (ND α) → Prop
  | root : ChainOK P items lineW tol fb [rootD]
  | normal (c p : ND α) (rest : List (ND α)) (it : Item α) :
      legalAt P items c.pos = true → c.line = p.line + 1 → (p.pos < c.pos ∨ rest = []) →
      items[c.pos]? = some it →
      (c.w, c.y, c.z) = sumsAfter P items c.pos →
      c.width = widthAt items c.pos →
      adjRatio P lineW it (pre items c.pos).1 (pre items c.pos).2.1 (pre items c.pos).2.2 p.w p.y p.z
        = some c.ratio →
      feasAt tol c.ratio = true →
      c.dem = lineDemerits P it c.ratio (flaggedAt items p.pos) p.fit + p.dem →
      ChainOK P items lineW tol fb (p :: rest) → ChainOK P items lineW tol fb (c :: p :: rest)
  | fallback (c p : ND α) (rest : List (ND α)) :
      fb = true →
      legalAt P items c.pos = true → c.line = p.line + 1 → (p.pos < c.pos ∨ rest = []) →
      (c.w, c.y, c.z) = sumsAfter P items c.pos → c.width = widthAt items c.pos → c.ratio = k 0 → c.fit = 1 →
      c.dem = p.dem + k 1000 →
      ChainOK P items lineW tol fb (p :: rest) → ChainOK P items lineW tol fb (c :: p :: rest)

theorem ChainOK.mono {P : Params α} {items : List (Item α)} {lineW : α} {tol : Option α} {fb : Bool}
    {ch : List (ND α)} (h : ChainOK P items lineW tol fb ch) : ChainOK P items lineW tol true ch := by
  induction h with
  | root => exact ChainOK.root
  | normal c p rest it h1 h2 h3 h4 h5 h6 h7 h8 h9 _ ih => exact ChainOK.normal c p rest it h1 h2 h3 h4 h5 h6 h7 h8 h9 ih
  | fallback c p rest h0 h1 h2 h3 h4 h5 h6 h7 h8 _ ih => exact ChainOK.fallback c p rest rfl h1 h2 h3 h4 h5 h6 h7 h8 ih

/-- what a breakpoint `c` of either kind records, and what is below it -/
structure Link (P : Params α) (items : List (Item α)) (lineW : α) (tol : Option α) (fb : Bool) (c p : ND α)
    (rest : List (ND α)) : Prop where
  legal : legalAt P items c.pos = true
  above : p.pos < c.pos ∨ rest = []
  sums : (c.w, c.y, c.z) = sumsAfter P items c.pos
  width : c.width = widthAt items c.pos
  tail : ChainOK P items lineW tol fb (p :: rest)

theorem ChainOK.link {P : Params α} {items : List (Item α)} {lineW : α} {tol : Option α} {fb : Bool} {c p : ND α}
    {rest : List (ND α)} (h : ChainOK P items lineW tol fb (c :: p :: rest)) : Link P items lineW tol fb c p rest := by
  cases h with
  | normal _ _ _ it h1 h2 h3 h4 h5 h6 h7 h8 h9 h10 => exact ⟨h1, h3, h5, h6, h10⟩
  | fallback _ _ _ h0 h1 h2 h3 h4 h5 h6 h7 h8 h9 => exact ⟨h1, h3, h4, h5, h9⟩

def nonRootPos : List (ND α) → List Nat
  | [] => []
  | [_] => []
  | c :: p :: rest => c.pos :: nonRootPos (p :: rest)

def NodeOK (P : Params α) (items : List (Item α)) (lineW : α) (tol : Option α) (fb : Bool) (b : Nat)
    (n : Node α) : Prop :=
  ChainOK P items lineW tol fb (n.d :: n.anc) ∧ (n.d.pos < b ∨ n.anc = [])

/-- the sums a node can carry: zero or `Σ after(a)` (`chain_isT`); the running sums, admitted as well, are not
needed -/
def IsT (P : Params α) (items : List (Item α)) (t : α × α × α) : Prop :=
  t = (k 0, k 0, k 0) ∨ ∃ a, a < items.length ∧ (t = sumsAfter P items a ∨ t = pre items (a + 1))

/-- the ratios the item loop can meet -/
def InS (P : Params α) (items : List (Item α)) (lineW : α) (r : α) : Prop :=
  ∃ b it t, items[b]? = some it ∧ IsT P items t ∧
    adjRatio P lineW it (pre items b).1 (pre items b).2.1 (pre items b).2.2 t.1 t.2.1 t.2.2 = some r

structure Inv (P : Params α) (items : List (Item α)) (lineW : α) (tol : Option α) (b : Nat) (lb : LB α) : Prop where
  sums : (lb.W, lb.Y, lb.Z) = pre items b
  act : ∀ n, n ∈ lb.act → NodeOK P items lineW tol lb.ovf b n
  inact : ∀ n, n ∈ lb.inact → NodeOK P items lineW tol lb.ovf b n
  ne : lb.act ≠ []
  last : ∀ f, f + 1 = b → forcedAt P items f = true → legalAt P items f = true →
    ∀ n, n ∈ lb.act → n.d.pos = f ∧ n.anc ≠ []
  forced : ∀ n, n ∈ lb.act → ∀ f, f < b → forcedAt P items f = true →
    legalAt P items f = true → f ∈ nonRootPos (n.d :: n.anc)
  forcedI : ∀ n, n ∈ lb.inact → ∀ f, f + 1 < b → forcedAt P items f = true →
    legalAt P items f = true → f ∈ nonRootPos (n.d :: n.anc)
  ntol : lb.nextTol = none ∨ ∃ r, lb.nextTol = some r ∧ ltTol tol r = true ∧ InS P items lineW r

/-- what `mainLoop` computes before its loops: the context, the sums after a break here, the width here -/
def mlCx (P : Params α) (items : List (Item α)) (lineW : α) (tol : Option α) (b : Nat) (it : Item α)
    (lb : LB α) : Ctx α := ⟨P, items, lineW, tol, b, it, lb.W, lb.Y, lb.Z⟩

def mlS (P : Params α) (it : Item α) (rest : List (Item α)) (lb : LB α) : α × α × α :=
  sumAfter P true (it :: rest) (lb.W, lb.Y, lb.Z)

def mlWidth (it : Item α) (lb : LB α) : α := if it.ty = Ty.penalty then lb.W + it.width else lb.W

theorem ml_at {b : Nat} {it : Item α} {rest : List (Item α)} {lb : LB α} (hdrop : items.drop b = it :: rest)
    (hs : (lb.W, lb.Y, lb.Z) = pre items b) :
    mlS P it rest lb = sumsAfter P items b ∧ mlWidth it lb = widthAt items b := by
  refine ⟨by rw [sumsAfter_eq P items hdrop, ← hs]; rfl, ?_⟩
  unfold widthAt mlWidth
  rw [drop_getElem? hdrop, (sums_eq hs).1]

/-- what a call of `mainLoop` in the context `cx` makes of the three lists of `lb`; the running sums and the
overflow flag it leaves alone (by `rfl`) -/
structure LoopSpec (cx : Ctx α) (width : α) (s : α × α × α) (lb lb' : LB α) : Prop where
  act : ∀ n, n ∈ lb'.act → (n ∈ lb.act ∧ isForced cx.P cx.it = false) ∨ Emitted cx width s lb.act n
  inact : lb'.inact = lb.inact ++ lb.act.filter (deactAt cx)
  surv : ∀ n, n ∈ lb.act → deactAt cx n = false → n ∈ lb'.act
  nextTol : lb'.nextTol = lb.act.foldl (tolStep cx) lb.nextTol

theorem mainLoop_loopSpec (tol : Option α) (b : Nat) (it : Item α) (rest : List (Item α)) (lb : LB α) :
    LoopSpec (mlCx P items lineW tol b it lb) (mlWidth it lb) (mlS P it rest lb) lb
      (mainLoop P items lineW tol b it rest lb) := by
  have sp := mainGo_actSpec (mlCx P items lineW tol b it lb) (mlWidth it lb) (mlS P it rest lb) lb.act
    lb.act emptyGrp ⟨[], lb.inact, lb.nextTol⟩ (fun a h => h) (slotsFrom_empty _ _)
  refine ⟨fun n hn => ?_, sp.inact, sp.surv, sp.nextTol⟩
  rcases sp.act n hn with h | h | h
  · cases h
  · exact Or.inl h
  · exact Or.inr h

/-- what the first half of the iteration adds to the running sums (a box's width) -/
def boxAdd (s : α × α × α) (it : Item α) : α × α × α :=
  if it.ty = Ty.box then (s.1 + it.width, s.2.1, s.2.2) else s

/-- what the end of the iteration adds (the glue's own width, stretch, shrink) -/
def glueAdd (s : α × α × α) (it : Item α) : α × α × α :=
  if it.ty = Ty.glue then (s.1 + it.width, s.2.1 + it.stretch, s.2.2 + it.shrink) else s

theorem glueAdd_boxAdd (s : α × α × α) (it : Item α) : glueAdd (boxAdd s it) it = addItem s it := by
  unfold glueAdd boxAdd addItem
  cases h : it.ty <;> simp

theorem boxAdd_of_not_box (s : α × α × α) (it : Item α) (h : it.ty ≠ Ty.box) : boxAdd s it = s := by
  unfold boxAdd; rw [if_neg h]

theorem addGlue_eq (it : Item α) (lb : LB α) :
    addGlue it lb =
      { lb with
        W := (glueAdd (lb.W, lb.Y, lb.Z) it).1
        Y := (glueAdd (lb.W, lb.Y, lb.Z) it).2.1
        Z := (glueAdd (lb.W, lb.Y, lb.Z) it).2.2 } := by
  unfold addGlue glueAdd
  split <;> rfl

/-- a box is never a legal breakpoint, so the box branch can come first -/
theorem itemStep_eq (tol : Option α) (b : Nat) (prev : Option (Item α)) (it : Item α) (rest : List (Item α))
    (lb : LB α) :
    itemStep P items lineW tol b prev it rest lb =
      if it.ty = Ty.glue ∧ prevIsBox prev = true ∧ rest = [] then none
      else some (if it.ty = Ty.box then { lb with W := lb.W + it.width }
        else if legalLocal P prev it rest[0]? = true then mainLoop P items lineW tol b it rest lb else lb) := by
  unfold itemStep legalLocal
  cases hty : it.ty with
  | box => simp
  | penalty => by_cases hp : it.penalty < P.infinity <;> simp [hp]
  | glue =>
    cases hpb : prevIsBox prev with
    | false => simp
    | true =>
      cases rest with
      | nil => simp
      | cons nx tl => by_cases hnx : nx.ty = Ty.penalty <;> simp [nextNotPenalty, hnx]

theorem itemStep_none {tol : Option α} {b : Nat} {prev : Option (Item α)} {it : Item α} {rest : List (Item α)}
    {lb : LB α} (h : itemStep P items lineW tol b prev it rest lb = none) : it.ty = Ty.glue ∧ rest = [] := by
  rw [itemStep_eq, ite_eq_left_iff] at h
  have hc := Decidable.not_not.mp fun hn => nomatch h hn
  exact ⟨hc.1, hc.2.2⟩

theorem itemStep_some {tol : Option α} {b : Nat} {prev : Option (Item α)} {it : Item α} {rest : List (Item α)}
    {lb lb1 : LB α} (h : itemStep P items lineW tol b prev it rest lb = some lb1) :
    lb1 = if it.ty = Ty.box then { lb with W := lb.W + it.width }
      else if legalLocal P prev it rest[0]? = true then mainLoop P items lineW tol b it rest lb else lb := by
  rw [itemStep_eq, Option.ite_none_left_eq_some] at h
  exact (Option.some.inj h.2).symm

theorem itemStep_cases (tol : Option α) (b : Nat)
    (it : Item α) (rest : List (Item α)) (lb lb1 : LB α) (hdrop : items.drop b = it :: rest)
    (h : itemStep P items lineW tol b (prevOf items b) it rest lb = some lb1) :
    ∃ lbm, ((legalAt P items b = false ∧ lbm = lb) ∨
        (legalAt P items b = true ∧ lbm = mainLoop P items lineW tol b it rest lb)) ∧
      lb1 =
        { lbm with
          W := (boxAdd (lbm.W, lbm.Y, lbm.Z) it).1
          Y := (boxAdd (lbm.W, lbm.Y, lbm.Z) it).2.1
          Z := (boxAdd (lbm.W, lbm.Y, lbm.Z) it).2.2 } := by
  have hleg := legalAt_eq P items hdrop
  have h := itemStep_some P items lineW h
  rw [← hleg] at h
  subst h
  by_cases hb : it.ty = Ty.box
  · rw [if_pos hb]
    refine ⟨lb, Or.inl ⟨by rw [hleg]; unfold legalLocal; rw [hb], rfl⟩, ?_⟩
    unfold boxAdd
    rw [if_pos hb]
  · rw [if_neg hb]
    cases hl : legalAt P items b with
    | true => exact ⟨_, Or.inr ⟨rfl, rfl⟩, boxAdd_of_not_box _ it hb ▸ rfl⟩
    | false => exact ⟨lb, Or.inl ⟨rfl, rfl⟩, boxAdd_of_not_box _ it hb ▸ rfl⟩

theorem itemStep_ne_none {P : Params α} {items : List (Item α)} {lineW : α} {tol : Option α} {b : Nat}
    {it : Item α} {rest : List (Item α)}
    (hnp : ∀ b it, items[b]? = some it → it.ty = Ty.glue → b + 1 < items.length)
    (hdrop : items.drop b = it :: rest) (prev : Option (Item α)) (lb : LB α) :
    itemStep P items lineW tol b prev it rest lb ≠ none := by
  intro h1
  obtain ⟨hg, hr⟩ := itemStep_none P items lineW h1
  have hlt := hnp b it (drop_getElem? hdrop) hg
  have h2 := drop_succ_of_drop hdrop
  rw [hr] at h2
  have := List.drop_eq_nil_iff.mp h2
  omega

theorem NodeOK.succ {P : Params α} {items : List (Item α)} {lineW : α} {tol : Option α} {fb : Bool} {b : Nat}
    {n : Node α} (h : NodeOK P items lineW tol fb b n) : NodeOK P items lineW tol fb (b + 1) n :=
  ⟨h.1, h.2.elim (fun h => Or.inl (Nat.lt_succ_of_lt h)) Or.inr⟩

theorem NodeOK.toFb {P : Params α} {items : List (Item α)} {lineW : α} {tol : Option α} {fb : Bool} {b : Nat}
    {n : Node α} (h : NodeOK P items lineW tol fb b n) : NodeOK P items lineW tol true b n :=
  ⟨h.1.mono, h.2⟩

theorem chain_isT {P : Params α} {items : List (Item α)} {lineW : α} {tol : Option α} {fb : Bool}
    {c : ND α} {rest : List (ND α)} (h : ChainOK P items lineW tol fb (c :: rest)) :
    IsT P items (c.w, c.y, c.z) := by
  cases rest with
  | nil =>
    cases h
    exact Or.inl rfl
  | cons p rest => exact Or.inr ⟨c.pos, legalAt_lt h.link.legal, Or.inl h.link.sums⟩

theorem emitted_nodeOK {P : Params α} {items : List (Item α)} {lineW : α} {tol : Option α} {b : Nat}
    {it : Item α} {rest : List (Item α)} {lb : LB α} (hdrop : items.drop b = it :: rest)
    (hsums : (lb.W, lb.Y, lb.Z) = pre items b) (hleg : legalAt P items b = true)
    (hact : ∀ n, n ∈ lb.act → NodeOK P items lineW tol lb.ovf b n) {n : Node α}
    (h : Emitted (mlCx P items lineW tol b it lb) (mlWidth it lb) (mlS P it rest lb) lb.act n) :
    NodeOK P items lineW tol lb.ovf (b + 1) n ∧ n.d.pos = b ∧
      ∃ a, a ∈ lb.act ∧ n.anc = a.d :: a.anc := by
  obtain ⟨a, ha, cand, ⟨r, hr, hfeas, hcand⟩, hn⟩ := h
  obtain ⟨eS, eW⟩ := ml_at P items hdrop hsums
  subst hn
  subst hcand
  refine ⟨⟨?_, Or.inl (Nat.lt_succ_self b)⟩, rfl, a, ha, rfl⟩
  simp only [mkNode, mlCx]
  refine ChainOK.normal _ a.d a.anc it hleg rfl (hact a ha).2 (drop_getElem? hdrop) eS eW ?_
    ((feasibleR_eq _ r).symm.trans hfeas) rfl (hact a ha).1
  rw [← hsums]; exact hr

theorem fallbackNodes_eq (b : Nat) (width : α) (s : α × α × α) (W mw : α) (l : List (Node α)) :
    fallbackNodes b width s W mw l = (l.filter (fun p => (W - p.d.w) == mw)).map (fun p =>
      ⟨⟨b, p.d.line + 1, 1, width, s.1, s.2.1, s.2.2, k 0, p.d.dem + k 1000⟩, p.d :: p.anc⟩) := by
  induction l with
  | nil => rfl
  | cons p rest ih =>
    simp only [fallbackNodes, List.filter_cons]
    split <;> simp [ih]

theorem fallbackNodes_mem (b : Nat) (width : α) (s : α × α × α) (W mw : α) (n : Node α) :
    ∀ l : List (Node α), n ∈ fallbackNodes b width s W mw l →
      ∃ p, p ∈ l ∧ n = ⟨⟨b, p.d.line + 1, 1, width, s.1, s.2.1, s.2.2, k 0, p.d.dem + k 1000⟩, p.d :: p.anc⟩ := by
  intro l h
  rw [fallbackNodes_eq] at h
  obtain ⟨p, hp, rfl⟩ := List.mem_map.mp h
  exact ⟨p, (List.mem_filter.mp hp).1, rfl⟩

theorem minWidthOf_attained (W : α) : ∀ (l : List (Node α)) (q : Node α),
    ∃ mw, minWidthOf W l (some (W - q.d.w)) = some mw ∧ ∃ p, p ∈ q :: l ∧ mw = W - p.d.w := by
  intro l
  induction l with
  | nil => intro q; exact ⟨_, rfl, q, List.mem_cons_self, rfl⟩
  | cons p rest ih =>
    intro q
    simp only [minWidthOf]
    rcases minOpt_cases (some (W - q.d.w)) (W - p.d.w) with h | h
    · obtain ⟨mw, hm, p', hp', e⟩ := ih p
      exact ⟨mw, by rw [h]; exact hm, p', List.mem_cons_of_mem _ hp', e⟩
    · obtain ⟨mw, hm, p', hp', e⟩ := ih q
      exact ⟨mw, by rw [← Option.some.inj h]; exact hm, p', (List.mem_cons.mp hp').elim
        (fun h => h ▸ List.mem_cons_self) (fun h => List.mem_cons_of_mem _ (List.mem_cons_of_mem _ h)), e⟩

/-- With no active node left and `nextTolerance` equal to the tolerance the pass goes on with the overflow flag set
and the fallback breakpoints, if any, as active list; everything else stays. -/
theorem drastic_some {tol : Option α} {b : Nat} {it : Item α} {rest : List (Item α)} {lb1 lb2 : LB α}
    (h : drastic P tol b it rest lb1 = some lb2) :
    (lb1.act ≠ [] ∧ lb2 = lb1) ∨
    (lb1.act = [] ∧ tolEq tol lb1.nextTol = true ∧
      lb2 = { lb1 with ovf := true, act := (minWidthOf lb1.W lb1.inact none).elim [] (fun mw =>
        fallbackNodes b (mlWidth it lb1) (mlS P it rest lb1) lb1.W mw lb1.inact) }) := by
  unfold drastic at h
  cases hact : lb1.act with
  | cons x xs =>
    rw [hact] at h
    exact Or.inl ⟨List.cons_ne_nil x xs, (Option.some.inj h).symm⟩
  | nil =>
    rw [hact] at h
    simp only at h
    split at h
    · cases h
    · rename_i hte
      refine Or.inr ⟨rfl, by simpa using hte, ?_⟩
      cases hm : minWidthOf lb1.W lb1.inact none with
      | none =>
        rw [hm] at h
        rw [← Option.some.inj h, ← hact]
        rfl
      | some mw =>
        rw [hm] at h
        exact (Option.some.inj h).symm

theorem drastic_id (tol : Option α) (b : Nat) (it : Item α) (rest : List (Item α)) (lb1 : LB α)
    (n : Node α) (h : n ∈ lb1.act) : drastic P tol b it rest lb1 = some lb1 := by
  unfold drastic
  cases hl : lb1.act with
  | nil => rw [hl] at h; cases h
  | cons x xs => rfl

theorem drastic_none {tol : Option α} {b : Nat} {it : Item α} {rest : List (Item α)} {lb1 : LB α}
    (h : drastic P tol b it rest lb1 = none) : tolEq tol lb1.nextTol = false := by
  unfold drastic at h
  split at h
  · cases h
  · split at h
    · rename_i hne; simpa using hne
    · split at h <;> cases h

theorem drastic_fallback (hrefl : ∀ a : α, (a == a) = true) {tol : Option α} {b : Nat} {it : Item α}
    {rest : List (Item α)} {lb1 lb2 : LB α} (h : drastic P tol b it rest lb1 = some lb2) (hnil : lb1.act = [])
    (hin : lb1.inact ≠ []) :
    lb2.act ≠ [] ∧ ∃ mw, lb2.act = fallbackNodes b (mlWidth it lb1) (mlS P it rest lb1) lb1.W mw lb1.inact := by
  rcases drastic_some P h with ⟨hne, _⟩ | ⟨_, _, rfl⟩
  · exact absurd hnil hne
  · cases hl : lb1.inact with
    | nil => exact absurd hl hin
    | cons q qs =>
      obtain ⟨mw, hmw, p, hp, hpm⟩ := minWidthOf_attained lb1.W qs q
      rw [show minWidthOf lb1.W (q :: qs) none = some mw from hmw]
      refine ⟨?_, mw, rfl⟩
      show fallbackNodes b (mlWidth it lb1) (mlS P it rest lb1) lb1.W mw (q :: qs) ≠ []
      rw [fallbackNodes_eq]
      exact List.ne_nil_of_mem (List.mem_map_of_mem (List.mem_filter.mpr ⟨hp, hpm ▸ hrefl _⟩))

/-- after the reset at the top of the iteration every inactive node contains every forced break < b -/
def StrongI (P : Params α) (items : List (Item α)) (b : Nat) (lb : LB α) : Prop :=
  ∀ n, n ∈ lb.inact → ∀ f, f < b → forcedAt P items f = true → legalAt P items f = true →
    f ∈ nonRootPos (n.d :: n.anc)

theorem clearStale_fields (prev : Option (Item α)) (lb : LB α) :
    (clearStale P prev lb).act = lb.act ∧ (clearStale P prev lb).ovf = lb.ovf ∧
    (clearStale P prev lb).nextTol = lb.nextTol ∧ ∀ n ∈ (clearStale P prev lb).inact, n ∈ lb.inact := by
  unfold clearStale
  split
  · split
    · exact ⟨rfl, rfl, rfl, nofun⟩
    · exact ⟨rfl, rfl, rfl, fun _ h => h⟩
  · exact ⟨rfl, rfl, rfl, fun _ h => h⟩

theorem clearStale_prevOf (b : Nat) (lb : LB α) :
    clearStale P (prevOf items b) lb =
      match b with
      | 0 => lb
      | f + 1 => if forcedAt P items f = true then { lb with inact := [] } else lb := by
  cases b with
  | zero => rfl
  | succ f => unfold prevOf clearStale forcedAt; split <;> simp [*]

theorem clear_inv (tol : Option α) (b : Nat) (lb : LB α)
    (hI : Inv P items lineW tol b lb) :
    Inv P items lineW tol b (clearStale P (prevOf items b) lb) ∧ StrongI P items b (clearStale P (prevOf items b) lb) := by
  rw [clearStale_prevOf]
  cases b with
  | zero => exact ⟨hI, fun n _ f hf => by omega⟩
  | succ f' =>
    simp only
    split
    · exact ⟨{ hI with inact := nofun, forcedI := nofun }, nofun⟩
    · rename_i hnf
      refine ⟨hI, fun n hn f hf hfo hle => ?_⟩
      by_cases h1 : f + 1 < f' + 1
      · exact hI.forcedI n hn f h1 hfo hle
      · obtain rfl : f = f' := by omega
        exact absurd hfo hnf

/-- the state between `mainLoop` and the additions to the running sums -/
structure Mid (P : Params α) (items : List (Item α)) (lineW : α) (tol : Option α) (b : Nat) (lb lbm : LB α) : Prop where
  sums : (lbm.W, lbm.Y, lbm.Z) = pre items b
  ovf : lbm.ovf = lb.ovf
  act : ∀ n, n ∈ lbm.act → NodeOK P items lineW tol lb.ovf (b + 1) n
  inact : ∀ n, n ∈ lbm.inact → NodeOK P items lineW tol lb.ovf b n
  ne : lbm.act ≠ [] ∨ (legalAt P items b = true ∧ lbm.inact ≠ [])
  last : forcedAt P items b = true → legalAt P items b = true → ∀ n, n ∈ lbm.act → n.d.pos = b ∧ n.anc ≠ []
  forced : ∀ n, n ∈ lbm.act → ∀ f, f < b + 1 → forcedAt P items f = true →
    legalAt P items f = true → f ∈ nonRootPos (n.d :: n.anc)
  forcedI : ∀ n, n ∈ lbm.inact → ∀ f, f < b → forcedAt P items f = true →
    legalAt P items f = true → f ∈ nonRootPos (n.d :: n.anc)
  ntol : lbm.nextTol = none ∨ ∃ r, lbm.nextTol = some r ∧ ltTol tol r = true ∧ InS P items lineW r

theorem mid_of_inv {tol : Option α} {b : Nat} {it : Item α} {rest : List (Item α)} {lb lbm : LB α}
    (hdrop : items.drop b = it :: rest)
    (hI : Inv P items lineW tol b lb) (hS : StrongI P items b lb)
    (hm : (legalAt P items b = false ∧ lbm = lb) ∨
        (legalAt P items b = true ∧ lbm = mainLoop P items lineW tol b it rest lb)) :
    Mid P items lineW tol b lb lbm := by
  have hit : items[b]? = some it := drop_getElem? hdrop
  rcases hm with ⟨hleg, rfl⟩ | ⟨hleg, rfl⟩
  · exact
      { sums := hI.sums
        ovf := rfl
        act := fun n hn => (hI.act n hn).succ
        inact := hI.inact
        ne := Or.inl hI.ne
        last := fun _ hl => by
          rw [hleg] at hl
          cases hl
        forced := fun n hn f hf hfo hle => by
          rcases Nat.lt_succ_iff_lt_or_eq.mp hf with hf | rfl
          · exact hI.forced n hn f hf hfo hle
          · rw [hleg] at hle
            cases hle
        forcedI := hS
        ntol := hI.ntol }
  · have L := mainLoop_loopSpec P items lineW tol b it rest lb
    have hinact : ∀ n, n ∈ (mainLoop P items lineW tol b it rest lb).inact → n ∈ lb.inact ∨ n ∈ lb.act :=
      fun n hn => (List.mem_append.mp (L.inact ▸ hn)).imp_right fun h => (List.mem_filter.mp h).1
    have hA : ∀ n, n ∈ (mainLoop P items lineW tol b it rest lb).act → (n ∈ lb.act ∧ forcedAt P items b = false) ∨
        (NodeOK P items lineW tol lb.ovf (b + 1) n ∧ n.d.pos = b ∧ ∃ a, a ∈ lb.act ∧ n.anc = a.d :: a.anc) :=
      fun n hn => (L.act n hn).imp (And.imp_right (forcedAt_eq hit).trans) (emitted_nodeOK hdrop hI.sums hleg hI.act)
    exact
      { sums := hI.sums
        ovf := rfl
        act := fun n hn => (hA n hn).elim (fun h => (hI.act n h.1).succ) And.left
        inact := fun n hn => (hinact n hn).elim (hI.inact n) (hI.act n)
        ne := by
          cases hl : lb.act with
          | nil => exact absurd hl hI.ne
          | cons a as =>
            have ha : a ∈ lb.act := by rw [hl]; exact List.mem_cons_self
            cases hd : deactAt (mlCx P items lineW tol b it lb) a with
            | false => exact Or.inl (List.ne_nil_of_mem (L.surv a ha hd))
            | true =>
              exact Or.inr ⟨hleg, List.ne_nil_of_mem (L.inact ▸ List.mem_append_right _ (List.mem_filter.mpr ⟨ha, hd⟩))⟩
        last := fun hfo _ n hn => by
          rcases hA n hn with ⟨_, hnf⟩ | ⟨_, hp, a, _, han⟩
          · rw [hfo] at hnf; cases hnf
          · exact ⟨hp, by rw [han]; simp⟩
        forced := fun n hn f hf hfo hle => by
          rcases hA n hn with ⟨h, hnf⟩ | ⟨_, hp, a, ha, han⟩
          · rcases Nat.lt_succ_iff_lt_or_eq.mp hf with hf | rfl
            · exact hI.forced n h f hf hfo hle
            · rw [hfo] at hnf; cases hnf
          · rw [han]
            show f ∈ n.d.pos :: nonRootPos (a.d :: a.anc)
            rcases Nat.lt_succ_iff_lt_or_eq.mp hf with hf | rfl
            · exact List.mem_cons_of_mem _ (hI.forced a ha f hf hfo hle)
            · exact hp ▸ List.mem_cons_self
        forcedI := fun n hn => (hinact n hn).elim (hS n) (hI.forced n)
        ntol := by
          rcases L.nextTol ▸ tolFold_from (mlCx P items lineW tol b it lb) lb.act lb.nextTol with
            h | ⟨a, ha, r, hr, hlt, ht⟩
          · rw [h]; exact hI.ntol
          · right
            exact ⟨r, ht, hlt, b, it, (a.d.w, a.d.y, a.d.z), hit, chain_isT (hI.act a ha).1,
              (ratioAt_eq P items it hI.sums rfl).symm.trans hr⟩ }

theorem Mid.inv {P : Params α} {items : List (Item α)} {lineW : α} {tol : Option α} {b : Nat} {it : Item α}
    {lb lbm lb' : LB α} (M : Mid P items lineW tol b lb lbm) (hit : items[b]? = some it) (hne : lbm.act ≠ [])
    (hs : (lb'.W, lb'.Y, lb'.Z) = boxAdd (lbm.W, lbm.Y, lbm.Z) it)
    (ha : lb'.act = lbm.act) (hi : lb'.inact = lbm.inact) (ht : lb'.nextTol = lbm.nextTol) (ho : lb'.ovf = lb.ovf) :
    Inv P items lineW tol (b + 1) (addGlue it lb') := by
  rw [addGlue_eq]
  exact
    { sums := by rw [hs, glueAdd_boxAdd, M.sums, pre_succ items b it hit]
      act := fun n hn => by
        rw [ho]
        exact M.act n (ha ▸ hn)
      inact := fun n hn => by
        rw [ho]
        exact (M.inact n (hi ▸ hn)).succ
      ne := ha ▸ hne
      last := fun f hf hfo hle n hn => by
        obtain rfl : f = b := by omega
        exact M.last hfo hle n (ha ▸ hn)
      forced := fun n hn => M.forced n (ha ▸ hn)
      forcedI := fun n hn f hf => M.forcedI n (hi ▸ hn) f (by omega)
      ntol := ht ▸ M.ntol }

/-- The overflow fallback hangs its breakpoints below inactive nodes: these carry all that an active node must
(`Mid.forcedI` reaches up to `b`). -/
theorem Mid.fallback {P : Params α} {items : List (Item α)} {lineW : α} {tol : Option α} {b : Nat}
    {lb lbm lb2 : LB α} (M : Mid P items lineW tol b lb lbm) (hnil : lbm.act = [])
    (hs : (lb2.W, lb2.Y, lb2.Z) = (lbm.W, lbm.Y, lbm.Z)) (hi : lb2.inact = lbm.inact)
    (ht : lb2.nextTol = lbm.nextTol) (ho : lb2.ovf = true) (hne : lb2.act ≠ []) {W mw : α}
    (ha : lb2.act = fallbackNodes b (widthAt items b) (sumsAfter P items b) W mw lbm.inact) :
    Mid P items lineW tol b { lb with ovf := true } lb2 := by
  have hleg : legalAt P items b = true := (M.ne.resolve_left (fun h => h hnil)).1
  have ha := fun n (hn : n ∈ lb2.act) => fallbackNodes_mem b _ _ W mw n lbm.inact (ha ▸ hn)
  exact
    { sums := hs.trans M.sums
      ovf := ho
      act := fun n hn => by
        obtain ⟨p, hp, rfl⟩ := ha n hn
        have hpok := (M.inact p hp).toFb
        exact ⟨ChainOK.fallback _ p.d p.anc rfl hleg rfl hpok.2 rfl rfl rfl rfl rfl hpok.1, Or.inl (Nat.lt_succ_self b)⟩
      inact := fun n hn => (M.inact n (hi ▸ hn)).toFb
      ne := Or.inl hne
      last := fun _ _ n hn => by
        obtain ⟨p, _, rfl⟩ := ha n hn
        exact ⟨rfl, by simp⟩
      forced := fun n hn f hf hfo hle => by
        obtain ⟨p, hp, rfl⟩ := ha n hn
        show f ∈ b :: nonRootPos (p.d :: p.anc)
        rcases Nat.lt_succ_iff_lt_or_eq.mp hf with hf | rfl
        · exact List.mem_cons_of_mem _ (M.forcedI p hp f hf hfo hle)
        · exact List.mem_cons_self
      forcedI := fun n hn => M.forcedI n (hi ▸ hn)
      ntol := ht ▸ M.ntol }

theorem step_inv (hrefl : ∀ a : α, (a == a) = true) (P : Params α) (items : List (Item α)) (lineW : α)
    (tol : Option α) (b : Nat) (it : Item α) (rest : List (Item α)) (lb lb1 lb2 : LB α)
    (hdrop : items.drop b = it :: rest) (hI0 : Inv P items lineW tol b lb)
    (h1 : itemStep P items lineW tol b (prevOf items b) it rest (clearStale P (prevOf items b) lb) = some lb1)
    (h2 : drastic P tol b it rest lb1 = some lb2) : Inv P items lineW tol (b + 1) (addGlue it lb2) := by
  have hit : items[b]? = some it := drop_getElem? hdrop
  obtain ⟨hI, hS⟩ := clear_inv P items lineW tol b lb hI0
  generalize clearStale P (prevOf items b) lb = lb0 at h1 hI hS
  obtain ⟨lbm, hm, he1⟩ := itemStep_cases P items lineW tol b it rest lb0 lb1 hdrop h1
  have M := mid_of_inv P items lineW hdrop hI hS hm
  rcases drastic_some P h2 with ⟨hne, rfl⟩ | ⟨hnil, _, he⟩
  · subst he1
    exact M.inv hit hne rfl rfl rfl rfl M.ovf
  · obtain ⟨hleg, hin⟩ := M.ne.resolve_left (fun h => h ((congrArg LB.act he1).symm.trans hnil))
    have hnb := fun s => boxAdd_of_not_box s it (legalAt_not_box hit hleg)
    -- a legal break is no box, so the first half of the iteration leaves `lbm` as it is
    obtain rfl : lb1 = lbm := by rw [he1, hnb]
    obtain ⟨hne2, mw, hact2⟩ := drastic_fallback P hrefl h2 hnil hin
    obtain ⟨eS, eW⟩ := ml_at P items hdrop M.sums
    rw [eS, eW] at hact2
    subst he
    -- `lb2` is given: from the sums alone it would be taken for `lb1`
    have M' := M.fallback (lb2 := { lb1 with ovf := true, act := _ }) hnil rfl rfl rfl rfl hne2 hact2
    exact M'.inv hit hne2 (hnb _).symm rfl rfl rfl rfl

theorem inv_init (tol : Option α) (ovf : Bool) :
    Inv P items lineW tol 0 (initLB ovf) := by
  exact
    { sums := rfl
      act := fun n hn => by
        simp only [initLB, List.mem_singleton] at hn
        subst hn
        exact ⟨ChainOK.root, Or.inr rfl⟩
      inact := fun n hn => by simp [initLB] at hn
      ne := by simp [initLB]
      last := fun f hf => by omega
      forced := fun n _ f hf => by omega
      forcedI := fun n _ f hf => by omega
      ntol := Or.inl rfl }

/-- a pass at tolerance `tol` from item `b` on in state `lb` ends in `res`: one rule for each way an iteration of
the item loop can end -/
inductive Run (P : Params α) (items : List (Item α)) (lineW : α) (tol : Option α) : Nat → LB α → PassRes α → Prop
  | done (lb : LB α) : Run P items lineW tol items.length lb (PassRes.done lb)
  | panic {b : Nat} {it : Item α} {rest : List (Item α)} {lb : LB α} : items.drop b = it :: rest →
      itemStep P items lineW tol b (prevOf items b) it rest (clearStale P (prevOf items b) lb) = none →
      Run P items lineW tol b lb PassRes.panic
  | restart {b : Nat} {it : Item α} {rest : List (Item α)} {lb lb1 : LB α} : items.drop b = it :: rest →
      itemStep P items lineW tol b (prevOf items b) it rest (clearStale P (prevOf items b) lb) = some lb1 →
      drastic P tol b it rest lb1 = none → Run P items lineW tol b lb (PassRes.restart lb1.nextTol lb1.ovf)
  | next {b : Nat} {it : Item α} {rest : List (Item α)} {lb lb1 lb2 : LB α} {res : PassRes α} :
      items.drop b = it :: rest →
      itemStep P items lineW tol b (prevOf items b) it rest (clearStale P (prevOf items b) lb) = some lb1 →
      drastic P tol b it rest lb1 = some lb2 → Run P items lineW tol (b + 1) (addGlue it lb2) res →
      Run P items lineW tol b lb res

theorem passLoop_run (tol : Option α) : ∀ (rest : List (Item α)) (b : Nat) (lb : LB α), items.drop b = rest →
    b ≤ items.length → Run P items lineW tol b lb (passLoop P items lineW tol b (prevOf items b) rest lb) := by
  intro rest
  induction rest with
  | nil =>
    intro b lb hdrop hb
    obtain rfl : b = items.length := Nat.le_antisymm hb (List.drop_eq_nil_iff.mp hdrop)
    exact Run.done lb
  | cons it rest ih =>
    intro b lb hdrop _
    simp only [passLoop]
    cases h1 : itemStep P items lineW tol b (prevOf items b) it rest (clearStale P (prevOf items b) lb) with
    | none => exact Run.panic hdrop h1
    | some lb1 =>
      simp only
      cases h2 : drastic P tol b it rest lb1 with
      | none => exact Run.restart hdrop h1 h2
      | some lb2 =>
        simp only
        have := ih (b + 1) (addGlue it lb2) (drop_succ_of_drop hdrop) (drop_lt_length hdrop)
        rw [show prevOf items (b + 1) = some it from drop_getElem? hdrop] at this
        exact Run.next hdrop h1 h2 this

theorem run_start (tol : Option α) (lb : LB α) :
    Run P items lineW tol 0 lb (passLoop P items lineW tol 0 none items lb) :=
  passLoop_run P items lineW tol items 0 lb rfl (Nat.zero_le _)

/-- what the invariant gives for each way a pass can end -/
def Sound (P : Params α) (items : List (Item α)) (lineW : α) (tol : Option α) : PassRes α → Prop
  | PassRes.panic => True
  | PassRes.restart nt _ =>
    tolEq tol nt = false ∧ (nt = none ∨ ∃ r, nt = some r ∧ ltTol tol r = true ∧ InS P items lineW r)
  | PassRes.done lbf => Inv P items lineW tol items.length lbf

theorem run_sound (hrefl : ∀ a : α, (a == a) = true) {P : Params α} {items : List (Item α)} {lineW : α}
    {tol : Option α} {b : Nat} {lb : LB α} {res : PassRes α}
    (h : Run P items lineW tol b lb res) (hI : Inv P items lineW tol b lb) : Sound P items lineW tol res := by
  induction h with
  | done lb => exact hI
  | panic _ _ => exact True.intro
  | @restart b it rest lb lb1 hdrop h1 h2 =>
    obtain ⟨hIc, hSc⟩ := clear_inv P items lineW tol b lb hI
    obtain ⟨lbm, hm, rfl⟩ := itemStep_cases P items lineW tol b it rest _ _ hdrop h1
    exact ⟨drastic_none P h2, (mid_of_inv P items lineW hdrop hIc hSc hm).ntol⟩
  | next hdrop h1 h2 _ ih => exact ih (step_inv hrefl P items lineW tol _ _ _ _ _ _ hdrop hI h1 h2)

theorem passLoop_inv (hrefl : ∀ a : α, (a == a) = true) (tol : Option α) (ovf : Bool) (lbf : LB α)
    (hp : passLoop P items lineW tol 0 none items (initLB ovf) = PassRes.done lbf) :
    Inv P items lineW tol items.length lbf := by
  have := run_sound hrefl (run_start P items lineW tol (initLB ovf)) (inv_init P items lineW tol ovf)
  rwa [hp] at this

theorem run_ne_panic {P : Params α} {items : List (Item α)} {lineW : α} {tol : Option α}
    (hnp : ∀ b it, items[b]? = some it → it.ty = Ty.glue → b + 1 < items.length)
    {b : Nat} {lb : LB α} {res : PassRes α} (h : Run P items lineW tol b lb res) : res ≠ PassRes.panic := by
  induction h with
  | done lb => exact fun h => by cases h
  | panic hdrop h1 => exact absurd h1 (itemStep_ne_none hnp hdrop _ _)
  | restart _ _ _ => exact fun h => by cases h
  | next _ _ _ _ ih => exact ih

end
end Canvas.C17
