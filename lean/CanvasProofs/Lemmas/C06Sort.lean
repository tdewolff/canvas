import CanvasModel.C06Ray

/-! The pairing `WP` (after every end-point hit an end-point hit at the same place) survives the stable
sort: no order property of `<` on the keys is needed, only that partners have EQUAL keys. On paired
lists `windings` returns half the sum of the hit weights (2 inside a segment, 1 at an end point, 0 for
an overlapping hit; signed), which does not depend on the order of the list (`W_nsame_perm`); its boundary
flag is only ever set, by a hit at the ray start (`go_flag`). -/
namespace Canvas.C06

def WP : List Hit → Bool
  | [] => true
  | h :: rest =>
    if h.tb = .mid then WP rest
    else match rest with
      | [] => false
      | h2 :: rest' => (h2.tb != .mid) && (h2.x == h.x) && WP rest'

theorem WP_cons_mid (g : Hit) (s : List Hit) (hg : g.tb = .mid) : WP (g :: s) = WP s := by
  conv => lhs; unfold WP
  simp [hg]

theorem WP_cons_pair (z1 z2 : Hit) (s : List Hit) (h1 : z1.tb ≠ .mid) (h2 : z2.tb ≠ .mid)
    (hx : z2.x = z1.x) : WP (z1 :: z2 :: s) = WP s := by
  conv => lhs; unfold WP
  simp [h1, h2, hx]

/-- A block `blk` that leaves `WP` of what follows unchanged may be put behind the keys below `k`:
a pair has equal keys, so the block does not come between partners. `f` is that insertion. -/
theorem WP_ins_block (k : Rat) (blk : List Hit) (hb : ∀ t, WP (blk ++ t) = WP t)
    (f : List Hit → List Hit) (hnil : f [] = blk)
    (hcons : ∀ g s, f (g :: s) = if g.x < k then g :: f s else blk ++ g :: s)
    (s : List Hit) (hs : WP s = true) : WP (f s) = true := by
  fun_induction WP s with
  | case1 => rw [hnil, ← List.append_nil blk, hb]; rfl
  | case2 h rest hm ih =>
    rw [hcons]
    split
    · rw [WP_cons_mid _ _ hm]; exact ih hs
    · rw [hb, WP_cons_mid _ _ hm]; exact hs
  | case3 h hm => exact absurd hs (by simp)
  | case4 h hm h2 rest' ih =>
    simp only [Bool.and_eq_true, bne_iff_ne, ne_eq, beq_iff_eq] at hs
    obtain ⟨⟨h2m, h2x⟩, hr⟩ := hs
    rw [hcons]
    split
    · rename_i hlt
      rw [hcons, if_pos (h2x ▸ hlt), WP_cons_pair _ _ _ hm h2m h2x]; exact ih hr
    · rw [hb, WP_cons_pair _ _ _ hm h2m h2x]; exact hr

theorem WP_ins_mid {g : Hit} (hg : g.tb = .mid) {s : List Hit} (hs : WP s = true) :
    WP (ins g s) = true :=
  WP_ins_block g.x [g] (fun t => WP_cons_mid g t hg) (ins g) rfl (fun _ _ => rfl) s hs

/-- `ins` after `ins` of an equal key puts the first right in front of the second -/
theorem WP_ins_pair {z1 z2 : Hit} (h1 : z1.tb ≠ .mid) (h2 : z2.tb ≠ .mid) (hx : z2.x = z1.x)
    {s : List Hit} (hs : WP s = true) :
    WP (ins z1 (ins z2 s)) = true := by
  refine WP_ins_block z2.x [z1, z2] (fun t => WP_cons_pair z1 z2 t h1 h2 hx)
    (fun s => ins z1 (ins z2 s)) ?_ (fun g s => ?_) s hs
  · simp [ins, hx]
  · simp only [ins]
    split
    · rename_i hlt
      simp only [ins, hx ▸ hlt, if_true]
    · simp only [ins, hx, Rat.lt_irrefl, if_false, List.cons_append, List.nil_append]

def weight (z : Z) : Int := if z.same then 0 else if z.endpoint then dir z else 2 * dir z

theorem weight_hit (h : Hit) :
    weight h.z = if h.same then 0 else if h.tb != .mid then dir h.z else 2 * dir h.z :=
  rfl

def W : List Z → Int
  | [] => 0
  | z :: rest => weight z + W rest

def nsame : List Z → Nat
  | [] => 0
  | z :: rest => (if z.same then 1 else 0) + nsame rest

theorem W_append (a b : List Z) : W (a ++ b) = W a + W b := by
  induction a with
  | nil => simp [W]
  | cons z r ih => simp only [List.cons_append, W, ih]; omega

theorem nsame_append (a b : List Z) : nsame (a ++ b) = nsame a + nsame b := by
  induction a with
  | nil => simp [nsame]
  | cons z r ih => simp only [List.cons_append, nsame, ih]; omega

theorem ins_perm (h : Hit) (s : List Hit) : (ins h s).Perm (h :: s) := by
  induction s with
  | nil => exact .refl _
  | cons g r ih =>
    simp only [ins]; split
    · exact (ih.cons g).trans (.swap h g r)
    · exact .refl _

theorem isort_perm (l : List Hit) : (isort l).Perm l := by
  induction l with
  | nil => exact .nil
  | cons h r ih => exact (ins_perm h _).trans (ih.cons h)

theorem ins_sorted (h : Hit) {s : List Hit} (hs : s.Pairwise fun a b => a.x ≤ b.x) :
    (ins h s).Pairwise fun a b => a.x ≤ b.x := by
  induction s with
  | nil => exact List.pairwise_singleton _ _
  | cons g r ih =>
    obtain ⟨hg, hr⟩ := List.pairwise_cons.mp hs
    simp only [ins]
    split
    · rename_i hlt
      refine List.pairwise_cons.mpr ⟨fun c hc => ?_, ih hr⟩
      rcases List.mem_cons.mp ((ins_perm h r).mem_iff.mp hc) with rfl | hc
      · exact Rat.le_of_lt hlt
      · exact hg c hc
    · rename_i hge
      refine List.pairwise_cons.mpr ⟨fun c hc => ?_, hs⟩
      rcases List.mem_cons.mp hc with rfl | hc
      · exact Rat.not_lt.mp hge
      · exact Rat.le_trans (Rat.not_lt.mp hge) (hg c hc)

theorem isort_sorted (l : List Hit) : (isort l).Pairwise fun a b => a.x ≤ b.x := by
  induction l with
  | nil => exact .nil
  | cons h r ih => exact ins_sorted h ih

theorem isort_append (l1 l2 : List Hit) : isort (l1 ++ l2) = l1.foldr ins (isort l2) := by
  induction l1 with
  | nil => rfl
  | cons h r ih => simp only [List.cons_append, isort, ih, List.foldr_cons]

theorem W_nsame_perm {l l' : List Z} (h : l.Perm l') : W l = W l' ∧ nsame l = nsame l' := by
  induction h with
  | nil => exact ⟨rfl, rfl⟩
  | cons z _ ih => simp only [W, nsame, ih.1, ih.2, and_self]
  | swap a b l => simp only [W, nsame]; omega
  | trans _ _ ih1 ih2 => exact ⟨ih1.1.trans ih2.1, ih1.2.trans ih2.2⟩

def WPz : List Z → Bool
  | [] => true
  | z :: rest =>
    if !z.endpoint then WPz rest
    else match rest with
      | [] => false
      | z2 :: rest' => z2.endpoint && WPz rest'

theorem WPz_of_WP {l : List Hit} (h : WP l = true) : WPz (l.map Hit.z) = true := by
  fun_induction WP l with
  | case1 => simp [WPz]
  | case2 h0 rest hm ih =>
    rw [List.map_cons, WPz.eq_def]; simpa [Hit.z, hm] using ih h
  | case3 h0 hm => exact absurd h (by simp)
  | case4 h0 hm h2 rest' ih =>
    simp only [Bool.and_eq_true, bne_iff_ne, ne_eq, beq_iff_eq] at h
    obtain ⟨⟨h2m, _⟩, hr⟩ := h
    simp [WPz, Hit.z, hm, h2m, ih hr]

/-- what an open overlapping section still owes: the direction it was entered with -/
def phi (st : Bool × Bool) : Int := if st.1 then (if st.2 then -1 else 1) else 0

def Clean (zs : List Z) : Prop := ∀ z ∈ zs, z.t0zero = false ∧ (z.same = true → z.endpoint = true)

/-- a vertex pair turns its weight into count or into potential -/
theorem go_pair (z z2 : Z) (rest : List Z) (n : Int) (b : Bool) (st : Bool × Bool)
    (h0 : z.t0zero = false) (he : z.endpoint = true) (he2 : z2.endpoint = true) :
    ∃ n' st', go (z :: z2 :: rest) n b st = go rest n' b st' ∧
      2 * n' + phi st' = 2 * n + phi st + weight z + weight z2 ∧
      st'.1 = ((st.1 != z.same) != z2.same) := by
  rw [go.eq_def]
  simp only [h0, he, Bool.false_eq_true, if_false, Bool.not_true, weight, he2, if_true, dir, phi]
  obtain ⟨o, oi⟩ := st
  cases z.same <;> cases z2.same
  · refine ⟨_, _, rfl, ?_, by simp⟩
    cases z.into <;> cases z2.into <;> simp <;> omega
  · cases o
    · exact ⟨_, _, rfl, by simp, rfl⟩
    · refine ⟨_, _, rfl, ?_, rfl⟩
      cases z.into <;> cases oi <;> simp <;> omega
  · cases o
    · exact ⟨_, _, rfl, by simp, rfl⟩
    · refine ⟨_, _, rfl, ?_, rfl⟩
      cases z2.into <;> cases oi <;> simp <;> omega
  · exact ⟨_, _, rfl, by simp, by simp⟩

theorem nsame_cons_odd (z : Z) (rest : List Z) :
    decide (nsame (z :: rest) % 2 = 1) = (z.same != decide (nsame rest % 2 = 1)) := by
  rw [nsame]
  cases z.same
  · simp
  · rcases Nat.mod_two_eq_zero_or_one (nsame rest) with h | h <;> simp [Nat.add_mod, h]

theorem go_weight (zs : List Z) (n : Int) (b : Bool) (st : Bool × Bool)
    (hw : WPz zs = true) (hc : Clean zs) :
    ∃ m, go zs n b st = .ok m b ∧
      ((st.1 != decide (nsame zs % 2 = 1)) = false → 2 * m = 2 * n + phi st + W zs) := by
  fun_induction WPz zs generalizing n st with
  | case1 =>
    refine ⟨n, by rw [go.eq_def], fun h => ?_⟩
    -- every overlapping hit toggles `st.1` (`go_pair`), so the hypothesis says that no section is open
    -- when the list ends: nothing is owed
    have : st.1 = false := by simpa [nsame] using h
    simp [phi, this, W]
  | case2 z rest he ih =>
    obtain ⟨h0, hs⟩ := hc z (by simp)
    have he' : z.endpoint = false := by simpa using he
    have hs' : z.same = false := by
      cases h : z.same
      · rfl
      · rw [hs h] at he'; exact absurd he' (by simp)
    obtain ⟨m, hm, hv⟩ := ih (n + dir z) st hw (fun z hz => hc z (by simp [hz]))
    refine ⟨m, ?_, fun hcond => ?_⟩
    · rw [go.eq_def]; simpa [h0, he', hs'] using hm
    · rw [nsame_cons_odd, hs'] at hcond
      have := hv (by simpa using hcond)
      simp only [W, weight, hs', he', Bool.false_eq_true, if_false]
      omega
  | case3 z he => exact absurd hw (by simp)
  | case4 z he z2 rest ih =>
    obtain ⟨he2, hw'⟩ := Bool.and_eq_true_iff.mp hw
    obtain ⟨n', st', hgo, hwt, hst⟩ :=
      go_pair z z2 rest n b st (hc z (by simp)).1 (by simpa using he) he2
    obtain ⟨m, hm, hv⟩ := ih n' st' hw' (fun z hz => hc z (by simp [hz]))
    refine ⟨m, hgo ▸ hm, fun hcond => ?_⟩
    rw [nsame_cons_odd, nsame_cons_odd, ← Bool.bne_assoc, ← Bool.bne_assoc, ← hst] at hcond
    have := hv hcond
    simp only [W]
    omega

/-- not an equivalence: the partner of an end-point hit is skipped without being looked at -/
theorem go_flag (zs : List Z) (n : Int) (b : Bool) (st : Bool × Bool) :
    ∀ m b', go zs n b st = .ok m b' → b' = b ∨ (b' = true ∧ ∃ z ∈ zs, z.t0zero = true) := by
  fun_induction go zs n b st
  case case1 | case4 => rintro m b' ⟨⟩; exact .inl rfl
  case case2 z rest n b st ht ih =>
    intro m b' h
    exact .inr ⟨(ih m b' h).elim id And.left, z, by simp, ht⟩
  all_goals
    next ih =>
      exact fun m b' h => (ih m b' h).imp id fun ⟨hb, z, hz, ht⟩ => ⟨hb, z, by simp [hz], ht⟩

theorem go_no_t0 (zs : List Z) (n : Int) (b : Bool) (st : Bool × Bool)
    (h : ∀ z ∈ zs, z.t0zero = false) : ∀ m b', go zs n b st = .ok m b' → b' = b := by
  intro m b' hm
  rcases go_flag zs n b st m b' hm with h' | ⟨-, z, hz, ht⟩
  · exact h'
  · rw [h z hz] at ht; cases ht

end Canvas.C06
