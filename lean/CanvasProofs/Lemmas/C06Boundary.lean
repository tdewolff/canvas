import CanvasProofs.Lemmas.C06Chain

/-! The boundary flag, for every flat subpath and every point: every hit lies at or right of the query
point, a hit is at the query point iff T[0] = 0 (`edge_boundary`, the part this module holds, for one segment; along the chain in `C06.hits_at_query_point_iff_on_path`), the stable
sort brings a smallest hit to the front (`isort_sorted`), and `windings` sets the flag from there
(`go_flag`); put together in `C06.boundary_reported_iff_on_path`. -/
namespace Canvas.C06
open Canvas.Wn

/-- degenerate segments do not count: they are skipped by `RayIntersections` -/
def onChain (p : IPt) : List IPt → Prop
  | a :: b :: rest => (a ≠ b ∧ onSeg p a b) ∨ onChain p (b :: rest)
  | _ => False

instance onChain.decidable (p : IPt) : ∀ l, Decidable (onChain p l)
  | [] | [_] => instDecidableFalse
  | _ :: b :: rest => @instDecidableOr _ _ _ (onChain.decidable p (b :: rest))

theorem pre_of_onSeg (p a b : IPt) (h : onSeg p a b) :
    min a.y b.y ≤ p.y ∧ p.y ≤ max a.y b.y ∧ p.x ≤ max a.x b.x := by
  have ⟨_, hy1, hy2, hx⟩ := h
  refine ⟨hy1, hy2, ?_⟩
  by_cases hh : a.y = b.y
  · have := hx hh; omega
  · by_contra hc
    have := side_neg_of_right p a b hh ⟨hy1, hy2⟩ (by omega) (by omega)
    rw [(onSeg_iff_side p a b hh ⟨hy1, hy2⟩).mp h] at this
    exact lt_irrefl 0 this

/-- whichever way the three comparisons of `horizHits` turn out, the claims are comparisons of the
three x-coordinates -/
theorem horizHits_boundary (p a b : IPt) (hh : a.y = b.y) (hpy : p.y = a.y) (hx : p.x ≤ max a.x b.x) :
    (∀ h ∈ horizHits p a b, (p.x : Rat) ≤ h.x ∧ (h.t0zero = true ↔ h.x = (p.x : Rat))) ∧
    ((∃ h ∈ horizHits p a b, h.t0zero = true) ↔ onSeg p a b) := by
  rw [onSeg_horiz p a b hh hpy]
  have hx := le_max_iff.mp hx
  by_cases c1 : p.x ≤ a.x ∧ p.x ≤ b.x <;> by_cases c2 : p.x < b.x <;> by_cases c3 : p.x < a.x <;>
    simp only [horizHits, c1, c2, c3, if_true, if_false, List.mem_cons, List.mem_nil_iff, or_false,
      forall_eq_or_imp, forall_eq, exists_eq_or_imp, exists_eq_left, beq_iff_eq, Int.cast_le,
      Int.cast_inj, le_refl, Bool.false_eq_true, true_iff, false_iff, true_and, and_true, true_or] <;>
    omega

theorem lineHits_boundary (p a b : IPt) (hh : a.y ≠ b.y) :
    (∀ h ∈ lineHits p a b, (p.x : Rat) ≤ h.x ∧ (h.t0zero = true ↔ h.x = (p.x : Rat))) ∧
    ((∃ h ∈ lineHits p a b, h.t0zero = true) ↔ side p a b = 0) := by
  have hs := side_sign p a b hh
  simp only [lineHits]
  split
  · exact ⟨fun _ hm => (nomatch hm), ⟨fun ⟨_, hm, _⟩ => (nomatch hm), fun h0 => by omega⟩⟩
  · rename_i hn
    simp only [List.mem_singleton, forall_eq, exists_eq_left, beq_iff_eq]
    exact ⟨⟨not_lt.mp (mt hs.2.2.mpr hn), hs.2.1⟩, trivial⟩

theorem edge_boundary (p a b : IPt) :
    (∀ h ∈ edgeHits p a b, (p.x : Rat) ≤ h.x ∧ (h.t0zero = true ↔ h.x = (p.x : Rat))) ∧
    ((∃ h ∈ edgeHits p a b, h.t0zero = true) ↔ a ≠ b ∧ onSeg p a b) := by
  by_cases hne : a = b
  · subst hne
    rw [edgeHits_self]
    exact ⟨fun _ hm => (nomatch hm), ⟨fun ⟨_, hm, _⟩ => (nomatch hm), fun h => absurd rfl h.1⟩⟩
  rw [and_iff_right hne]
  by_cases hpre : min a.y b.y ≤ p.y ∧ p.y ≤ max a.y b.y ∧ p.x ≤ max a.x b.x
  · by_cases hh : a.y = b.y
    · rw [edgeHits_horiz p a b hne hpre hh]
      exact horizHits_boundary p a b hh (by omega) hpre.2.2
    · rw [edgeHits_line p a b hpre hh, onSeg_iff_side p a b hh ⟨hpre.1, hpre.2.1⟩]
      exact lineHits_boundary p a b hh
  · rw [edgeHits_of_not_pre p a b hpre]
    exact ⟨fun _ hm => (nomatch hm),
      ⟨fun ⟨_, hm, _⟩ => (nomatch hm), fun h => absurd (pre_of_onSeg p a b h) hpre⟩⟩

end Canvas.C06
