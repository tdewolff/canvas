import CanvasProofs.Lemmas.C09Reverse
/-! C09 helper lemmas: closedness flags and geometric segments of the reversed path; accumulation of a
measure over a list of segments. -/
namespace C09L
open Canvas Canvas.Path Canvas.C09
variable {α : Type}

theorem closedFlags_body {body rest : List (Cmd α)} (h : body.all (fun c => !c.isMove) = true) :
    closedFlags (body ++ rest) = closedFlags rest := by
  induction body with
  | nil => rfl
  | cons c b ih =>
    simp only [List.all_cons, Bool.and_eq_true] at h
    cases c with
    | move p => exact absurd h.1 Bool.false_ne_true
    | _ => exact ih h.2

theorem runClosed_draw {segs rest : List (Cmd α)} (h : segs.all Cmd.isDraw = true) :
    runClosed (segs ++ rest) = runClosed rest := by
  induction segs with
  | nil => rfl
  | cons c b ih =>
    simp only [List.all_cons, Bool.and_eq_true] at h
    cases c with
    | move p | close p => exact absurd h.1 Bool.false_ne_true
    | _ => exact ih h.2

theorem closedFlags_flat (subs : List (SubPath α)) (hd : ∀ s ∈ subs, s.drawOnly = true) :
    closedFlags (flatF subs) = subs.map (·.closed) := by
  induction subs with
  | nil => rfl
  | cons s more ih =>
    have hs := hd s (by simp)
    rw [flatF_cons, closedFlags, closedFlags_body (flat_body_no_move s hs), ih (fun t ht => hd t (by simp [ht]))]
    simp only [List.map_cons, List.cons.injEq, and_true]
    rw [List.append_assoc, runClosed_draw hs]
    -- after the body the run ends: with the Close, or at the next MoveTo or the end of the array
    have hnext : prevIsMoveOrNone (flatF more) = true ∧ runClosed (flatF more) = false := by
      cases more <;> exact ⟨rfl, rfl⟩
    cases s.closed with
    | true => exact if_pos hnext.1
    | false => exact hnext.2

theorem closed_revSub (eq : Pt α → Pt α → Bool) (s : SubPath α) : (revSub eq s).closed = s.closed := by
  unfold revSub
  cases s.closed <;> simp

theorem closed_revSubs (eq : Pt α → Pt α → Bool) (subs : List (SubPath α)) :
    ((subs.map (revSub eq)).reverse).map (·.closed) = (subs.map (·.closed)).reverse := by
  rw [List.map_reverse, List.map_map]
  exact congrArg List.reverse (List.map_congr_left fun s _ => closed_revSub eq s)

theorem chainSegs_append (a : Pt α) (xs ys : List (Cmd α)) :
    chainSegs a (xs ++ ys) = chainSegs a xs ++ chainSegs (chainEnd a xs) ys := by
  induction xs generalizing a with
  | nil => rfl
  | cons c cs ih => simp [chainSegs, ih]

theorem chainSegs_retarget (a : Pt α) (c : Cmd α) :
    chainSegs c.endp [retarget c a] = (chainSegs a [c]).map Seg.rev := by
  cases c <;> rfl

theorem chainSegs_single_reverse (a : Pt α) (c : Cmd α) : (chainSegs a [c]).reverse = chainSegs a [c] := by
  cases c <;> rfl

theorem chainSegs_line (a e : Pt α) (cs : List (Cmd α)) :
    chainSegs a (Cmd.line e :: cs) = ⟨a, .line, e⟩ :: chainSegs e cs := rfl

theorem chainSegs_revChain (a : Pt α) (cs : List (Cmd α)) :
    chainSegs (chainEnd a cs) (revChain a cs) = ((chainSegs a cs).reverse).map Seg.rev := by
  induction cs generalizing a with
  | nil => rfl
  | cons c cs ih =>
    have e : chainSegs a (c :: cs) = chainSegs a [c] ++ chainSegs c.endp cs := by
      have := chainSegs_append a [c] cs
      simpa using this
    rw [chainEnd_cons, revChain_cons, chainSegs_append, ih, chainEnd_revChain_self,
      chainSegs_retarget a c, e, List.reverse_append, List.map_append, chainSegs_single_reverse]

variable (eq : Pt α → Pt α → Bool)

theorem geom_open (start : Pt α) (segs : List (Cmd α)) :
    SubPath.geom eq ⟨start, segs, false⟩ = chainSegs start segs := List.append_nil _

theorem geom_closed (start : Pt α) (segs : List (Cmd α)) :
    SubPath.geom eq ⟨start, segs, true⟩ =
      chainSegs start segs ++
        (if eq start (chainEnd start segs) then [] else [⟨chainEnd start segs, .line, start⟩]) := by
  simp only [SubPath.geom, Bool.true_and]
  cases eq start (chainEnd start segs) <;> simp

theorem chainSegs_closing {start en : Pt α} {xs : List (Cmd α)} (hz : eq start en = true → en = start) :
    chainSegs start ((if eq start en then [] else [.line en]) ++ xs) =
      (if eq start en then [] else [⟨start, .line, en⟩]) ++ chainSegs en xs := by
  by_cases he : eq start en = true
  · rw [if_pos he, if_pos he, hz he]; rfl
  · rw [if_neg he, if_neg he]; rfl

theorem geom_revSub (s : SubPath α) (h : s.RevOK eq) :
    SubPath.geom eq (revSub eq s) = ((SubPath.geom eq s).reverse).map Seg.rev := by
  obtain ⟨start, segs, closed⟩ := s
  obtain ⟨_, hc⟩ := h
  cases closed with
  | false =>
    rw [revSub_open, geom_open, geom_open]
    exact chainSegs_revChain start segs
  | true =>
    obtain ⟨hrefl, hfirst, _, hzero⟩ := hc rfl
    simp only at hrefl hfirst hzero
    rw [revSub_closed, geom_closed, geom_closed, chainEnd_closing eq hzero,
      chainSegs_closing eq hzero]
    cases segs with
    | nil => simp [revClosedBody, hrefl, chainSegs]
    | cons c1 rest =>
      by_cases hl : isLine c1 = true
      · -- the first LineTo is the closing segment of the reversed subpath
        obtain ⟨e1, rfl⟩ : ∃ e1, c1 = .line e1 := ⟨_, isLine_eq c1 hl⟩
        have hb : revClosedBody start (.line e1 :: rest) = revChain e1 rest := rfl
        have hen : chainEnd start (.line e1 :: rest) = chainEnd e1 rest := rfl
        have hc1 : eq start e1 = false := hfirst _ rest rfl hl
        rw [hb, hen, chainEnd_revChain_self, hc1, chainSegs_revChain _ rest, chainSegs_line]
        by_cases he : eq start (chainEnd e1 rest) = true <;> simp [he, Seg.rev]
      · rw [revClosedBody_not_line _ _ (by simpa [firstIsLine] using hl), chainEnd_revChain _ _ _ (by simp),
          hrefl, chainSegs_revChain start (c1 :: rest)]
        by_cases he : eq start (chainEnd c1.endp rest) = true <;> simp [he, Seg.rev]

theorem flatMap_rev_map {β γ : Type} (f : β → β) (G : β → List γ) (r : γ → γ) (l : List β)
    (h : ∀ s ∈ l, G (f s) = ((G s).reverse).map r) :
    ((l.map f).reverse).flatMap G = ((l.flatMap G).reverse).map r := by
  induction l with
  | nil => rfl
  | cons s more ih =>
    simp only [List.map_cons, List.reverse_cons, List.flatMap_append, List.flatMap_cons,
      List.flatMap_nil, List.append_nil, List.reverse_append, List.map_append]
    rw [ih (fun t ht => h t (by simp [ht])), h s (by simp)]

theorem geom_reverse (subs : List (SubPath α)) (h : ∀ s ∈ subs, s.RevOK eq) :
    geom eq ((subs.map (revSub eq)).reverse) = ((geom eq subs).reverse).map Seg.rev :=
  flatMap_rev_map (revSub eq) (SubPath.geom eq) Seg.rev subs (fun s hs => geom_revSub eq s (h s hs))

def accum {β M : Type} (op : M → M → M) (e : M) (f : β → M) (l : List β) : M :=
  l.foldr (fun b acc => op (f b) acc) e

theorem accum_append {β M : Type} (op : M → M → M) (e : M) (f : β → M)
    (hassoc : ∀ a b c, op (op a b) c = op a (op b c)) (hid : ∀ a, op e a = a) (xs ys : List β) :
    accum op e f (xs ++ ys) = op (accum op e f xs) (accum op e f ys) := by
  induction xs with
  | nil => simp [accum, hid]
  | cons x xs ih =>
    have : accum op e f (x :: xs ++ ys) = op (f x) (accum op e f (xs ++ ys)) := rfl
    rw [this, ih, ← hassoc]; rfl

theorem accum_reverse {β M : Type} (op : M → M → M) (e : M) (f : β → M)
    (hassoc : ∀ a b c, op (op a b) c = op a (op b c)) (hcomm : ∀ a b, op a b = op b a)
    (hid : ∀ a, op e a = a) (l : List β) : accum op e f l.reverse = accum op e f l := by
  induction l with
  | nil => rfl
  | cons x xs ih =>
    rw [List.reverse_cons, accum_append op e f hassoc hid, ih, hcomm, ← accum_append op e f hassoc hid,
      List.singleton_append]

theorem accum_map {β γ M : Type} (op : M → M → M) (e : M) (f : γ → M) (g : β → γ) (l : List β) :
    accum op e f (l.map g) = accum op e (f ∘ g) l :=
  List.foldr_map

end C09L
