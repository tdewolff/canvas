import CanvasModel.C03
import CanvasProofs.Lemmas.C03Split
import Mathlib.Tactic.Linarith.Frontend
/-! C03: the invariant of the two flattening loops. The current control polygon is the restriction of
the original curve to `[a,1]` (`OnTail`); each iteration cuts the piece `[a, a + (1-a)·t]` off its front.
Both loop models satisfy the same one-step relation (`CutLoop`), so one induction (`CutLoop.chain`)
serves both. What is known of the pieces `[a,T₁], [T₁,T₂], …, [T_k,1]` is an arbitrary predicate
`C a [T₁,…,T_k]` that a stop establishes for `[a,1]` and a cut extends by its piece, so the same theorem
gives "vertices on the curve in order" (`C` trivial) and "every piece within the tolerance" (`chainOK`,
`cubChainOK`). -/
set_option linter.unusedSectionVars false
namespace C03L
open Canvas Canvas.C03 GenK
variable {K : Type} [Field K] [LinearOrder K] [IsStrictOrderedRing K] [Env K]

theorem cut_mem {a t : K} (ha1 : a < 1) (ht0 : 0 < t) (ht1 : t < 1) :
    a < a + (1 - a) * t ∧ a + (1 - a) * t < 1 := by
  have h1a : 0 < 1 - a := sub_pos.mpr ha1
  exact ⟨lt_add_of_pos_right a (mul_pos h1a ht0), by linarith [mul_lt_mul_of_pos_left ht1 h1a]⟩

def OnTail (f g : K → Pt K) (a : K) : Prop := ∀ s, g s = f (a + (1 - a) * s)

theorem OnTail.zero (f : K → Pt K) : OnTail f f 0 := fun s => by rw [zero_add, sub_zero, one_mul]

section
variable {f g r : K → Pt K} {a : K}

theorem OnTail.start (h : OnTail f g a) : g 0 = f a := by rw [h 0, mul_zero, add_zero]

theorem OnTail.end_ (h : OnTail f g a) : g 1 = f 1 := by rw [h 1, mul_one, add_sub_cancel]

theorem OnTail.trans {t : K} (h : OnTail f g a) (hr : OnTail g r t) : OnTail f r (a + (1 - a) * t) := fun s => by
  rw [hr, h]; congr 1; ring

theorem OnTail.front (h : OnTail f g a) {t x : K} (ha1 : a < 1) (ht0 : 0 < t) (hax : a ≤ x)
    (hxb : x ≤ a + (1 - a) * t) : ∃ u : K, 0 ≤ u ∧ u ≤ 1 ∧ f x = g (t * u) := by
  have hpos : 0 < (1 - a) * t := mul_pos (sub_pos.mpr ha1) ht0
  refine ⟨(x - a) / ((1 - a) * t), div_nonneg (sub_nonneg.mpr hax) hpos.le,
    (div_le_one hpos).mpr (sub_le_iff_le_add'.mpr hxb), ?_⟩
  rw [h, ← mul_assoc, mul_div_cancel₀ _ hpos.ne', add_sub_cancel]

end

/-- What `flattenQuadLoop` and `flattenCubicLoop` have in common, as a relation on one iteration
(`run_succ`): with fuel left the loop either stops or cuts the current curve `c` at some `t` and runs on
the right part `sr c t`.
* `Stop c`: the iteration on `c` leaves the loop — `step … = none` in `flattenQuadLoop`, `.stop` or
  `.straight` in `flattenCubicLoop`.
* `Cut c t`: it splits at `t` — `step … = some t`, resp. `.cut t`.
* `E full vs` says what the returned vertices `vs` are with respect to the list `full` of ALL break points
  `B(T₁), …, B(T_k), B(1)`: `flattenQuadLoop` emits every one of them (`vs = full`), `flattenCubicLoop`
  drops those that `keep` rejects (`vs.Sublist full`). A stop returns at most the end point, a cut puts at
  most the start point of the right part in front of what the rest of the run returns. -/
structure CutLoop (K Q : Type) [Field K] where
  pos : Q → K → Pt K
  sr : Q → K → Q
  run : Nat → Q → Option (List (Pt K))
  Stop : Q → Prop
  Cut : Q → K → Prop
  E : List (Pt K) → List (Pt K) → Prop
  pos_sr : ∀ c t, OnTail (pos c) (pos (sr c t)) t
  run_zero : ∀ c, run 0 c = none
  run_succ : ∀ n c vs, run (n + 1) c = some vs → (Stop c ∧ E [pos c 1] vs) ∨
    ∃ t vs', Cut c t ∧ run n (sr c t) = some vs' ∧ ∀ full, E full vs' → E (pos (sr c t) 0 :: full) vs

theorem CutLoop.chain {Q : Type} (M : CutLoop K Q) (f : K → Pt K) (C : K → List K → Prop)
    (hrange : ∀ c t, M.Cut c t → 0 < t ∧ t < 1)
    (hcut : ∀ c a t Ts, a < 1 → OnTail f (M.pos c) a → 0 < t → M.Cut c t →
      C (a + (1 - a) * t) Ts → C a ((a + (1 - a) * t) :: Ts))
    (hstop : ∀ c a, a < 1 → OnTail f (M.pos c) a → M.Stop c → C a []) :
    ∀ (fuel : Nat) (c : Q) (a : K) (vs : List (Pt K)), a < 1 → OnTail f (M.pos c) a →
      M.run fuel c = some vs →
      ∃ Ts : List K, Ts.Pairwise (· < ·) ∧ (∀ T ∈ Ts, a < T ∧ T < 1) ∧ C a Ts
        ∧ M.E (Ts.map f ++ [f 1]) vs ∧ (Ts.map f ++ [f 1]).length ≤ fuel := by
  intro fuel
  induction fuel with
  | zero =>
    intro c a vs _ _ h
    rw [M.run_zero] at h
    cases h
  | succ n ih =>
    intro c a vs ha1 hpos h
    rcases M.run_succ n c vs h with ⟨hs, hE⟩ | ⟨t, vs', hs, hrec, hE⟩
    · refine ⟨[], List.Pairwise.nil, by simp, hstop c a ha1 hpos hs, ?_, Nat.succ_le_succ (Nat.zero_le n)⟩
      rwa [hpos.end_] at hE
    · obtain ⟨ht0, ht1⟩ := hrange c t hs
      obtain ⟨ha', ha'1⟩ := cut_mem ha1 ht0 ht1
      have hposR := hpos.trans (M.pos_sr c t)
      obtain ⟨Ts, hpw, hTs, hchain, hfull, hlen⟩ := ih _ _ vs' ha'1 hposR hrec
      refine ⟨_ :: Ts, hpw.cons fun T hT => (hTs T hT).1,
        List.forall_mem_cons.2 ⟨⟨ha', ha'1⟩, fun T hT => ⟨ha'.trans (hTs T hT).1, (hTs T hT).2⟩⟩,
        hcut c a t Ts ha1 hpos ht0 hs hchain, ?_, Nat.succ_le_succ hlen⟩
      have := hE _ hfull
      rwa [hposR.start] at this

/-- `quadR` under the name of the `splitR` argument of `flattenQuadLoop`: the statements of C03.lean
name the loop's arguments as Drv/C03.lean does at Float (`C03F.quadStep`, `C03F.quadSplitR`). -/
def quadSplitR (a b c : Pt K) (t : K) : Pt K × Pt K × Pt K := quadR a b c t

def quadLoop (step : Pt K → Pt K → Pt K → Option K) : CutLoop K (Pt K × Pt K × Pt K) where
  pos q := quadraticBezierPos q.1 q.2.1 q.2.2
  sr q := quadSplitR q.1 q.2.1 q.2.2
  run n q := flattenQuadLoop step quadSplitR n q.1 q.2.1 q.2.2
  Stop q := step q.1 q.2.1 q.2.2 = none
  Cut q t := step q.1 q.2.1 q.2.2 = some t
  E full vs := vs = full
  pos_sr q := quad_right q.1 q.2.1 q.2.2
  run_zero _ := rfl
  run_succ n q vs h := by
    unfold flattenQuadLoop at h
    cases hs : step q.1 q.2.1 q.2.2 with
    | none =>
      rw [hs] at h
      exact Or.inl ⟨rfl, by rw [quad_pos_one]; exact (Option.some.inj h).symm⟩
    | some t =>
      rw [hs] at h
      obtain ⟨vs', hrec, rfl⟩ := Option.map_eq_some_iff.mp h
      exact Or.inr ⟨t, vs', rfl, hrec, fun full hf => by rw [hf, quad_pos_zero]⟩

def cubPos (c : Cub K) (s : K) : Pt K := cubicBezierPos c.p0 c.p1 c.p2 c.p3 s

theorem cubPos_zero (c : Cub K) : cubPos c 0 = c.p0 := cub_pos_zero _ _ _ _
theorem cubPos_one (c : Cub K) : cubPos c 1 = c.p3 := cub_pos_one _ _ _ _

/-- right part of the generated `cubicBezierSplit`, on the record the loop model uses -/
def cubSplitR (c : Cub K) (t : K) : Cub K :=
  ⟨(cubR c.p0 c.p1 c.p2 c.p3 t).1, (cubR c.p0 c.p1 c.p2 c.p3 t).2.1,
   (cubR c.p0 c.p1 c.p2 c.p3 t).2.2.1, (cubR c.p0 c.p1 c.p2 c.p3 t).2.2.2⟩

theorem cubSplitR_pos (c : Cub K) (t s : K) : cubPos (cubSplitR c t) s = cubPos c (t + (1 - t) * s) :=
  cub_right c.p0 c.p1 c.p2 c.p3 t s

theorem cubSplitR_end (c : Cub K) (t : K) : (cubSplitR c t).p3 = c.p3 := rfl

/-- left part of the generated `cubicBezierSplit`, over `K` -/
def cubSplitLK (c : Cub K) (t : K) : Cub K :=
  ⟨(cubL c.p0 c.p1 c.p2 c.p3 t).1, (cubL c.p0 c.p1 c.p2 c.p3 t).2.1,
   (cubL c.p0 c.p1 c.p2 c.p3 t).2.2.1, (cubL c.p0 c.p1 c.p2 c.p3 t).2.2.2⟩

theorem cubSplitLK_pos (c : Cub K) (t s : K) : cubPos (cubSplitLK c t) s = cubPos c (t * s) :=
  cub_left c.p0 c.p1 c.p2 c.p3 t s

theorem cubSplitLK_p0 (c : Cub K) (t : K) : (cubSplitLK c t).p0 = c.p0 := rfl

theorem cubSplitLK_p3 (c : Cub K) (t : K) : (cubSplitLK c t).p3 = cubPos c t := by
  rw [← cubPos_one, cubSplitLK_pos, mul_one]

/-- `flattenCubicLoop`: a vertex is emitted only for the pieces that `addCubicBezierLine` does not
regard as degenerate (`keep`), hence the sublist -/
def cubLoop (step : Cub K → CStep K) (keep : Cub K → Bool) : CutLoop K (Cub K) where
  pos := cubPos
  sr := cubSplitR
  run := flattenCubicLoop step keep cubSplitR
  Stop q := step q = .stop ∨ step q = .straight
  Cut q t := step q = .cut t
  E full vs := vs.Sublist full
  pos_sr := cubSplitR_pos
  run_zero _ := rfl
  run_succ n q vs h := by
    unfold flattenCubicLoop at h
    rw [cubPos_one]
    cases hs : step q with
    | straight =>
      rw [hs] at h
      exact Or.inl ⟨Or.inr rfl, Option.some.inj h ▸ List.Sublist.refl _⟩
    | stop =>
      rw [hs] at h
      obtain rfl := Option.some.inj h
      exact Or.inl ⟨Or.inl rfl, by cases keep q <;> simp⟩
    | cut t =>
      rw [hs] at h
      obtain ⟨vs', hrec, rfl⟩ := Option.map_eq_some_iff.mp h
      refine Or.inr ⟨t, vs', rfl, hrec, fun full hf => ?_⟩
      rw [cubPos_zero]
      cases keep (cubSplitR q t)
      · exact List.Sublist.cons _ hf
      · exact List.Sublist.cons_cons _ hf

end C03L
