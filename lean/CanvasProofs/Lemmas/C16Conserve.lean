import CanvasModel.C16.Glue
namespace Canvas.C16

/-- number of spans that contain rune `i` -/
def cover (spans : List (Nat × Nat)) (i : Nat) : Nat :=
  (spans.filter (fun s => decide (s.1 ≤ i ∧ i < s.2))).length

theorem cover_nil (i : Nat) : cover [] i = 0 := rfl

theorem cover_cons (s : Nat × Nat) (r : List (Nat × Nat)) (i : Nat) :
    cover (s :: r) i = (if s.1 ≤ i ∧ i < s.2 then 1 else 0) + cover r i := by
  by_cases h : s.1 ≤ i ∧ i < s.2 <;> simp [cover, h, Nat.add_comm]

theorem cover_append (a b : List (Nat × Nat)) (i : Nat) : cover (a ++ b) i = cover a i + cover b i := by
  unfold cover; simp [List.filter_append]

theorem lineOK_cover {cls : List RC} {pos : Nat} {sp : List (Nat × Nat)} {e : Nat} : lineOK cls pos sp = some e →
    pos ≤ e ∧ ∀ i, cover sp i = if pos ≤ i ∧ i < e then 1 else 0 := by
  fun_induction lineOK cls pos sp with
  | case1 pos =>
    rintro ⟨rfl⟩
    exact ⟨Nat.le_refl _, fun i => by rw [if_neg (by omega)]; rfl⟩
  | case2 pos a b r hc ih =>
    intro h
    obtain ⟨h1, h2⟩ := ih h
    refine ⟨by omega, fun i => ?_⟩
    simp only [cover_cons, h2 i]
    rcases Nat.lt_or_ge i b with hi | hi
    · rw [if_neg (show ¬(b ≤ i ∧ i < e) by omega), Nat.add_zero]
      exact ite_congr (propext (by omega)) (fun _ => rfl) (fun _ => rfl)
    · rw [if_neg (show ¬(a ≤ i ∧ i < b) by omega), Nat.zero_add]
      exact ite_congr (propext (by omega)) (fun _ => rfl) (fun _ => rfl)
  | case3 => nofun

theorem sliceR_all {cls : List RC} {p : RC → Bool} {a b : Nat} (h : (sliceR cls a b).all p = true) :
    ∀ i, a ≤ i → i < b → ∀ c, cls[i]? = some c → p c = true := by
  intro i hai hib c hc
  refine List.all_eq_true.mp h c (List.mem_iff_getElem?.mpr ⟨i - a, ?_⟩)
  rw [sliceR, List.getElem?_take, if_pos (by omega), List.getElem?_drop, ← hc]
  congr 1
  omega

/-- besides the two claims about an `ok` verdict the induction carries: no remaining span reaches back before `pos` -/
theorem conserveGo_sound (cls : List RC) (lines : List (List (Nat × Nat))) (pos empties : Nat) (first : Bool) :
    conserveGo cls pos empties first lines = .ok →
    ∀ i, (i < pos → cover lines.flatten i = 0) ∧ cover lines.flatten i ≤ 1 ∧
      (pos ≤ i → ∀ c, cls[i]? = some c → c.droppable = false → cover lines.flatten i = 1) := by
  fun_induction conserveGo cls pos empties first lines with
  | case1 pos _ _ hall =>
    refine fun _ i => ⟨fun _ => rfl, Nat.zero_le _, fun hpi c hc hd => ?_⟩
    have := sliceR_all hall i hpi (List.getElem?_eq_some_iff.mp hc).1 c hc
    rw [hd] at this
    cases this
  | case3 _ _ _ _ ih => exact ih
  -- the one branch in which a line with spans goes on: every test passed and `lineOK` accepted the line up to `e`
  | case11 pos _ _ a b sp r gap hap _ hgap _ _ e hl ih =>
    intro h i
    obtain ⟨r1, r2, r3⟩ := ih h i
    obtain ⟨hae, hline⟩ := lineOK_cover hl
    have hline := hline i
    rw [List.flatten_cons, cover_append]
    by_cases hin : a ≤ i ∧ i < e
    · rw [if_pos hin] at hline
      have := r1 hin.2
      exact ⟨fun _ => by omega, by omega, fun _ _ _ _ => by omega⟩
    · rw [if_neg hin] at hline
      refine ⟨fun hip => by have := r1 (by omega); omega, by omega, fun hpi c hc hd => ?_⟩
      rcases Nat.lt_or_ge i a with hia | hia
      · have := sliceR_all (by simpa using hgap : gap.all RC.droppable = true) i hpi hia c hc
        rw [hd] at this
        cases this
      · have := r3 (by omega) c hc hd
        omega
  -- all others end in `.fail`
  | _ => nofun

end Canvas.C16
