import CanvasProofs.Lemmas.C09Reverse
import CanvasProofs.Lemmas.Wn
/-! C09 helper lemmas: the winding number of the reversed flat path (exact integer coordinates),
through the laws of the L3 specification `Canvas.Wn`. -/
namespace C09L
open Canvas Canvas.Path Canvas.C09 Canvas.Wn

def toIPt (p : Pt Int) : IPt := ⟨p.x, p.y⟩

/-- vertex list of a straight subpath (the closing vertex is not repeated; `wn1` closes contours) -/
def contour (s : SubPath Int) : List IPt := (s.start :: s.segs.map Cmd.endp).map toIPt

def eqExact (a b : Pt Int) : Bool := decide (a = b)

def SubPath.flatLines (s : SubPath Int) : Bool := s.segs.all isLine

theorem isLine_isDraw {α : Type} (c : Cmd α) (h : isLine c = true) : c.isDraw = true := by
  cases c <;> simp_all [isLine, Cmd.isDraw]

theorem all_line_draw {α : Type} (l : List (Cmd α)) (h : l.all isLine = true) : l.all Cmd.isDraw = true := by
  rw [List.all_eq_true] at h ⊢
  exact fun c hc => isLine_isDraw c (h c hc)

theorem revChain_endps {α : Type} (a : Pt α) (cs : List (Cmd α)) :
    chainEnd a cs :: (revChain a cs).map Cmd.endp = (a :: cs.map Cmd.endp).reverse := by
  induction cs generalizing a with
  | nil => rfl
  | cons c cs ih =>
    rw [chainEnd_cons, revChain_cons, List.map_append, ← List.cons_append, ih]
    simp

theorem lastIsLine_of_all {α : Type} {l : List (Cmd α)} (hne : l ≠ []) (h : l.all isLine = true) :
    lastIsLine l = true := by
  induction l using rev_ind with
  | nil => exact absurd rfl hne
  | snoc xs y _ =>
    rw [lastIsLine_snoc]
    simp only [List.all_append, List.all_cons, List.all_nil, Bool.and_true, Bool.and_eq_true] at h
    exact h.2

theorem wn1_revSub (q : IPt) (s : SubPath Int) (hl : SubPath.flatLines s = true) (h : s.RevOK eqExact) :
    wn1 q (contour (revSub eqExact s)) = - wn1 q (contour s) := by
  obtain ⟨start, segs, closed⟩ := s
  simp only [SubPath.flatLines] at hl
  obtain ⟨_, hc⟩ := h
  cases closed with
  | false =>
    have : contour (revSub eqExact ⟨start, segs, false⟩) = (contour ⟨start, segs, false⟩).reverse := by
      rw [revSub_open, contour, contour, revChain_endps, List.map_reverse]
    rw [this, wn1_reverse]
  | true =>
    obtain ⟨hrefl, hfirst, hlast, _⟩ := hc rfl
    simp only at hrefl hfirst hlast
    cases segs with
    | nil =>
      rw [revSub_closed]
      simp [contour, revClosedBody, hrefl, wn1_singleton]
    | cons c1 rest =>
      simp only [List.all_cons, Bool.and_eq_true] at hl
      have hne : eqExact start (chainEnd start (c1 :: rest)) = false :=
        hlast (lastIsLine_of_all (by simp) (by simp [hl.1, hl.2]))
      rw [revSub_closed, hne, revClosedBody_line start c1 rest hl.1, if_neg Bool.false_ne_true, List.singleton_append]
      -- both contours begin at `start`; the other vertices are listed in opposite orders
      show wn1 q (toIPt start :: (chainEnd c1.endp rest :: (revChain c1.endp rest).map Cmd.endp).map toIPt) =
        - wn1 q (toIPt start :: (c1.endp :: rest.map Cmd.endp).map toIPt)
      rw [revChain_endps, List.map_reverse, ← wn1_rotate, ← wn1_reverse]
      simp

end C09L
