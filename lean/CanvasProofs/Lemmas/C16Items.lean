import CanvasModel.C16
namespace Canvas.C16

theorem sizes_append (a b : List Item) : sizes (a ++ b) = sizes a + sizes b := by
  induction a with
  | nil => simp [sizes]
  | cons x r ih => simp [sizes, ih]; omega

theorem sizes_reverse (a : List Item) : sizes a.reverse = sizes a := by
  induction a with
  | nil => simp [sizes]
  | cons x r ih => simp [sizes, sizes_append, ih]; omega

theorem toList_sizes (s : St) : sizes s.toList = s.total := by
  simp [St.toList, St.total, sizes_append, sizes_reverse, sizes]; omega

@[simp] theorem total_push (s : St) (it : Item) : (s.push it).total = s.total + it.size := by
  simp [St.push, St.total, sizes]; omega

@[simp] theorem total_inc (s : St) : s.inc.total = s.total + 1 := by
  simp [St.inc, St.total]; omega

theorem total_mk (it : Item) (r : List Item) : (St.mk it r).total = it.size + sizes r := rfl

theorem total_setW (s : St) (w : Float) : ({ s with last := { s.last with w := w } } : St).total = s.total := rfl

@[simp] theorem mkBox_size (w : Float) : (mkBox w).size = 0 := rfl
@[simp] theorem mkGlue_size (w y z : Float) : (mkGlue w y z).size = 0 := rfl
@[simp] theorem mkPen_size (w p : Float) (f : Bool) : (mkPen w p f).size = 0 := rfl

@[simp] theorem total_addGlue (s : St) (w y z : Float) : (addGlue s w y z).total = s.total := by
  unfold addGlue; split
  · rfl
  · simp

/-! Every kind of glyph pushes items of size 0 and counts itself once with `inc`. -/

theorem stepSpace_total (al : Align) (sw : Float) (gs : Array G) (i : Nat) (g : G) (s : St) :
    (stepSpace al sw gs i g s).total = s.total + 1 := by
  cases al <;> simp [stepSpace]

theorem stepNl_total (al : Align) (sw : Float) (gs : Array G) (i : Nat) (g : G) (s : St) :
    (stepNl al sw gs i g s).total = s.total + 1 := by
  simp [stepNl, apply_ite St.total]

theorem stepHyph_total (al : Align) (sw : Float) (g : G) (s : St) :
    (stepHyph al sw g s).total = s.total + 1 := by
  cases al <;> simp [stepHyph]

theorem stepCh_total (gs : Array G) (i : Nat) (g : G) (s : St) : (stepCh gs i g s).total = s.total + 1 := by
  simp [stepCh, apply_ite St.total, total_setW]

theorem step_total (al : Align) (sw : Float) (gs : Array G) (i : Nat) (g : G) (s : St) :
    (step al sw gs i g s).total = s.total + 1 := by
  unfold step
  split
  · exact stepSpace_total ..
  · exact stepNl_total ..
  · exact stepNl_total ..
  · exact stepNl_total ..
  · exact stepHyph_total ..
  · exact stepHyph_total ..
  · exact stepCh_total ..

theorem loop_total (al : Align) (sw : Float) (gs : Array G) (l : List G) (i : Nat) (s : St) :
    (loop al sw gs i l s).total = s.total + l.length := by
  fun_induction loop al sw gs i l s with
  | case1 => rfl
  | case2 i g r s ih => rw [ih, step_total, List.length_cons, Nat.add_assoc, Nat.add_comm 1]

theorem finish_total (al : Align) (sw : Float) (s : St) : (finish al sw s).total = s.total := by
  simp [finish, apply_ite St.total]

end Canvas.C16
