import CanvasModel.C19
/-! The order in which matching rules apply: inserting in front of the first key that is not smaller keeps a
sorted list sorted; a rule has a specificity exactly when it applies. -/
namespace C19
open Canvas Canvas.C19
variable {α : Type}

theorem mem_insFront {β : Type} (key : β → Nat) (x z : β) : ∀ l, z ∈ insFront key x l → z = x ∨ z ∈ l
  | [], h => Or.inl (List.mem_singleton.mp h)
  | y :: ys, h => by
    unfold insFront at h
    split at h
    · exact List.mem_cons.mp h
    · rcases List.mem_cons.mp h with rfl | h
      · exact Or.inr List.mem_cons_self
      · exact (mem_insFront key x z ys h).imp_right (List.mem_cons_of_mem _)

theorem pairwise_insFront {β : Type} (key : β → Nat) (x : β) :
    ∀ l, l.Pairwise (fun a b => key a ≤ key b) → (insFront key x l).Pairwise (fun a b => key a ≤ key b)
  | [], _ => List.pairwise_singleton _ _
  | y :: ys, h => by
    obtain ⟨hy, hys⟩ := List.pairwise_cons.mp h
    unfold insFront
    split
    · rename_i hxy
      refine List.pairwise_cons.mpr ⟨fun z hz => ?_, h⟩
      rcases List.mem_cons.mp hz with rfl | hz
      · exact hxy
      · exact Nat.le_trans hxy (hy z hz)
    · rename_i hxy
      refine List.pairwise_cons.mpr ⟨fun z hz => ?_, pairwise_insFront key x ys hys⟩
      rcases mem_insFront key x z ys hz with rfl | hz
      · exact Nat.le_of_lt (Nat.lt_of_not_le hxy)
      · exact hy z hz

theorem foldl_best_isSome {σ : Type} (ok : σ → Bool) (key : σ → Nat) (l : List σ) :
    ∀ best : Option Nat,
      (l.foldl (fun best s =>
        if ok s then
          match best with
          | none => some (key s)
          | some b => some (max b (key s))
        else best) best).isSome =
      (best.isSome || l.any ok) := by
  induction l with
  | nil => intro best; simp
  | cons s t ih =>
    intro best
    simp only [List.foldl_cons, List.any_cons]
    rw [ih]
    by_cases h : ok s = true
    · simp only [h, if_true, Bool.true_or, Bool.or_true]
      cases best <;> rfl
    · simp only [h, Bool.false_eq_true, if_false, Bool.false_or]

theorem ruleSpec_isSome (r : Rule α) (elems : List Elem) : (ruleSpec r elems).isSome = ruleApplies r elems := by
  unfold ruleSpec
  refine (foldl_best_isSome _ _ r.selectors none).trans ?_
  simp only [Option.isSome_none, Bool.false_or]
  unfold ruleApplies
  simp only [List.any_cons, List.any_nil, Bool.or_false]

end C19
