import CanvasModel.C10.Derive
/-! Whether a record may follow a well-formed path depends only on the path's newest record and the
start of its open subpath (`ok_move`, `ok_draw`, `ok_close`); every builder call is checked against
these three facts, in weak and strict mode at once. -/
set_option linter.unusedSectionVars false
namespace Canvas.Path
variable {α : Type} [DecidableEq α] (G : Geo α) (near : Pt α → Pt α → Bool) (b : Bool)

abbrev Ok (cs : RPath α) : Prop := ∃ st, endState near b cs = some st

-- `near` and `b` are implicit in every theorem below; `G` is explicit except behind a dot (`OpenAt.*`, `DrawOutcome.*`)
variable {near b}

def isOpen : RPath α → Bool
  | [] => false
  | .close _ :: _ => false
  | _ => true

theorem isOpen_draw {c : Cmd α} (hc : c.isDraw = true) (cs : RPath α) : isOpen (c :: cs) = true := by
  cases c <;> first | rfl | cases hc

/-- The state a well-formed path ends in.  With no MoveTo below a drawing record the path is ill-formed
and the start point is never looked at; the end point of the record stands in. -/
def stateOf : RPath α → St α
  | [] => .start
  | .move p :: _ => .moved p
  | .close _ :: _ => .closed
  | c :: rest => .opened (match stateOf rest with
    | .moved s => s
    | .opened s => s
    | _ => c.endp)

theorem cmd_trichotomy (c : Cmd α) :
    (∃ p, c = .move p) ∨ (∃ p, c = .close p) ∨ c.isDraw = true := by
  cases c <;> simp [Cmd.isDraw]

theorem eq_move_of_isMove {c : Cmd α} (h : c.isMove = true) : ∃ p, c = .move p := by
  cases c <;> first | exact ⟨_, rfl⟩ | cases h

theorem startPos_draw {c : Cmd α} (hc : c.isDraw = true) (rest : RPath α) :
    startPos G (c :: rest) = startPos G rest := by
  cases c <;> first | rfl | cases hc

theorem stateOf_draw {c : Cmd α} (hc : c.isDraw = true) (rest : RPath α) :
    stateOf (c :: rest) = .opened (match stateOf rest with
      | .moved s => s
      | .opened s => s
      | _ => c.endp) := by
  cases c <;> first | rfl | cases hc

theorem endState_cons (c : Cmd α) (cs : RPath α) :
    endState near b (c :: cs) = (endState near b cs).bind fun st => step near b st c := rfl

theorem step_draw {c : Cmd α} (hc : c.isDraw = true) (st : St α) :
    step near b st c = match st with
      | .moved s => some (.opened s)
      | .opened s => some (.opened s)
      | _ => none := by
  cases c <;> first | rfl | cases hc

theorem step_move_iff {st st' : St α} {p : Pt α} :
    step near b st (.move p) = some st' ↔ st' = .moved p ∧ (b = true → ∀ s, st ≠ .moved s) := by
  cases st <;> cases b <;> simp [step] <;> exact eq_comm

theorem step_close_iff {st st' : St α} {c : Pt α} :
    step near b st (.close c) = some st' ↔
      st' = .closed ∧ ∃ s, (st = .opened s ∨ (st = .moved s ∧ b = false)) ∧ (c = s ∨ near c s = true) := by
  cases st with
  | start => simp [step]
  | closed => simp [step]
  | opened s =>
    simp [step]
    exact and_comm.trans (and_congr_left' eq_comm)
  | moved s =>
    cases b with
    | true => simp [step]
    | false =>
      simp [step]
      exact and_comm.trans (and_congr_left' eq_comm)

theorem endState_eq_stateOf {cs : RPath α} : ∀ {st : St α}, endState near b cs = some st → st = stateOf cs := by
  induction cs with
  | nil => intro st h; exact (Option.some.inj h).symm
  | cons c rest ih =>
    intro st h
    rw [endState_cons] at h
    obtain ⟨st0, h0, hs⟩ := Option.bind_eq_some_iff.1 h
    have h0' := ih h0
    rcases cmd_trichotomy c with ⟨p, rfl⟩ | ⟨p, rfl⟩ | hc
    · exact (step_move_iff.1 hs).1
    · exact (step_close_iff.1 hs).1
    · rw [step_draw hc] at hs
      rw [stateOf_draw hc, ← h0']
      cases st0 <;> cases hs <;> rfl

theorem Ok.endState_eq {cs : RPath α} (h : Ok near b cs) : endState near b cs = some (stateOf cs) := by
  obtain ⟨st, h⟩ := h
  rw [h, endState_eq_stateOf h]

theorem ok_cons (c : Cmd α) (cs : RPath α) :
    Ok near b (c :: cs) ↔ Ok near b cs ∧ (step near b (stateOf cs) c).isSome = true := by
  constructor
  · rintro ⟨st, h⟩
    obtain ⟨st0, h0, hs⟩ := Option.bind_eq_some_iff.1 h
    rw [endState_eq_stateOf h0] at hs
    exact ⟨⟨st0, h0⟩, by rw [hs]; rfl⟩
  · rintro ⟨h, hs⟩
    show ∃ st, endState near b (c :: cs) = some st
    rw [endState_cons, h.endState_eq]
    exact Option.isSome_iff_exists.1 hs

theorem ok_move (p : Pt α) (cs : RPath α) :
    Ok near b (.move p :: cs) ↔ Ok near b cs ∧ (b = true → headIsMove cs = false) := by
  rw [ok_cons]
  refine and_congr_right' ?_
  cases cs with
  | nil => simp [stateOf, step, headIsMove]
  | cons c rest => cases c <;> simp [stateOf, step, headIsMove]

theorem ok_draw {c : Cmd α} (hc : c.isDraw = true) (cs : RPath α) :
    Ok near b (c :: cs) ↔ Ok near b cs ∧ isOpen cs = true := by
  rw [ok_cons, step_draw hc]
  refine and_congr_right' ?_
  cases cs with
  | nil => simp [stateOf, isOpen]
  | cons c rest => cases c <;> simp [stateOf, isOpen]

theorem stateOf_draw_ok : ∀ {rest : RPath α} {c : Cmd α}, c.isDraw = true → Ok near b (c :: rest) →
    stateOf (c :: rest) = .opened (startPos G (c :: rest))
  | [], _, hc, h => by cases ((ok_draw hc []).1 h).2
  | d :: rest, c, hc, h => by
    obtain ⟨hr, ho⟩ := (ok_draw hc _).1 h
    rw [stateOf_draw hc, startPos_draw G hc]
    rcases cmd_trichotomy d with ⟨q, rfl⟩ | ⟨q, rfl⟩ | hd
    · rfl
    · cases ho
    · rw [stateOf_draw_ok hd hr]

theorem ok_close (p : Pt α) (cs : RPath α) :
    Ok near b (.close p :: cs) ↔ Ok near b cs ∧ isOpen cs = true ∧ (b = true → headIsMove cs = false) ∧
      (p = startPos G cs ∨ near p (startPos G cs) = true) := by
  rw [ok_cons]
  refine and_congr_right fun hok => ?_
  cases cs with
  | nil => simp [stateOf, step, isOpen]
  | cons c rest =>
    rcases cmd_trichotomy c with ⟨q, rfl⟩ | ⟨q, rfl⟩ | hc
    · cases b <;> simp [stateOf, step, headIsMove, isOpen, startPos]
    · simp [stateOf, step, isOpen]
    · have hm : headIsMove (c :: rest) = false := by cases c <;> first | rfl | cases hc
      rw [stateOf_draw_ok G hc hok, isOpen_draw hc, hm]
      simp [step]

theorem ok_nil : Ok near b ([] : RPath α) := ⟨_, rfl⟩

theorem wf_iff_ok {cs : RPath α} : WF near cs ↔ Ok near false cs := Option.isSome_iff_exists

theorem strict_iff_ok {cs : RPath α} : Strict near cs ↔ Ok near true cs := Option.isSome_iff_exists

theorem Ok.tail {c : Cmd α} {cs : RPath α} (h : Ok near b (c :: cs)) : Ok near b cs :=
  ((ok_cons c cs).1 h).1

variable (near) (b) in
structure OpenAt (s : Pt α) (cs : RPath α) : Prop where
  ok : Ok near b cs
  isOpen_eq : isOpen cs = true
  startPos_eq : startPos G cs = s

section
variable {G}

theorem OpenAt.draw {s : Pt α} {cs : RPath α} (h : OpenAt G near b s cs) {c : Cmd α} (hc : c.isDraw = true) :
    OpenAt G near b s (c :: cs) :=
  ⟨(ok_draw hc cs).2 ⟨h.ok, h.isOpen_eq⟩, isOpen_draw hc cs, (startPos_draw G hc cs).trans h.startPos_eq⟩

theorem OpenAt.close {s : Pt α} {cs : RPath α} (h : OpenAt G near b s cs) (hm : b = true → headIsMove cs = false) :
    Ok near b (.close s :: cs) :=
  (ok_close G s cs).2 ⟨h.ok, h.isOpen_eq, hm, Or.inl h.startPos_eq.symm⟩

/-- records without a MoveTo that leave a subpath open are drawing records: they replay on any open path -/
theorem OpenAt.replay {s : Pt α} {base base' : RPath α} (h' : OpenAt G near b s base') : ∀ (l : RPath α),
    (∀ c ∈ l, c.isMove = false) → Ok near b (l ++ base) → isOpen (l ++ base) = true → OpenAt G near b s (l ++ base')
  | [], _, _, _ => h'
  | c :: l, hnm, h, ho => by
    have hd : c.isDraw = true := by
      cases c with
      | move _ => cases hnm _ (List.mem_cons_self ..)
      | close _ => cases ho
      | _ => rfl
    obtain ⟨h1, h2⟩ := (ok_draw hd _).1 h
    exact (h'.replay l (fun d hd => hnm d (List.mem_cons_of_mem _ hd)) h1 h2).draw hd

end

variable (near) in
def Fits (c : Cmd α) (rest : RPath α) : Prop :=
  (c.isMove = true ∨ isOpen rest = true) ∧ ∀ p, c = .close p → p = startPos G rest ∨ near p (startPos G rest) = true

theorem ok_cons_weak (c : Cmd α) (cs : RPath α) : Ok near false (c :: cs) ↔ Ok near false cs ∧ Fits G near c cs := by
  rcases cmd_trichotomy c with ⟨p, rfl⟩ | ⟨p, rfl⟩ | hc
  · rw [ok_move]
    exact and_congr_right' ⟨fun _ => ⟨Or.inl rfl, nofun⟩, fun _ => nofun⟩
  · rw [ok_close G]
    exact and_congr_right' ⟨fun ⟨ho, _, hx⟩ => ⟨Or.inr ho, fun p' hp' => by cases hp'; exact hx⟩,
      fun ⟨ho, hx⟩ => ⟨ho.resolve_left Bool.false_ne_true, nofun, hx p rfl⟩⟩
  · rw [ok_draw hc]
    exact and_congr_right' ⟨fun ho => ⟨Or.inr ho, fun p' hp' => by subst hp'; cases hc⟩,
      fun ⟨ho, _⟩ => ho.resolve_left (by cases c <;> first | exact Bool.false_ne_true | cases hc)⟩

theorem ok_iff_fits (cs : RPath α) : Ok near false cs ↔ ∀ c rest, (c :: rest) <:+ cs → Fits G near c rest := by
  induction cs with
  | nil => exact ⟨fun _ c rest h => by simp at h, fun _ => ok_nil⟩
  | cons c cs ih =>
    rw [ok_cons_weak G, ih, and_comm]
    -- a suffix of `c :: cs` is the whole list or a suffix of `cs`
    simp only [List.suffix_cons_iff, or_imp, forall_and, List.cons.injEq, and_imp, forall_eq_apply_imp_iff, forall_eq]

theorem framed_iff_fits (cs : RPath α) : Framed G near cs ↔ ∀ c rest, (c :: rest) <:+ cs → Fits G near c rest := by
  constructor
  · rintro ⟨h1, h2, h3⟩ c rest hs
    refine ⟨?_, fun p hp => h3 p rest (hp ▸ hs)⟩
    cases rest with
    | nil =>
      obtain ⟨t, rfl⟩ := hs
      exact Or.inl (h1 c List.getLast?_concat)
    | cons a rest =>
      cases ha : a.isClose with
      | true => exact Or.inl (h2 a c rest hs ha)
      | false => exact Or.inr (by cases a <;> first | rfl | cases ha)
  · intro h
    refine ⟨fun c hc => ?_, fun a b rest hs ha => ?_, fun c rest hs => (h _ rest hs).2 c rfl⟩
    · obtain ⟨t, rfl⟩ := List.getLast?_eq_some_iff.1 hc
      exact (h c [] ⟨t, rfl⟩).1.resolve_right Bool.false_ne_true
    · exact (h b _ hs).1.resolve_right (by cases a <;> first | exact Bool.false_ne_true | cases ha)

/-! What a path contributes to the records copied behind it is its automaton state alone. -/

theorem endState_append_congr {base base' : RPath α} (h : endState near b base = endState near b base') :
    ∀ l : RPath α, endState near b (l ++ base) = endState near b (l ++ base')
  | [] => h
  | c :: l => by rw [List.cons_append, List.cons_append, endState_cons, endState_cons, endState_append_congr h l]

theorem ok_of_append {base : RPath α} : ∀ l : RPath α, Ok near b (l ++ base) → Ok near b base
  | [], h => h
  | _ :: l, h => ok_of_append l h.tail

theorem ok_append_congr {base base' l : RPath α} (hl : Ok near b (l ++ base)) (h' : Ok near b base')
    (hs : stateOf base = stateOf base') : Ok near b (l ++ base') := by
  unfold Ok
  rwa [← endState_append_congr (by rw [(ok_of_append l hl).endState_eq, h'.endState_eq, hs])]

theorem ok_singleton {c : Cmd α} (h : Ok near b [c]) : ∃ a, c = .move a := by
  obtain ⟨st, h⟩ := h
  cases c <;> first | exact ⟨_, rfl⟩ | cases h

/-- The MoveTo a copied array starts with forgets the state of the receiver; in strict mode the
receiver must not end in a MoveTo. -/
theorem ok_list_append {p q : RPath α} (hp : Ok near b p) (hq : Ok near b q) (hm : b = true → headIsMove p = false) :
    Ok near b (q ++ p) := by
  rcases List.eq_nil_or_concat q with rfl | ⟨l, c, rfl⟩
  · exact hp
  · rw [List.concat_eq_append] at hq ⊢
    obtain ⟨a, rfl⟩ := ok_singleton (ok_of_append l hq)
    rw [List.append_assoc]
    exact ok_append_congr hq ((ok_move a p).2 ⟨hp, hm⟩) rfl

theorem prep_ok {cs : RPath α} (h : Ok near b cs) : Ok near b (prep G cs) ∧ isOpen (prep G cs) = true := by
  cases cs with
  | nil => exact ⟨(ok_move _ _).2 ⟨h, fun _ => rfl⟩, rfl⟩
  | cons c rest =>
    cases c with
    | close p => exact ⟨(ok_move _ _).2 ⟨h, fun _ => rfl⟩, rfl⟩
    | _ => exact ⟨h, rfl⟩

theorem pos_prep (cs : RPath α) : pos G (prep G cs) = pos G cs := by
  cases cs with
  | nil => rfl
  | cons c rest => cases c <;> rfl

theorem prep_noZero {cs : RPath α} (h : noZero G cs = true) : noZero G (prep G cs) = true := by
  cases cs with
  | nil => rfl
  | cons c rest => cases c <;> exact h

theorem moveTo_eq (p : Pt α) (cs : RPath α) : moveTo p cs = .move p :: dropTrailingMove cs := by
  cases cs with
  | nil => rfl
  | cons c rest => cases c <;> rfl

theorem dropTrailingMove_ok {cs : RPath α} (h : Ok near b cs) :
    Ok near b (dropTrailingMove cs) ∧ (b = true → headIsMove (dropTrailingMove cs) = false) := by
  cases cs with
  | nil => exact ⟨h, fun _ => rfl⟩
  | cons c rest =>
    cases c with
    | move q => exact (ok_move q rest).1 h
    | _ => exact ⟨h, fun _ => rfl⟩

theorem moveTo_ok {cs : RPath α} (h : Ok near b cs) (p : Pt α) : Ok near b (moveTo p cs) := by
  rw [moveTo_eq]
  exact (ok_move p _).2 (dropTrailingMove_ok h)

/-- LineTo, QuadTo, CubeTo, ArcTo (path.go): drop a zero-length segment, or push a record: on the
prepared path, or (LineTo) in place of the line it continues -/
def DrawOutcome (cs : RPath α) (p : Pt α) (r : RPath α) : Prop :=
  (r = cs ∧ G.ptEq (pos G cs) p = true) ∨
    ∃ c base, r = c :: base ∧ c.isDraw = true ∧ c.endp = p ∧ nonzero G (pos G cs) c = true ∧
      (base = prep G cs ∨ ∃ s, cs = .line s :: base ∧ c = .line p ∧
        (G.parallel (G.sub s (pos G base)) (G.sub p s) && G.sameDir (G.sub s (pos G base)) (G.sub p s)) = true)

theorem lineTo_outcome (p : Pt α) (cs : RPath α) : DrawOutcome G cs p (lineTo G p cs) := by
  unfold lineTo
  split
  · rename_i h; exact Or.inl ⟨rfl, h⟩
  · rename_i hne
    rw [Bool.not_eq_true] at hne
    have hn : nonzero G (pos G cs) (.line p) = true := by rw [nonzero, hne]; rfl
    split
    · rename_i s rest
      dsimp only
      split
      · rename_i hm; exact Or.inr ⟨_, _, rfl, rfl, rfl, hn, Or.inr ⟨s, rfl, rfl, hm⟩⟩
      · exact Or.inr ⟨_, _, rfl, rfl, rfl, hn, Or.inl rfl⟩
    · exact Or.inr ⟨_, _, rfl, rfl, rfl, hn, Or.inl rfl⟩

theorem drawOutcome_ite {cs : RPath α} {p : Pt α} {c : Cmd α} {A B : Bool}
    (hA : A = true → G.ptEq (pos G cs) p = true) (hc : c.isDraw = true) (he : c.endp = p)
    (hn : A = false → nonzero G (pos G cs) c = true) :
    DrawOutcome G cs p (if A = true then cs else if B = true then lineTo G p cs else c :: prep G cs) := by
  split
  · rename_i h; exact Or.inl ⟨rfl, hA h⟩
  · rename_i h
    split
    · exact lineTo_outcome G p cs
    · exact Or.inr ⟨c, _, rfl, hc, he, hn (Bool.not_eq_true _ ▸ h), Or.inl rfl⟩

theorem quadTo_outcome (cp p : Pt α) (cs : RPath α) : DrawOutcome G cs p (quadTo G cp p cs) :=
  drawOutcome_ite G (fun h => (Bool.and_eq_true_iff.1 h).1) rfl rfl fun h => by rw [nonzero, h]; rfl

theorem cubeTo_outcome (c1 c2 p : Pt α) (cs : RPath α) : DrawOutcome G cs p (cubeTo G c1 c2 p cs) :=
  drawOutcome_ite G (fun h => (Bool.and_eq_true_iff.1 (Bool.and_eq_true_iff.1 h).1).1) rfl rfl
    fun h => by rw [nonzero, h]; rfl

theorem arcTo_outcome (rx ry rot : α) (l sw : Bool) (p : Pt α) (cs : RPath α) :
    DrawOutcome G cs p (arcTo G rx ry rot l sw p cs) :=
  drawOutcome_ite G id rfl rfl fun h => by rw [nonzero, h]; rfl

section
variable {G}

theorem DrawOutcome.ok {cs r : RPath α} {p : Pt α} (ho : DrawOutcome G cs p r) (h : Ok near b cs) : Ok near b r := by
  rcases ho with ⟨rfl, _⟩ | ⟨c, base, rfl, hc, _, _, hb⟩
  · exact h
  · refine (ok_draw hc _).2 ?_
    rcases hb with rfl | ⟨s, rfl, _⟩
    · exact prep_ok G h
    · exact (ok_draw (c := .line s) rfl base).1 h

theorem DrawOutcome.isOpen {cs r : RPath α} {p : Pt α} (ho : DrawOutcome G cs p r) (h : isOpen cs = true) :
    isOpen r = true := by
  rcases ho with ⟨rfl, _⟩ | ⟨c, base, rfl, hc, _⟩
  · exact h
  · exact isOpen_draw hc _

theorem DrawOutcome.pos {cs r : RPath α} {p : Pt α} (ho : DrawOutcome G cs p r) :
    pos G r = p ∨ (r = cs ∧ G.ptEq (pos G cs) p = true) := by
  rcases ho with h | ⟨c, base, rfl, _, he, _⟩
  · exact Or.inr h
  · exact Or.inl he

theorem DrawOutcome.noZero {cs r : RPath α} {p : Pt α} (ho : DrawOutcome G cs p r) (hM : MergeSound G)
    (hz : noZero G cs = true) : noZero G r = true := by
  rcases ho with ⟨rfl, _⟩ | ⟨c, base, rfl, _, _, hc, rfl | ⟨s, rfl, rfl, hm⟩⟩
  · exact hz
  · rw [Path.noZero, pos_prep, hc, prep_noZero G hz]; rfl
  · -- where LineTo merges with the previous line this is `MergeSound`
    rw [Bool.and_eq_true] at hm
    simp only [Path.noZero, nonzero, Bool.and_eq_true, Bool.not_eq_true'] at hz hc ⊢
    exact ⟨hM _ s p hz.1 hc hm.1 hm.2, hz.2⟩

end

/-- `Path.Arc` is up to three `ArcTo` calls -/
theorem arcBy_induction {P : RPath α → Prop} {rx ry rot : α}
    (h : ∀ l sw p cs, P cs → P (arcTo G rx ry rot l sw p cs)) (t0 t1 : α) {cs : RPath α} (h0 : P cs) :
    P (arcBy G rx ry rot t0 t1 cs) := by
  unfold arcBy
  simp only
  split
  · split
    · exact h _ _ _ _ (h _ _ _ _ h0)
    · exact h _ _ _ _ (h _ _ _ _ (h _ _ _ _ h0))
  · exact h _ _ _ _ h0

/-- Strict mode: with a sane oracle and no zero-length records a line directly after the MoveTo is
neither `Equal` to the start nor aligned with the way back, so its Close does not land on the MoveTo. -/
theorem close_ok {cs : RPath α} (hb : b = true → Sane G ∧ noZero G cs = true) (h : Ok G.ptEq b cs) :
    Ok G.ptEq b (close G cs) := by
  cases cs with
  | nil => exact h
  | cons c rest =>
    cases c with
    | close p => exact h
    | move p =>
      simp only [close]
      split
      · exact h.tail
      · exact h
    | line s =>
      obtain ⟨hr, ho⟩ := (ok_draw (c := .line s) rfl rest).1 h
      have hm : G.ptEq s (startPos G rest) = true ∨
          G.angleIs0 (G.sub (startPos G rest) s) (G.sub s (pos G rest)) = true →
          b = true → headIsMove rest = false := by
        intro htest hb'
        obtain ⟨hS, hz⟩ := hb hb'
        cases rest with
        | nil => rfl
        | cons d rest' =>
          cases d with
          | move m =>
            have h1 : G.ptEq s m = false := by
              simp only [noZero, nonzero, pos, Cmd.endp, Bool.and_eq_true, Bool.not_eq_true'] at hz
              rw [hS.ptEq_symm]; exact hz.1
            rcases htest with h2 | h2
            · exact absurd (h1.symm.trans h2) Bool.false_ne_true
            · exact absurd ((hS.rev_not_aligned s m h1).symm.trans h2) Bool.false_ne_true
          | _ => rfl
      simp only [close]
      split
      · rename_i hpt
        exact (ok_close G _ _).2 ⟨hr, ho, hm (Or.inl hpt), Or.inr hpt⟩
      · split
        · rename_i hang
          exact (ok_close G _ _).2 ⟨hr, ho, hm (Or.inr hang), Or.inl rfl⟩
        · exact (ok_close G _ _).2 ⟨h, rfl, fun _ => rfl, Or.inl rfl⟩
    | quad _ _ | cube _ _ _ | arc _ _ _ _ _ _ =>
      exact (ok_close G _ _).2 ⟨h, rfl, fun _ => rfl, Or.inl rfl⟩

theorem applyCmd_outcome {c : Cmd α} (hc : c.isDraw = true) (cs : RPath α) :
    DrawOutcome G cs c.endp (applyCmd G c cs) := by
  cases c with
  | line p => exact lineTo_outcome G p cs
  | quad cp p => exact quadTo_outcome G cp p cs
  | cube c1 c2 p => exact cubeTo_outcome G c1 c2 p cs
  | arc rx ry phi l s p => exact arcTo_outcome G _ _ _ l s p cs
  | _ => cases hc

theorem applyCmd_ok_weak {cs : RPath α} (h : Ok G.ptEq false cs) (c : Cmd α) :
    Ok G.ptEq false (applyCmd G c cs) := by
  rcases cmd_trichotomy c with ⟨p, rfl⟩ | ⟨p, rfl⟩ | hc
  · exact moveTo_ok h p
  · exact close_ok G nofun h
  · exact (applyCmd_outcome G hc cs).ok h

theorem applyCmd_isOpen {cs rest : RPath α} {c : Cmd α} (hc : isOpen (c :: rest) = true) (h : isOpen cs = true) :
    isOpen (applyCmd G c cs) = true := by
  rcases cmd_trichotomy c with ⟨p, rfl⟩ | ⟨p, rfl⟩ | hd
  · simp only [applyCmd, moveTo_eq]; rfl
  · cases hc
  · exact (applyCmd_outcome G hd cs).isOpen h

theorem repairClose_draw {c : Cmd α} (hc : c.isDraw = true) (e : Pt α) (t : List (Cmd α)) :
    repairClose e (c :: t) = c :: repairClose e t := by
  cases c <;> first | rfl | cases hc

/-- Join's copy loop, `t` in array order: a drawing record keeps both sides open with the same start,
a Close closes both, a MoveTo forgets what lies before it. -/
theorem repairClose_ok : ∀ (t : List (Cmd α)) {base base' : RPath α}, Ok near false (t.reverse ++ base) →
    Ok near false base' → (isOpen base = true → isOpen base' = true) →
    Ok near false ((repairClose (startPos G base') t).reverse ++ base')
  | [], _, _, _, h', _ => h'
  | c :: t, base, base', h, h', ho => by
    simp only [List.reverse_cons, List.append_assoc, List.singleton_append] at h
    have hc : Ok near false (c :: base) := ok_of_append _ h
    rcases cmd_trichotomy c with ⟨a, rfl⟩ | ⟨x, rfl⟩ | hd
    · have hm : Ok near false (.move a :: base') := (ok_move a _).2 ⟨h', nofun⟩
      simp only [repairClose, List.reverse_cons, List.append_assoc, List.singleton_append]
      exact ok_append_congr h hm rfl
    · have hz : Ok near false (.close (startPos G base') :: base') :=
        (ok_close G _ _).2
          ⟨h', ho ((ok_close G x base).1 hc).2.1, nofun, Or.inl rfl⟩
      simp only [repairClose, List.reverse_cons, List.append_assoc, List.singleton_append]
      exact ok_append_congr h hz rfl
    · rw [repairClose_draw hd, List.reverse_cons, List.append_assoc, List.singleton_append,
        ← startPos_draw G hd base']
      exact repairClose_ok t h ((ok_draw hd base').2 ⟨h', ho ((ok_draw hd base).1 hc).2⟩)
        fun _ => isOpen_draw hd _

theorem join_ok_weak {p q : RPath α} (hp : Ok G.ptEq false p) (hq : Ok G.ptEq false q) :
    Ok G.ptEq false (join G p q) := by
  have happ : Ok G.ptEq false (q ++ p) := ok_list_append hp hq nofun
  unfold join
  split
  · exact hp
  split
  · exact hq
  rename_i hpe
  split
  · rename_i m c1 restf hrev
    split
    · exact happ
    · rename_i hcond
      simp only [Bool.or_eq_true, not_or, Bool.not_eq_true] at hcond
      have hqeq : q = restf.reverse ++ [c1, m] := by simpa using congrArg List.reverse hrev
      rw [hqeq] at hq
      have hopen : isOpen p = true := by
        cases p with
        | nil => exact absurd rfl hpe
        | cons a _ => cases a <;> first | rfl | cases hcond.1
      exact repairClose_ok G restf hq (applyCmd_ok_weak G hp c1) fun h1 => applyCmd_isOpen G h1 hopen
  · exact happ

theorem lastSubpath_spec : ∀ {body : RPath α} {acc l : List (Cmd α)} {older : RPath α}, lastSubpath body acc = (l, older) →
    l.reverse ++ older = acc.reverse ++ body ∧ ((∀ c ∈ acc, c.isMove = false) → ∀ c ∈ l.tail, c.isMove = false)
  | [], acc, _, _, h => by
    cases h
    exact ⟨rfl, fun h c hc => h c (List.mem_of_mem_tail hc)⟩
  | c :: rest, acc, _, _, h => by
    cases hm : c.isMove with
    | true =>
      obtain ⟨p, rfl⟩ := eq_move_of_isMove hm
      cases h
      exact ⟨by simp, fun h => h⟩
    | false =>
      have hstep : lastSubpath (c :: rest) acc = lastSubpath rest (c :: acc) := by
        cases c <;> first | rfl | cases hm
      obtain ⟨h1, h2⟩ := lastSubpath_spec (hstep ▸ h)
      refine ⟨by rw [h1]; simp, fun h => h2 fun d hd => ?_⟩
      rcases List.mem_cons.1 hd with rfl | hd
      · exact hm
      · exact h d hd

theorem headIsMove_append {l : RPath α} (h : l ≠ []) (x : RPath α) : headIsMove (l ++ x) = headIsMove l := by
  cases l with
  | nil => exact absurd rfl h
  | cons c l => cases c <;> rfl

theorem optimizeClose_ok {cs : RPath α} (h : Ok near b cs) : Ok near b (optimizeClose G cs) := by
  unfold optimizeClose
  split
  · rename_i c body
    split
    · rename_i e n mid older hls
      split
      · exact h
      · rename_i m0 mid'
        split
        · -- the rewrite happens: `body` is `mid` on top of `L n, M e`, and `mid` is replayed on `M n`
          generalize hmid : m0 :: mid' = mid at hls
          have hne : mid.reverse ≠ [] := by rw [← hmid]; simp
          obtain ⟨hb, hnm⟩ := lastSubpath_spec hls
          have hbody : body = mid.reverse ++ (.line n :: .move e :: older) := by simpa using hb.symm
          obtain ⟨h0, ho, hs, _⟩ := (ok_close G c body).1 h
          rw [hbody] at h0 ho hs
          have hme : Ok near b (.move e :: older) := (ok_of_append _ h0).tail
          have hn : OpenAt G near b n (.move n :: older) :=
            ⟨(ok_move n older).2 ((ok_move e older).1 hme), rfl, rfl⟩
          refine (hn.replay mid.reverse
            (fun d hd => hnm nofun d (List.mem_cons_of_mem _ (List.mem_reverse.1 hd))) h0 ho).close ?_
          rw [headIsMove_append hne] at hs ⊢
          exact hs
        · exact h
    · exact h
  · exact h

theorem moveTo_noZero {cs : RPath α} (h : noZero G cs = true) (p : Pt α) : noZero G (moveTo p cs) = true := by
  cases cs with
  | nil => rfl
  | cons c rest => cases c <;> exact h

theorem close_noZero {cs : RPath α} (h : noZero G cs = true) : noZero G (close G cs) = true := by
  unfold close
  split
  · rfl
  · exact h
  · split
    · exact (Bool.and_eq_true_iff.1 h).2
    · exact h
  · rename_i s rest
    have h2 : noZero G rest = true := (Bool.and_eq_true_iff.1 h).2
    dsimp only
    split
    · exact h2
    · split
      · exact h2
      · exact h
  · exact h

theorem applyOp_ok (o : Op α) {cs : RPath α} (hb : b = true → Sane G ∧ noZero G cs = true)
    (h : Ok G.ptEq b cs) : Ok G.ptEq b (applyOp G cs o) := by
  cases o with
  | moveTo p => exact moveTo_ok h p
  | lineTo p => exact (lineTo_outcome G p cs).ok h
  | quadTo cp p => exact (quadTo_outcome G cp p cs).ok h
  | cubeTo c1 c2 p => exact (cubeTo_outcome G c1 c2 p cs).ok h
  | arcTo rx ry rot l s p => exact (arcTo_outcome G rx ry rot l s p cs).ok h
  | arc rx ry rot t0 t1 =>
    exact arcBy_induction G (fun l s p cs h => (arcTo_outcome G rx ry rot l s p cs).ok h) t0 t1 h
  | close => exact close_ok G hb h
  | optimizeClose => exact optimizeClose_ok G h

theorem applyOp_noZero (hM : MergeSound G) (o : Op α) (hp : o.isPublic = true) {cs : RPath α}
    (hz : noZero G cs = true) : noZero G (applyOp G cs o) = true := by
  cases o with
  | moveTo p => exact moveTo_noZero G hz p
  | lineTo p => exact (lineTo_outcome G p cs).noZero hM hz
  | quadTo cp p => exact (quadTo_outcome G cp p cs).noZero hM hz
  | cubeTo c1 c2 p => exact (cubeTo_outcome G c1 c2 p cs).noZero hM hz
  | arcTo rx ry rot l s p => exact (arcTo_outcome G rx ry rot l s p cs).noZero hM hz
  | arc rx ry rot t0 t1 =>
    exact arcBy_induction G (fun l s p cs hz => (arcTo_outcome G rx ry rot l s p cs).noZero hM hz) t0 t1 hz
  | close => exact close_noZero G hz
  | optimizeClose => cases hp

theorem append_ok {p q : RPath α} (hp : Ok near b p) (hq : Ok near b q) : Ok near b (append p q) := by
  unfold append
  have hp0 : Ok near b (if isEmpty p = true then [] else p) := by
    split
    · exact ok_nil
    · exact hp
  simp only
  split
  · exact hp0
  · obtain ⟨h1, h2⟩ := dropTrailingMove_ok hp0
    exact ok_list_append h1 hq h2

end Canvas.Path
