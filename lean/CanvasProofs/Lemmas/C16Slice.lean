import CanvasModel.C16
import CanvasProofs.Lemmas.Basic
namespace Canvas.C16

theorem isz_append (a b : List It) : isz (a ++ b) = isz a + isz b := by
  induction a with
  | nil => simp [isz]
  | cons x r ih => simp [isz, ih]; omega

/-- glyph ranges `(offset, size)` of the box items of `l`, the first item starting at glyph `o` -/
def boxesOf : Nat → List It → List (Nat × Nat)
  | _, [] => []
  | o, it :: r => if it.ty = .box then (o, it.size) :: boxesOf (o + it.size) r else boxesOf (o + it.size) r

theorem boxesOf_append (a b : List It) : ∀ o, boxesOf o (a ++ b) = boxesOf o a ++ boxesOf (o + isz a) b := by
  induction a with
  | nil => intro o; simp [boxesOf, isz]
  | cons x r ih =>
    intro o
    simp only [List.cons_append, boxesOf, isz]
    split <;> simp [ih, Nat.add_assoc]

theorem boxesOf_nobox {l : List It} (h : ∀ it ∈ l, it.ty ≠ .box) (o : Nat) : boxesOf o l = [] := by
  induction l generalizing o with
  | nil => rfl
  | cons x r ih =>
    rw [boxesOf, if_neg (h x List.mem_cons_self)]
    exact ih (fun it hit => h it (List.mem_cons_of_mem _ hit)) _

theorem skipLead_spec (rest : List It) (k : Nat) :
    ∃ L t, rest = L ++ t ∧ skipLead rest k = (L.length, isz L) ∧ L.length ≤ k ∧ ∀ it ∈ L, it.ty ≠ .box := by
  fun_induction skipLead rest k with
  | case1 x r k hx q ih =>
    obtain ⟨L, t, rfl, hq, hk, hL⟩ := ih
    exact ⟨x :: L, t, rfl, by simp only [q, hq, isz, List.length_cons, Nat.add_comm], Nat.succ_le_succ hk,
      List.forall_mem_cons.mpr ⟨hx, hL⟩⟩
  | case2 | case3 => exact ⟨[], _, rfl, rfl, Nat.zero_le _, nofun⟩

theorem eolAcc_le (e : Nat) (l : List It) : eolAcc e l ≤ e + isz l := by
  fun_induction eolAcc e l with
  | case1 => exact Nat.le_refl _
  | case2 e x r _ ih => simp only [isz]; omega
  | case3 e x r _ ih => simp only [isz]; omega

theorem eolAcc_box (e : Nat) (l : List It) : ∀ {base : Nat} {os : Nat × Nat}, os ∈ boxesOf base l →
    base ≤ os.1 ∧ os.1 + os.2 + eolAcc e l ≤ base + isz l := by
  fun_induction eolAcc e l with
  | case1 => simp [boxesOf]
  | case2 e x r hx ih =>
    intro base os h
    rw [boxesOf, if_pos hx] at h
    rcases List.mem_cons.mp h with rfl | h
    · have := eolAcc_le 0 r
      simp only [isz]
      omega
    · have := ih h
      simp only [isz]
      omega
  | case3 e x r hx ih =>
    intro base os h
    rw [boxesOf, if_neg hx] at h
    have := ih h
    simp only [isz]
    omega

/-- what a line `o` started at glyph `ag` is in terms of the items it consumes: non-box items `L` skipped at
the start, the `body` up to the break item `brk`, the glue `G` absorbed behind it. The line stops `eolSkip`
glyphs before the break, or right behind the break glyph when that is a soft hyphen. -/
structure LineParts (shy : Nat → Bool) (ag : Nat) (o : LineOut) (L body : List It) (brk : It) (G : List It) : Prop where
  nobox : ∀ it ∈ L, it.ty ≠ .box
  glue : ∀ it ∈ G, it.ty = .glue
  used : o.used = (L ++ (body ++ brk :: G)).length
  start : o.line.start = ag + isz L
  hpos : o.line.hpos = ag + isz L + isz body
  ag' : o.ag' = ag + isz (L ++ (body ++ brk :: G))
  stop_ge : o.line.hpos ≤ o.line.stop + eolAcc 0 body
  stop_le : o.line.stop ≤ o.line.hpos + brk.size
  shown : o.line.hyph = true → o.line.stop = o.line.hpos + 1 ∧ shy o.line.hpos = true

theorem sliceLine_spec {shy : Nat → Bool} {n : Nat} {rest : List It} {k ag : Nat} {o : LineOut}
    (h : sliceLine shy n rest k ag = some o) :
    ∃ (L body : List It) (brk : It) (G rest' : List It),
      rest = (L ++ (body ++ brk :: G)) ++ rest' ∧ L.length + body.length = k ∧ LineParts shy ag o L body brk G := by
  obtain ⟨L, t, rfl, hsk, hLk, hL⟩ := skipLead_spec rest k
  unfold sliceLine at h
  simp only [hsk, List.drop_left] at h
  split at h
  · cases h
  · rename_i brk after heq
    obtain ⟨hb, hbl⟩ := drop_eq_cons heq
    generalize t.take (k - L.length) = body at h hb hbl
    have hG : ∀ it ∈ after.takeWhile (fun it => it.ty = .glue), it.ty = .glue :=
      fun it hit => by simpa using List.all_eq_true.mp List.all_takeWhile it hit
    have hafter := (List.takeWhile_append_dropWhile (p := fun it : It => it.ty = .glue) (l := after)).symm
    generalize after.takeWhile (fun it => it.ty = .glue) = G at h hG hafter
    generalize after.dropWhile (fun it => it.ty = .glue) = rest' at hafter
    split at h
    · cases h
    · obtain rfl := Option.some.inj h
      have hle := eolAcc_le 0 body
      -- `?stop`: the three facts about `stop` are proved together, by one case split on whether the break is hyphenated
      refine ⟨L, body, brk, G, rest', ?_, by omega,
        { nobox := hL, glue := hG, used := ?_, start := rfl, hpos := rfl, ag' := ?_,
          stop_ge := (?stop : _ ∧ _ ∧ _).1, stop_le := ?stop.2.1, shown := ?stop.2.2 }⟩
      · rw [hb, hafter, List.append_assoc, List.append_assoc, List.cons_append]
      · simp only [List.length_append, List.length_cons]; omega
      · simp only [isz_append, isz]; omega
      · by_cases hy : brk.ty = .pen ∧ brk.size = 1 ∧ shy (ag + isz L + isz body) = true
        · simp only [hy, and_self, decide_true, if_true, forall_const, and_true, Nat.zero_add, Nat.add_sub_cancel]
          omega
        · simp only [hy, decide_false, Bool.false_eq_true, if_false, false_implies, and_true, Nat.add_sub_add_right]
          omega

/-- lines are ordered and disjoint: each starts at or after the previous stop -/
def chain : Nat → List Line → Prop
  | _, [] => True
  | a, l :: r => a ≤ l.start ∧ l.start ≤ l.stop ∧ chain l.stop r

theorem chain_mono {a b : Nat} (h : b ≤ a) : ∀ {ls : List Line}, chain a ls → chain b ls
  | [], _ => trivial
  | _ :: _, ⟨h1, h2⟩ => ⟨Nat.le_trans h h1, h2⟩

theorem sliceLine_bounds {shy : Nat → Bool} {n : Nat} {rest : List It} {k ag : Nat} {o : LineOut}
    (h : sliceLine shy n rest k ag = some o) :
    ag ≤ o.line.start ∧ o.line.start ≤ o.line.stop ∧ o.line.stop ≤ o.ag' ∧
    k + 1 ≤ o.used ∧ o.used ≤ rest.length ∧ o.ag' = ag + isz (rest.take o.used) := by
  obtain ⟨L, body, brk, G, rest', rfl, hk, parts⟩ := sliceLine_spec h
  have hle := eolAcc_le 0 body
  have hu := parts.used
  have hag := parts.ag'
  have hst := parts.start
  have hhp := parts.hpos
  have hlo := parts.stop_ge
  have hhi := parts.stop_le
  rw [hu, List.take_left' rfl, ← hag]
  simp only [isz_append, isz] at hag
  simp only [List.length_append, List.length_cons] at hu ⊢
  simp only [and_true]
  omega

theorem slice_ordered {shy : Nat → Bool} {n : Nat} {ps : List Nat} {ai : Nat} {rest : List It} {ag : Nat} {r : SliceOut} :
    slice shy n ai rest ag ps = some r →
    chain ag r.lines ∧ (∀ l ∈ r.lines, l.stop ≤ r.ag) ∧ r.lines.length = ps.length ∧
    r.used ≤ rest.length ∧ r.ag = ag + isz (rest.take r.used) := by
  fun_induction slice shy n ai rest ag ps generalizing r with
  | case1 =>
    rintro ⟨rfl⟩
    simp [chain, isz]
  | case5 ai rest ag p ps _ o ho r' hr' ih =>
    rintro ⟨rfl⟩
    obtain ⟨b1, b2, b3, b4, b5, b6⟩ := sliceLine_bounds ho
    obtain ⟨i1, i2, i3, i4, i5⟩ := ih hr'
    rw [List.length_drop] at i4
    refine ⟨⟨b1, b2, chain_mono b3 i1⟩, ?_, congrArg (· + 1) i3, by simp only []; omega, ?_⟩
    · intro l hl
      rcases List.mem_cons.mp hl with rfl | hl
      · rw [i5]; omega
      · exact i2 l hl
    · simp only [List.take_add, isz_append]
      rw [i5, b6]; omega
  -- a break before `ai`, a line or the rest that panics: `none`
  | _ => nofun

/-- `rest = items[ai:]` as in the loop: the break positions index the whole item list, so their legality
passes unchanged from line to line -/
theorem slice_covers {shy : Nat → Bool} {n : Nat} {items : List It} {ps : List Nat} {ai : Nat} {rest : List It} {ag : Nat}
    {r : SliceOut} : slice shy n ai rest ag ps = some r → rest = items.drop ai →
    (∀ p ∈ ps, ∀ it, items[p]? = some it → it.ty ≠ .box) →
    ∀ os ∈ boxesOf ag (rest.take r.used), ∃ l ∈ r.lines, l.start ≤ os.1 ∧ os.1 + os.2 ≤ l.stop := by
  fun_induction slice shy n ai rest ag ps generalizing r with
  | case1 =>
    rintro ⟨rfl⟩ _ _
    simp [boxesOf]
  | case5 ai rest ag p ps hp o ho r' hr' ih =>
    rintro ⟨rfl⟩ hrest hlegal
    obtain ⟨L, body, brk, G, rest', rfl, hk, parts⟩ := sliceLine_spec ho
    have hbrk : brk.ty ≠ .box := by
      apply hlegal p List.mem_cons_self brk
      rw [← Nat.add_sub_cancel' (Nat.le_of_not_lt hp), ← List.getElem?_drop, ← hrest, ← hk, List.append_assoc,
        List.append_assoc, List.getElem?_append_right (Nat.le_add_right _ _), Nat.add_sub_cancel_left,
        List.getElem?_append_right (Nat.le_refl _), Nat.sub_self]
      rfl
    intro os hos
    simp only [List.take_add, boxesOf_append, List.take_left' parts.used.symm, List.mem_append, ← parts.ag'] at hos
    rcases hos with (hos | hos | hos) | hos
    · rw [boxesOf_nobox parts.nobox] at hos
      cases hos
    · -- a box of this line's body stays clear of the glyphs dropped at the end of the line
      have := eolAcc_box 0 body hos
      have hst := parts.start
      have hhp := parts.hpos
      have hlo := parts.stop_ge
      exact ⟨o.line, List.mem_cons_self, by omega⟩
    · rw [boxesOf_nobox (List.forall_mem_cons.mpr ⟨hbrk, fun it hit => by rw [parts.glue it hit]; decide⟩)] at hos
      cases hos
    · obtain ⟨l, hl, hl2⟩ := ih hr' (by rw [hrest, List.drop_drop]) (fun q hq => hlegal q (List.mem_cons_of_mem _ hq))
        os hos
      exact ⟨l, List.mem_cons_of_mem _ hl, hl2⟩
  | _ => nofun

end Canvas.C16
