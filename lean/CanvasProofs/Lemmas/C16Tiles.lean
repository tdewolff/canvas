import CanvasProofs.Lemmas.C16Reorder
namespace Canvas.C16

/-- spans laid out left to right without gap or overlap starting at `x` -/
def Contig : Int → List (Span Int) → Prop
  | _, [] => True
  | x, s :: r => s.x = x ∧ Contig (x + s.w) r

def sumw (l : List (Span Int)) : Int := (l.map (·.w)).sum

/-- some rearrangement of the spans is contiguous from `x0`: they tile `[x0, x0 + Σ w)` -/
def Tiles (x0 : Int) (l : List (Span Int)) : Prop := ∃ p, p.Perm l ∧ Contig x0 p

theorem sumw_cons (s : Span Int) (r : List (Span Int)) : sumw (s :: r) = s.w + sumw r := rfl

theorem sumw_perm {a b : List (Span Int)} (h : a.Perm b) : sumw a = sumw b := by
  induction h with
  | nil => rfl
  | cons x _ ih => simp [sumw_cons, ih]
  | swap x y l => simp [sumw_cons]; omega
  | trans _ _ ih1 ih2 => omega

theorem contig_append (a b : List (Span Int)) : ∀ x, Contig x (a ++ b) ↔ (Contig x a ∧ Contig (x + sumw a) b) := by
  induction a with
  | nil => intro x; simp [Contig, sumw]
  | cons s r ih =>
    intro x
    simp only [List.cons_append, Contig, sumw_cons, ih]
    rw [show x + s.w + sumw r = x + (s.w + sumw r) by omega]
    exact and_assoc.symm

theorem tiles_append {x0 : Int} {a b : List (Span Int)} (ha : Tiles x0 a) (hb : Tiles (x0 + sumw a) b) :
    Tiles x0 (a ++ b) := by
  obtain ⟨pa, hpa, hca⟩ := ha
  obtain ⟨pb, hpb, hcb⟩ := hb
  exact ⟨pa ++ pb, hpa.append hpb, (contig_append ..).mpr ⟨hca, by rwa [sumw_perm hpa]⟩⟩

theorem tiles_append_swap {x0 : Int} {a b : List (Span Int)} (hb : Tiles x0 b) (ha : Tiles (x0 + sumw b) a) :
    Tiles x0 (a ++ b) := by
  obtain ⟨p, hp, hc⟩ := tiles_append hb ha
  exact ⟨p, hp.trans List.perm_append_comm, hc⟩

end Canvas.C16
