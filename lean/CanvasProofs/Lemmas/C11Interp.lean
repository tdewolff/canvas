import CanvasModel.C11
/-! The specification interpreters invert the token-level printers, command by command: the tokens
printed for one command are one complete command instance, which the interpreter executes back to
that command's segment, end point and subpath start. -/
namespace C11L
open Canvas.C11

def newStart {α : Type} (st : α × α) : Cmd α → α × α
  | .move x y => (x, y)
  | _ => st

section lists
variable {α : Type}

theorem closesOK_cons [DecidableEq α] {st : α × α} {c : Cmd α} {cs : List (Cmd α)}
    (h : closesOK st (c :: cs) = true) :
    (∀ x y, c = .close x y → (x, y) = st) ∧ closesOK (newStart st c) cs = true := by
  cases c <;> simp_all [closesOK, newStart]

theorem moveAfterClose_cons {c : Cmd α} {cs : List (Cmd α)} (h : moveAfterClose (c :: cs) = true) :
    moveAfterClose cs = true ∧
      ((∃ x y, c = .close x y) → cs = [] ∨ ∃ x y cs', cs = .move x y :: cs') := by
  cases c with
  | close x y =>
    cases cs with
    | nil => exact ⟨rfl, fun _ => Or.inl rfl⟩
    | cons d ds => cases d <;> simp_all [moveAfterClose]
  | _ => simpa [moveAfterClose] using h

theorem noArcs_cons {c : Cmd α} {cs : List (Cmd α)} (h : noArcs (c :: cs) = true) :
    (∀ rx ry rot l sw x y, c ≠ .arc rx ry rot l sw x y) ∧ noArcs cs = true := by
  cases c <;> simp_all [noArcs]
end lists

section svg
variable {α : Type} (add refl : α → α → α)

theorem svgRun_append (s : SvgSt α) (a b : List (Tok α)) :
    svgRun add refl s (a ++ b) = (svgRun add refl s a).bind fun s' => svgRun add refl s' b := by
  induction a generalizing s with
  | nil => simp [svgRun]
  | cons t ts ih =>
    simp only [List.cons_append, svgRun]
    cases svgTok add refl s t with
    | none => simp
    | some s1 => simpa using ih s1

def isArg : Tok α → Bool
  | .cmd _ => false
  | _ => true

theorem svgRun_args (c : Char) (rest : List (Tok α)) :
    ∀ (ts : List (Tok α)) (s : SvgSt α), s.cmd = some c → ts ≠ [] → ts.all isArg = true →
      svgArity c = some (s.args.length + ts.length) →
      svgRun add refl s (ts ++ rest) =
        (svgExec add refl s c (s.args.reverse ++ ts)).bind fun s' => svgRun add refl s' rest := by
  intro ts
  induction ts with
  | nil => intro _ _ h; exact absurd rfl h
  | cons t ts ih =>
    intro s hc _ harg har
    have ht : svgTok add refl s t =
        if (t :: s.args).length = s.args.length + ts.length + 1 then svgExec add refl s c (t :: s.args).reverse
        else some { s with args := t :: s.args } := by
      cases t with
      | cmd _ => simp [isArg] at harg
      | _ => simp only [svgTok, hc, har, List.length_cons, ← Nat.add_assoc]
    simp only [List.all_cons, Bool.and_eq_true] at harg
    rw [List.cons_append, svgRun, ht]
    cases ts with
    | nil => rw [if_pos (by simp), List.reverse_cons]; rfl
    | cons t' ts' =>
      rw [if_neg (by simp), Option.bind_some,
        ih { s with args := t :: s.args } hc (by simp) harg.2 (by simpa [Nat.add_assoc, Nat.add_comm 1] using har),
        List.reverse_cons, List.append_assoc, List.singleton_append]
      rfl

/-- a drawing command right after a closepath first opens a subpath at the current point (SVG 1.1 §8.3.3) -/
def afterLetter (s : SvgSt α) (c : Char) : SvgSt α :=
  { s with cmd := some c, args := [],
           out := if wasClose s = true ∧ c.toUpper ≠ 'M' then .move s.cur.1 s.cur.2 :: s.out else s.out }

theorem svgRun_instance (s : SvgSt α) (c : Char) (ts : List (Tok α)) (hargs : s.args = [])
    (har : svgArity c = some ts.length) (hne : ts ≠ []) (harg : ts.all isArg = true)
    (hfirst : s.out ≠ [] ∨ c.toUpper = 'M') (rest : List (Tok α)) :
    svgRun add refl s (.cmd c :: ts ++ rest) =
      (svgExec add refl (afterLetter s c) c ts).bind fun s' => svgRun add refl s' rest := by
  have htok : svgTok add refl s (.cmd c) = some (afterLetter s c) := by
    obtain ⟨t, ts, rfl⟩ := List.exists_cons_of_ne_nil hne
    have h1 : ¬(s.out = [] ∧ c.toUpper ≠ 'M') := fun h' => hfirst.elim (· h'.1) h'.2
    simp only [svgTok, hargs, ne_eq, not_true_eq_false, if_false, har, List.length_cons, h1, afterLetter]
    split <;> simp [*]
  rw [List.cons_append, svgRun, htok, Option.bind_some]
  exact svgRun_args add refl c rest ts (afterLetter s c) rfl hne harg (by simpa [afterLetter] using har)

theorem afterLetter_eq {s : SvgSt α} {c : Char} (h : c.toUpper = 'M' ∨ wasClose s = false) :
    afterLetter s c = { s with cmd := some c, args := [] } := by
  rcases h with h | h <;> simp [afterLetter, h]

theorem svgRun_repeat (s : SvgSt α) (c : Char) (ts rest : List (Tok α)) (hargs : s.args = [])
    (hc : s.cmd = some c) (har : svgArity c = some ts.length) (hne : ts ≠ []) (harg : ts.all isArg = true)
    (ho : s.out ≠ []) (hw : wasClose s = false) :
    svgRun add refl s (ts ++ rest) = svgRun add refl s (.cmd c :: ts ++ rest) := by
  have hs : afterLetter s c = s := by rw [afterLetter_eq (.inr hw), ← hc, ← hargs]
  rw [svgRun_instance add refl s c ts hargs har hne harg (Or.inl ho) rest, hs]
  have := svgRun_args add refl c rest ts s hc hne harg (by simpa [hargs] using har)
  rwa [hargs] at this

theorem svgRun_plain (s : SvgSt α) (c : Char) (ts : List (Tok α)) {s' : SvgSt α} (hargs : s.args = [])
    (har : svgArity c = some ts.length) (hne : ts ≠ []) (harg : ts.all isArg = true)
    (h : c.toUpper = 'M' ∨ (s.out ≠ [] ∧ wasClose s = false))
    (he : svgExec add refl { s with cmd := some c, args := [] } c ts = some s') :
    svgRun add refl s (.cmd c :: ts) = some s' := by
  have e := svgRun_instance add refl s c ts hargs har hne harg (h.symm.imp_left (·.1)) []
  rw [List.append_nil, afterLetter_eq (h.imp_right (·.2)), he] at e
  exact e

variable (eq : α → α → Bool) (ge90 : α → Bool) (sub90 : α → α)

theorem exec_M (s : SvgSt α) (x y : α) : svgExec add refl s 'M' [.num x, .num y] =
    some { s with cur := (x, y), start := (x, y), ctl := none, qctl := none, cmd := some 'L', args := [], out := .move x y :: s.out } := rfl
theorem exec_L (s : SvgSt α) (x y : α) : svgExec add refl s 'L' [.num x, .num y] =
    some { s with cur := (x, y), ctl := none, qctl := none, cmd := some 'L', args := [], out := .line s.cur.1 s.cur.2 x y :: s.out } := rfl
theorem exec_H (s : SvgSt α) (x : α) : svgExec add refl s 'H' [.num x] =
    some { s with cur := (x, s.cur.2), ctl := none, qctl := none, cmd := some 'H', args := [], out := .line s.cur.1 s.cur.2 x s.cur.2 :: s.out } := rfl
theorem exec_V (s : SvgSt α) (y : α) : svgExec add refl s 'V' [.num y] =
    some { s with cur := (s.cur.1, y), ctl := none, qctl := none, cmd := some 'V', args := [], out := .line s.cur.1 s.cur.2 s.cur.1 y :: s.out } := rfl
theorem exec_Q (s : SvgSt α) (a b x y : α) : svgExec add refl s 'Q' [.num a, .num b, .num x, .num y] =
    some { s with cur := (x, y), ctl := none, qctl := some (a, b), cmd := some 'Q', args := [], out := .quad s.cur.1 s.cur.2 a b x y :: s.out } := rfl
theorem exec_C (s : SvgSt α) (a b c d x y : α) : svgExec add refl s 'C' [.num a, .num b, .num c, .num d, .num x, .num y] =
    some { s with cur := (x, y), ctl := some (c, d), qctl := none, cmd := some 'C', args := [], out := .cube s.cur.1 s.cur.2 a b c d x y :: s.out } := rfl
theorem exec_A (s : SvgSt α) (rx ry rot : α) (l sw : Bool) (x y : α) :
    svgExec add refl s 'A' [.num rx, .num ry, .num rot, .flag l, .flag sw, .num x, .num y] =
    some { s with cur := (x, y), ctl := none, qctl := none, cmd := some 'A', args := [], out := .arc s.cur.1 s.cur.2 rx ry rot l sw x y :: s.out } := rfl
theorem exec_z (s : SvgSt α) : svgExec add refl s 'z' [] =
    some { s with cur := s.start, ctl := none, qctl := none, cmd := some 'z', args := [], out := .close s.cur.1 s.cur.2 s.start.1 s.start.2 :: s.out } := rfl

theorem svg_cmd (heq : ∀ a b, eq a b = true → a = b) (s : SvgSt α) (c : Cmd α) (hargs : s.args = [])
    (hdraw : (∀ x y, c ≠ .move x y) → s.out ≠ [] ∧ wasClose s = false)
    (hclose : ∀ x y, c = .close x y → (x, y) = s.start) :
    ∃ s', svgRun add refl s (svgCmd eq ge90 sub90 s.cur c) = some s' ∧ s'.args = [] ∧ s'.cur = c.endPt ∧
      s'.start = newStart s.start c ∧
      s'.out = (match svgCanon eq ge90 sub90 s.cur c with | none => s.out | some c' => c'.seg s.cur :: s.out) ∧
      ((s'.out ≠ [] ∧ wasClose s' = false) ∨ ∃ x y, c = .close x y) := by
  -- every printed command is one plain instance, which `svgExec` runs as the `exec_` equation of its letter
  -- says: the four `rfl` behind the run read `args`, `cur`, `start`, `out` off the state written there
  cases c with
  | move x y =>
    exact ⟨_, svgRun_plain add refl s _ _ hargs rfl nofun rfl (.inl (by decide)) (exec_M ..), rfl, rfl, rfl, rfl,
      .inl ⟨nofun, rfl⟩⟩
  | line x y =>
    have hd := hdraw nofun
    simp only [svgCmd, svgCanon]
    cases h1 : eq x s.cur.1 with
    | false =>
      cases h2 : eq y s.cur.2 with
      | false =>
        exact ⟨_, svgRun_plain add refl s _ _ hargs rfl nofun rfl (.inr hd) (exec_L ..), rfl, rfl, rfl, rfl,
          .inl ⟨nofun, rfl⟩⟩
      | true =>
        obtain rfl := heq _ _ h2
        exact ⟨_, svgRun_plain add refl s _ _ hargs rfl nofun rfl (.inr hd) (exec_H ..), rfl, rfl, rfl, rfl,
          .inl ⟨nofun, rfl⟩⟩
    | true =>
      obtain rfl := heq _ _ h1
      cases h2 : eq y s.cur.2 with
      | false =>
        exact ⟨_, svgRun_plain add refl s _ _ hargs rfl nofun rfl (.inr hd) (exec_V ..), rfl, rfl, rfl, rfl,
          .inl ⟨nofun, rfl⟩⟩
      | true => -- zero-length line: nothing printed
        obtain rfl := heq _ _ h2
        exact ⟨s, rfl, hargs, rfl, rfl, rfl, .inl hd⟩
  | quad a b x y =>
    exact ⟨_, svgRun_plain add refl s _ _ hargs rfl nofun rfl (.inr (hdraw nofun)) (exec_Q ..), rfl, rfl, rfl, rfl,
      .inl ⟨nofun, rfl⟩⟩
  | cube a b c d x y =>
    exact ⟨_, svgRun_plain add refl s _ _ hargs rfl nofun rfl (.inr (hdraw nofun)) (exec_C ..), rfl, rfl, rfl, rfl,
      .inl ⟨nofun, rfl⟩⟩
  | arc rx ry rot l sw x y =>
    cases hg : ge90 rot <;> simp only [svgCmd, svgCanon, hg, Bool.false_eq_true, ↓reduceIte] <;>
      exact ⟨_, svgRun_plain add refl s _ _ hargs rfl nofun rfl (.inr (hdraw nofun)) (exec_A ..), rfl, rfl, rfl, rfl,
        .inl ⟨nofun, rfl⟩⟩
  | close x y =>
    have h : svgRun add refl s [.cmd 'z'] = svgExec add refl s 'z' [] := by
      simp only [svgRun, svgTok, hargs, ne_eq, not_true_eq_false, if_false, show svgArity 'z' = some 0 from by decide]
      cases svgExec add refl s 'z' [] <;> rfl
    exact ⟨_, h.trans (exec_z ..), rfl, (hclose x y rfl).symm, rfl, by rw [← hclose x y rfl]; rfl, .inr ⟨x, y, rfl⟩⟩

theorem svg_run_all [DecidableEq α] (heq : ∀ a b, eq a b = true → a = b) (cs : List (Cmd α)) :
    ∀ s : SvgSt α, s.args = [] → closesOK s.start cs = true → moveAfterClose cs = true →
      (¬(s.out ≠ [] ∧ wasClose s = false) → cs = [] ∨ ∃ x y cs', cs = .move x y :: cs') →
      (svgRun add refl s (toSVG eq ge90 sub90 s.cur cs)).bind
          (fun s' => if s'.args = [] then some s'.out.reverse else none) =
        some (s.out.reverse ++ svgExpected eq ge90 sub90 s.cur cs) := by
  induction cs with
  | nil => intro s h _ _ _; simp [toSVG, svgRun, h, svgExpected]
  | cons c cs ih =>
    intro s hargs hwf hmac hmove
    obtain ⟨hclose, hwf'⟩ := closesOK_cons hwf
    obtain ⟨hmac', hafter⟩ := moveAfterClose_cons hmac
    have hdraw : (∀ x y, c ≠ .move x y) → s.out ≠ [] ∧ wasClose s = false := fun hc =>
      Decidable.byContradiction fun hno => (hmove hno).elim nofun fun ⟨x, y, _, h⟩ => hc x y (List.cons.inj h).1
    obtain ⟨s1, hrun, ha1, hc1, hs1, ho1, hopen1⟩ := svg_cmd add refl eq ge90 sub90 heq s c hargs hdraw hclose
    rw [toSVG, svgRun_append, hrun, Option.bind_some, ← hc1,
      ih s1 ha1 (hs1 ▸ hwf') hmac' (fun hno => hafter (hopen1.resolve_left hno)), ho1, hc1, svgExpected]
    cases svgCanon eq ge90 sub90 s.cur c <;> simp

theorem svgExpected_plain (sub90 : α → α) (cs : List (Cmd α)) : ∀ cur : α × α,
    svgExpected (fun _ _ => false) (fun _ => false) sub90 cur cs = segsFrom cur cs := by
  induction cs with
  | nil => intro cur; rfl
  | cons c cs ih =>
    intro cur
    cases c <;> simp [svgExpected, svgCanon, segsFrom, ih]

theorem svgExpected_structure (cs : List (Cmd α)) : ∀ cur : α × α,
    segStarts (svgExpected eq ge90 sub90 cur cs) = cmdStarts cs ∧
    segCloses (svgExpected eq ge90 sub90 cur cs) = cmdCloses cs := by
  induction cs with
  | nil => intro cur; simp [svgExpected, segStarts, cmdStarts, segCloses, cmdCloses]
  | cons c cs ih =>
    intro cur
    have h := ih c.endPt
    cases c with
    | line x y =>
      by_cases hc : (eq x cur.1 && eq y cur.2) = true <;>
        simpa [svgExpected, svgCanon, hc, segStarts, cmdStarts, segCloses, cmdCloses, Cmd.seg, Cmd.endPt] using h
    | arc rx ry rot l sw x y =>
      by_cases hg : ge90 rot = true <;>
        simpa [svgExpected, svgCanon, hg, segStarts, cmdStarts, segCloses, cmdCloses, Cmd.seg, Cmd.endPt] using h
    | _ => simpa [svgExpected, svgCanon, segStarts, cmdStarts, segCloses, cmdCloses, Cmd.seg, Cmd.endPt] using h
end svg

section ops
variable {α : Type}

theorem opRun_append (op : OpSt α → String → Option (OpSt α)) (s : OpSt α) (a b : List (OTok α)) :
    opRun op s (a ++ b) = (opRun op s a).bind fun s' => opRun op s' b := by
  induction a generalizing s with
  | nil => simp [opRun]
  | cons t ts ih =>
    cases t with
    | num v => simpa [opRun] using ih _
    | op name =>
      simp only [List.cons_append, opRun]
      cases op s name with
      | none => simp
      | some s1 => simpa using ih s1

variable (ip : α → α → α) (center : α × α → α → α → α → Bool → Bool → α → α → Center α)

theorem pdf_cmd (add : α → α → α) (cur st : α × α) (out : List (Seg α)) (c : Cmd α)
    (harc : ∀ rx ry rot l sw x y, c ≠ .arc rx ry rot l sw x y)
    (hclose : ∀ x y, c = .close x y → (x, y) = st) :
    opRun (pdfOp add) ⟨cur, st, [], out⟩ (pdfCmd ip cur c) =
      some ⟨c.endPt, newStart st c, [], c.segElev ip center cur :: out⟩ := by
  cases c with
  | arc rx ry rot l sw x y => exact absurd rfl (harc rx ry rot l sw x y)
  | close x y => obtain rfl := hclose x y rfl; rfl
  | _ => rfl

theorem pdf_run_all [DecidableEq α] (add : α → α → α) (cs : List (Cmd α)) :
    ∀ (cur st : α × α) (out : List (Seg α)), noArcs cs = true → closesOK st cs = true →
      (opRun (pdfOp add) ⟨cur, st, [], out⟩ (toPDF ip cur cs)).bind
          (fun s => if s.stack = [] then some s.out.reverse else none) =
        some (out.reverse ++ segsElev ip center cur cs) := by
  induction cs with
  | nil => intro cur st out _ _; simp [toPDF, opRun, segsElev]
  | cons c cs ih =>
    intro cur st out hna hwf
    obtain ⟨harc, hna'⟩ := noArcs_cons hna
    obtain ⟨hclose, hwf'⟩ := closesOK_cons hwf
    rw [toPDF, opRun_append, pdf_cmd ip center add cur st out c harc hclose, Option.bind_some,
      ih _ _ _ hna' hwf', segsElev]
    simp

variable (arcEnd : α → α → α → α → α → α → α × α)
  (hend : ∀ cur rx ry phi l sw x y,
    arcEnd (center cur rx ry phi l sw x y).cx (center cur rx ry phi l sw x y).cy rx ry
      (center cur rx ry phi l sw x y).a1 (center cur rx ry phi l sw x y).rot = (x, y))
include hend

theorem ps_cmd (cur st : α × α) (out : List (Seg α)) (c : Cmd α) (hclose : ∀ x y, c = .close x y → (x, y) = st) :
    opRun (psOp arcEnd) ⟨cur, st, [], out⟩ (psCmd ip center cur c) =
      some ⟨c.endPt, newStart st c, [], c.segElev ip center cur :: out⟩ := by
  cases c with
  | arc rx ry phi l sw x y =>
    -- `ellipse`/`ellipsen` leave the current point at `arcEnd` of the centre form
    cases sw <;> exact congrArg (fun p => some (OpSt.mk p st [] (_ :: out))) (hend cur rx ry phi l _ x y)
  | close x y => obtain rfl := hclose x y rfl; rfl
  | _ => rfl

theorem ps_run_all [DecidableEq α] (cs : List (Cmd α)) :
    ∀ (cur st : α × α) (out : List (Seg α)), closesOK st cs = true →
      (opRun (psOp arcEnd) ⟨cur, st, [], out⟩ (toPS ip center cur cs)).bind
          (fun s => if s.stack = [] then some s.out.reverse else none) =
        some (out.reverse ++ segsElev ip center cur cs) := by
  induction cs with
  | nil => intro cur st out _; simp [toPS, opRun, segsElev]
  | cons c cs ih =>
    intro cur st out hwf
    obtain ⟨hclose, hwf'⟩ := closesOK_cons hwf
    rw [toPS, opRun_append, ps_cmd ip center arcEnd hend cur st out c hclose, Option.bind_some,
      ih _ _ _ hwf', segsElev]
    simp
end ops

end C11L
