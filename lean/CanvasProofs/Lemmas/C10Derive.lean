import CanvasProofs.Lemmas.C10
set_option linter.unusedSectionVars false
namespace Canvas.Path
variable {α : Type} [DecidableEq α] (G : Geo α) {near : Pt α → Pt α → Bool}

theorem splitRuns_flatten (cs : RPath α) : (splitRuns cs).flatten = cs := by
  induction cs with
  | nil => rfl
  | cons c rest ih =>
    simp only [splitRuns]
    cases h : splitRuns rest with
    | nil => rw [h] at ih; simp at ih; subst ih; simp
    | cons p ps =>
      rw [h] at ih
      by_cases hm : c.isMove = true <;> simp [hm, ← ih]

theorem splitRuns_ok {cs : RPath α} (h : Ok near false cs) :
    (∀ p ∈ splitRuns cs, Ok near false p) ∧
      ∀ p ps, splitRuns cs = p :: ps → endState near false p = endState near false cs := by
  induction cs with
  | nil => exact ⟨nofun, nofun⟩
  | cons c rest ih =>
    obtain ⟨hall, hnew⟩ := ih h.tail
    -- a newest run `r` that ends in the state of the whole path is well-formed with it
    have key : ∀ r rs, (∀ q ∈ rs, Ok near false q) → endState near false r = endState near false (c :: rest) →
        (∀ q ∈ r :: rs, Ok near false q) ∧
          ∀ q qs, r :: rs = q :: qs → endState near false q = endState near false (c :: rest) := by
      intro r rs hrs hr
      refine ⟨fun q hq => ?_, fun q qs hq => by cases hq; exact hr⟩
      rcases List.mem_cons.1 hq with rfl | hq
      · unfold Ok; rw [hr]; exact h
      · exact hrs q hq
    simp only [splitRuns]
    cases hr : splitRuns rest with
    | nil =>
      have : rest = [] := by rw [← splitRuns_flatten rest, hr]; rfl
      subst this
      exact key _ _ nofun rfl
    | cons p ps =>
      rw [hr] at hall
      cases hm : c.isMove with
      | true =>
        obtain ⟨a, rfl⟩ := eq_move_of_isMove hm
        exact key _ _ hall h.endState_eq.symm
      | false =>
        exact key _ _ (fun q hq => hall q (List.mem_cons_of_mem _ hq))
          (congrArg (Option.bind · fun st => step near false st c) (hnew p ps hr))

theorem split_subset (cs : RPath α) : ∀ p ∈ split cs, p ∈ splitRuns cs := by
  unfold split
  cases splitRuns cs with
  | nil => exact fun _ h => h
  | cons q qs =>
    intro p hp
    simp only at hp
    split at hp <;> simp only [List.mem_reverse, List.mem_cons] at hp ⊢
    · exact Or.inr hp
    · exact hp

variable (near) in
/-- loop invariant of Reverse on the path written so far: the subpath being written is open, or it
has just been closed and the next record read is a MoveTo (or none) -/
def RevInv (closed : Bool) (first : Pt α) (out todo : RPath α) : Prop :=
  OpenAt G near false first out ∨ (Ok near false out ∧ closed = false ∧ (todo = [] ∨ headIsMove todo = true))

theorem revGo_move_last (closed : Bool) (first start p : Pt α) (out : RPath α) :
    revGo G closed first start out [.move p] = if closed then .close first :: out else out := by
  cases closed <;> simp [revGo]

theorem revGo_move_cons (closed : Bool) (first start p : Pt α) (out : RPath α) (d : Cmd α) (t : RPath α) :
    revGo G closed first start out (.move p :: d :: t) =
      revGo G false (pos G (d :: t)) (pos G (d :: t))
        (.move (pos G (d :: t)) :: (if closed then .close first :: out else out)) (d :: t) := rfl

theorem revGo_close (closed : Bool) (first start p : Pt α) (out rest : RPath α) :
    revGo G closed first start out (.close p :: rest) =
      revGo G true first (pos G rest) (if G.ptEq start (pos G rest) then out else .line (pos G rest) :: out) rest := rfl

theorem revGo_line (closed : Bool) (first start p : Pt α) (out rest : RPath α) :
    revGo G closed first start out (.line p :: rest) =
      if closed && (rest.isEmpty || headIsMove rest) then revGo G false first (pos G rest) (.close first :: out) rest
      else revGo G closed first (pos G rest) (.line (pos G rest) :: out) rest := rfl

theorem RevInv.flush {G : Geo α} {closed : Bool} {first : Pt α} {out todo : RPath α}
    (h : RevInv G near closed first out todo) :
    Ok near false (if closed = true then Cmd.close first :: out else out) := by
  rcases h with h | ⟨h, hc, _⟩
  · split
    · exact h.close nofun
    · exact h.ok
  · subst hc; exact h

theorem revGo_ok {todo : RPath α} : ∀ {closed : Bool} {first start : Pt α} {out : RPath α},
    RevInv G near closed first out todo → Ok near false (revGo G closed first start out todo) := by
  induction todo with
  | nil =>
    intro closed first start out h
    simp only [revGo]
    exact h.flush
  | cons c rest ih =>
    intro closed first start out h
    have hopen : c.isMove = false → OpenAt G near false first out := by
      intro hc
      rcases h with h | ⟨_, _, hm | hm⟩
      · exact h
      · cases hm
      · cases c with
        | move _ => cases hc
        | _ => cases hm
    cases c with
    | move p =>
      cases rest with
      | nil => rw [revGo_move_last]; exact h.flush
      | cons d t =>
        rw [revGo_move_cons]
        exact ih (Or.inl ⟨(ok_move _ _).2 ⟨h.flush, nofun⟩, rfl, rfl⟩)
    | close p =>
      rw [revGo_close]
      refine ih (Or.inl ?_)
      split
      · exact hopen rfl
      · exact (hopen rfl).draw (c := .line _) rfl
    | line p =>
      rw [revGo_line]
      split
      · rename_i hcond
        simp only [Bool.and_eq_true, Bool.or_eq_true] at hcond
        refine ih (Or.inr ⟨(hopen rfl).close nofun, rfl, hcond.2.imp_left fun hr => ?_⟩)
        cases rest <;> simp at hr ⊢
      · exact ih (Or.inl ((hopen rfl).draw (c := .line _) rfl))
    | quad cp p => exact ih (Or.inl ((hopen rfl).draw (c := .quad _ _) rfl))
    | cube c1 c2 p => exact ih (Or.inl ((hopen rfl).draw (c := .cube _ _ _) rfl))
    | arc rx ry phi l s p => exact ih (Or.inl ((hopen rfl).draw (c := .arc _ _ _ _ _ _) rfl))

theorem countMoves_move (p : Pt α) (cs : RPath α) : countMoves (.move p :: cs) = countMoves cs + 1 :=
  Nat.add_comm ..

theorem countMoves_nonmove {c : Cmd α} (h : c.isMove = false) (cs : RPath α) : countMoves (c :: cs) = countMoves cs := by
  rw [countMoves, h]; exact Nat.zero_add _

theorem countMoves_dropLast {b : Bool} : ∀ {cs : RPath α}, Ok near b cs → cs ≠ [] → countMoves cs.dropLast + 1 = countMoves cs
  | [c], h, _ => by obtain ⟨a, rfl⟩ := ok_singleton h; rfl
  | c :: d :: t, h, _ => by
    rw [List.dropLast_cons_cons, countMoves, countMoves, Nat.add_assoc, countMoves_dropLast h.tail (List.cons_ne_nil d t)]

/-- The oldest record is left out: the MoveTo that answers it is written by `reverse` before the loop starts. -/
theorem revGo_moves (todo : RPath α) (closed : Bool) (first start : Pt α) (out : RPath α) :
    countMoves (revGo G closed first start out todo) = countMoves out + countMoves todo.dropLast := by
  have hclose : ∀ (closed : Bool) (first : Pt α) (out : RPath α),
      countMoves (if closed = true then Cmd.close first :: out else out) = countMoves out := by
    intro closed first out
    split
    · exact countMoves_nonmove rfl _
    · rfl
  induction todo generalizing closed first start out with
  | nil => exact hclose closed first out
  | cons c rest ih =>
    have hstep : ∀ (cl : Bool) (f st : Pt α) (out' : RPath α), c.isMove = false → countMoves out' = countMoves out →
        countMoves (revGo G cl f st out' rest) = countMoves out + countMoves (c :: rest).dropLast := by
      intro cl f st out' hc ho
      rw [ih, ho]
      cases rest with
      | nil => rfl
      | cons d t => rw [List.dropLast_cons_cons, countMoves_nonmove hc]
    cases c with
    | move p =>
      cases rest with
      | nil =>
        rw [revGo_move_last]
        exact hclose closed first out
      | cons d t =>
        rw [revGo_move_cons, ih, List.dropLast_cons_cons, countMoves_move, countMoves_move, hclose]
        omega
    | close p =>
      rw [revGo_close]
      refine hstep _ _ _ _ rfl ?_
      split
      · rfl
      · exact countMoves_nonmove rfl _
    | line p =>
      rw [revGo_line]
      split
      · exact hstep _ _ _ _ rfl (countMoves_nonmove rfl _)
      · exact hstep _ _ _ _ rfl (countMoves_nonmove rfl _)
    | quad cp p => exact hstep _ _ _ _ rfl (countMoves_nonmove rfl _)
    | cube c1 c2 p => exact hstep _ _ _ _ rfl (countMoves_nonmove rfl _)
    | arc rx ry phi l s p => exact hstep _ _ _ _ rfl (countMoves_nonmove rfl _)

theorem endState_map {f : Pt α → Pt α} {g : α × α × α × Bool × Bool → α × α × α × Bool × Bool}
    {near' : Pt α → Pt α → Bool} (hn : ∀ a b, near a b = true → near' (f a) (f b) = true) {b : Bool}
    {cs : RPath α} : ∀ {st : St α}, endState near b cs = some st →
      endState near' b (cs.map (mapCmd f g)) = some (match st with
        | .start => .start | .moved s => .moved (f s) | .opened s => .opened (f s) | .closed => .closed) := by
  induction cs with
  | nil => intro st h; cases h; rfl
  | cons c rest ih =>
    intro st h
    obtain ⟨st0, h0, hs⟩ := Option.bind_eq_some_iff.1 h
    rw [List.map_cons, endState_cons, ih h0, Option.bind_some]
    rcases cmd_trichotomy c with ⟨p, rfl⟩ | ⟨p, rfl⟩ | hc
    · obtain ⟨rfl, hnm⟩ := step_move_iff.1 hs
      refine step_move_iff.2 ⟨rfl, fun hb s => ?_⟩
      have := hnm hb
      cases st0 <;> simp at this ⊢
    · obtain ⟨rfl, s, hs0, hnear⟩ := step_close_iff.1 hs
      refine step_close_iff.2 ⟨rfl, f s, ?_, hnear.imp (congrArg f) (hn _ _)⟩
      rcases hs0 with rfl | ⟨rfl, hb⟩
      · exact Or.inl rfl
      · exact Or.inr ⟨rfl, hb⟩
    · have hc' : (mapCmd f g c).isDraw = true := by cases c <;> first | rfl | cases hc
      rw [step_draw hc] at hs
      rw [step_draw hc']
      cases st0 <;> cases hs <;> rfl

theorem replaceGo_none (n j : Nat) (acc : RPath α) (todo : List (Cmd α)) :
    replaceGo G (fun _ _ _ => none) n j acc todo = todo.reverse ++ acc := by
  induction n generalizing j acc todo with
  | zero => rfl
  | succ n ih =>
    cases todo with
    | nil => rfl
    | cons c rest =>
      simp only [replaceGo]
      split <;> rw [ih] <;> simp

end Canvas.Path
