import CanvasModel.C09.Intervals
/-! C09 helper lemmas: the structural SplitAt walk (builder, cutting loops, oracle inversion) and the
interval-walk specification agree on the position `T`, the remaining positions and the number of
finished pieces after every record - whatever the builder and the inversion answer.

Both walks visit the records with one oracle entry per drawing record (`walk_induction`), and both do
the same to the number of finished pieces, `T` and the remaining positions (`Key`) at a drawing record
(`advance`). -/
namespace C09L
open Canvas Canvas.Path Canvas.C09
variable {α : Type}

theorem cutsGen_length {Q : Type} (lt : α → α → Bool) (sub div : α → α → α) (one : α) (sl sr : Q → α → Q)
    (r : Q) (t0 : α) (ts : List α) : (cutsGen lt sub div one sl sr r t0 ts).1.length = ts.length := by
  induction ts generalizing r t0 with
  | nil => rfl
  | cons t ts ih => simp [cutsGen, ih]

theorem monoClamp_length (lt : α → α → Bool) (t0 : α) (ts : List α) : (monoClamp lt t0 ts).length = ts.length := by
  induction ts generalizing t0 with
  | nil => rfl
  | cons t ts ih => simp [monoClamp, ih]

theorem selectCuts_spec (O : SplitOps α) (T dT : α) (rem : List α) :
    (selectCuts O T dT rem).1 ++ (selectCuts O T dT rem).2 = rem ∧
      ∀ t ∈ (selectCuts O T dT rem).1, O.lt T t = true ∧ O.le t (O.add T dT) = true := by
  induction rem with
  | nil => exact ⟨rfl, by simp [selectCuts]⟩
  | cons t ts ih =>
    by_cases h : (O.lt T t && O.le t (O.add T dT)) = true
    · simp only [selectCuts, h, if_true, List.cons_append, ih.1, List.mem_cons, true_and]
      intro u hu
      rcases hu with rfl | hu
      · simpa using h
      · exact ih.2 u hu
    · simp [selectCuts, h]

structure Key (α : Type) where
  done : Nat
  T : α
  rem : List α

/-- a drawing record of length `d` met with `done` finished pieces at position `T` with positions `rem`
left: nothing changes once the positions are used up; otherwise every selected position closes one
piece, `T` advances by `d` and the selected positions are consumed -/
def advance (O : SplitOps α) (d : α) (k : Key α) : Key α :=
  if k.rem.isEmpty then k
  else ⟨k.done + (selectCuts O k.T d k.rem).1.length, O.add k.T d, (selectCuts O k.T d k.rem).2⟩

def sKey (s : SState α) : Key α := ⟨s.qs.length, s.T, s.rem⟩
def iKey (t : IState α) : Key α := ⟨t.done.length, t.T, t.rem⟩

theorem advance_done (O : SplitOps α) (d : α) (k : Key α) (h : k.rem.isEmpty = true) :
    advance O d k = k := if_pos h

theorem advance_cut (O : SplitOps α) (d : α) (k : Key α) (h : ¬ k.rem.isEmpty = true) :
    advance O d k = ⟨k.done + (selectCuts O k.T d k.rem).1.length, O.add k.T d, (selectCuts O k.T d k.rem).2⟩ :=
  if_neg h

variable (G : Geo α) (O : SplitOps α)

theorem foldl_count {σ β : Type} (n : σ → Nat) (F : σ → β → σ) (hF : ∀ st b, n (F st b) = n st + 1)
    (l : List β) (s : σ) : n (l.foldl F s) = n s + l.length := by
  induction l generalizing s with
  | nil => rfl
  | cons b l ih => rw [List.foldl_cons, ih, hF, List.length_cons, Nat.add_assoc, Nat.add_comm 1]

/-- the last builder call of a case, made or not, leaves the key alone -/
theorem lastCall_key {c : Bool} {a b : SState α} (h : a.qs.length = b.qs.length) {rem : List α} {T : α} :
    sKey { (if c = true then a else b) with rem := rem, T := T } = ⟨b.qs.length, T, rem⟩ := by
  cases c
  · rfl
  · exact congrArg (Key.mk · T rem) h

theorem lineCase_key (start e : Pt α) (dT : α) (s : SState α) :
    sKey (lineCase G O start e dT s) = advance O dT (sKey s) := by
  unfold lineCase
  split
  · next he => exact (advance_done O dT (sKey s) he).symm
  · next he =>
    rw [advance_cut O dT (sKey s) he]
    exact (lastCall_key (by rfl)).trans (congrArg (Key.mk · _ _)
      (foldl_count (fun acc : SState α × α => acc.1.qs.length) _ (fun _ _ => rfl) _ (s, s.T)))

/-- past the length test of a curved case there is one polished parameter per selected position -/
theorem polished_length (o : SegOracle α) (T : α) (sel : List α) (h : ¬ (sel.length != o.inv.length) = true) :
    (polished O o T sel).length = sel.length := by
  have h' : sel.length = o.inv.length := by simpa using h
  rw [polished, List.length_zipWith, ← h', Nat.min_self]

/-- the shape of the QuadTo and CubeTo cases: the fold over the cut curves closes one piece per curve,
and there is one curve per selected position.  `h` is the body of `quadCase`/`cubeCase` with its tests
as the Booleans `e` (no positions left), `b` (the oracle does not fit) and `c` (the last parameter is 1):
the callers pass `quadCase … = some s'` itself, which unification unfolds to this -/
theorem curveCase_key {β : Type} {s s' done : SState α} {e b c : Bool} {cuts : List β}
    {F : SState α → β → SState α} {q : RPath α} {sel : List α × List α} {T : α}
    (h : (if e = true then some done else if b = true then none else
        some { (if c = true then cuts.foldl F s else { cuts.foldl F s with q := q }) with
          rem := sel.2, T := T }) = some s')
    (hdone : sKey done = sKey s) (hF : ∀ st x, (F st x).qs.length = st.qs.length + 1)
    (hcuts : ¬ b = true → cuts.length = sel.1.length) :
    sKey s' = if e = true then sKey s else ⟨s.qs.length + sel.1.length, T, sel.2⟩ := by
  cases e with
  | true => cases h; exact hdone
  | false =>
    cases b with
    | true => cases h
    | false =>
      cases h
      exact (lastCall_key (by rfl)).trans (congrArg (Key.mk · T sel.2) <|
        (foldl_count (·.qs.length) F hF cuts s).trans (congrArg (s.qs.length + ·) (hcuts Bool.false_ne_true)))

theorem quadCase_key (start cp e : Pt α) (o : SegOracle α) (s s' : SState α)
    (h : quadCase G O start cp e o s = some s') : sKey s' = advance O o.dT (sKey s) :=
  curveCase_key h rfl (fun _ _ => rfl) fun hb => by
    rw [cutsGen_length, monoClamp_length, polished_length O o s.T _ hb]
    rfl

theorem cubeCase_key (start c1 c2 e : Pt α) (o : SegOracle α) (s s' : SState α)
    (h : cubeCase G O start c1 c2 e o s = some s') : sKey s' = advance O o.dT (sKey s) :=
  curveCase_key h rfl (fun _ _ => rfl) fun hb => by
    rw [cutsGen_length, monoClamp_length, polished_length O o s.T _ hb]
    rfl

theorem arcCuts_count (rx ry phi : α) (sweep : Bool) (o : SegOracle α) {inv : List α} :
    ∀ {acc acc' : SState α × α × Bool}, arcCuts G O rx ry phi sweep o inv acc = some acc' →
      acc'.1.qs.length = acc.1.qs.length + inv.length := by
  induction inv with
  | nil => intro acc acc' h; cases h; rfl
  | cons th rest ih =>
    intro ⟨st, startTheta, nl⟩ acc' h
    rw [arcCuts] at h
    dsimp only at h
    split at h
    · cases h
    · rw [ih h]
      simp only [SState.push, List.length_cons, Nat.add_assoc, Nat.add_comm 1]

theorem arcCase_key (rx ry phi : α) (l sw : Bool) (e : Pt α) (o : SegOracle α) (s s' : SState α)
    (h : arcCase G O rx ry phi l sw e o s = some s') : sKey s' = advance O o.dT (sKey s) := by
  by_cases he : s.rem.isEmpty = true
  · rw [arcCase, if_pos he] at h
    cases h; exact (advance_done O o.dT (sKey s) he).symm
  · rw [arcCase, if_neg he] at h
    dsimp only at h
    split at h
    · cases h
    · next hlen =>
      split at h
      · cases h
      · next st startTheta nextLarge hcuts =>
        cases h
        have hk := arcCuts_count G O rx ry phi sw o hcuts
        rw [polished_length O o s.T _ hlen] at hk
        rw [advance_cut O o.dT (sKey s) he]
        exact (lastCall_key (by rfl)).trans (congrArg (Key.mk · _ _) hk)

theorem ivSeg_key (i : Nat) (d : α) (t : IState α) : iKey (ivSeg O i d t) = advance O d (iKey t) := by
  unfold ivSeg
  split
  · next he => exact (advance_done O d (iKey t) he).symm
  · next he =>
    rw [advance_cut O d (iKey t) he]
    exact congrArg (Key.mk · _ _)
      (foldl_count (fun acc : IState α × α => acc.1.done.length) (ivCut O i t.T) (fun _ _ => rfl) _ (t, O.zero))

theorem walk_induction {motive : List (Cmd α) → List (SegOracle α) → Prop}
    (nil : ∀ os, motive [] os) (move : ∀ p cs os, motive cs os → motive (.move p :: cs) os)
    (draw : ∀ c cs o os, c.isMove = false → motive cs os → motive (c :: cs) (o :: os))
    (short : ∀ c cs, c.isMove = false → motive (c :: cs) []) : ∀ cs os, motive cs os := by
  intro cs
  induction cs with
  | nil => exact nil
  | cons c cs ih =>
    intro os
    cases c with
    | move p => exact move p cs os (ih os)
    | _ =>
      cases os with
      | nil => exact short _ cs rfl
      | cons o os => exact draw _ cs o os rfl (ih os)

/-- a drawing record met by the structural walk: `r` is what the case of the record returns (`none`: the
oracle does not fit, or the panic of the arc case) -/
theorem walkSub_draw (c : Cmd α) (hc : c.isMove = false) (start : Pt α) (o : SegOracle α) (s : SState α) :
    ∃ r : Option (SState α), (∀ s1, r = some s1 → sKey s1 = advance O o.dT (sKey s)) ∧
      ∀ cs os, walkSub G O (c :: cs) start (o :: os) s = r.bind (walkSub G O cs c.endp os) := by
  cases c with
  | move p => cases hc
  | line p | close p =>
    exact ⟨some (lineCase G O start p o.dT s), fun _ h => Option.some.inj h ▸ lineCase_key G O start p o.dT s,
      fun _ _ => rfl⟩
  | quad cp p =>
    refine ⟨quadCase G O start cp p o s, quadCase_key G O start cp p o s, fun cs os => ?_⟩
    rw [walkSub]
    cases quadCase G O start cp p o s <;> rfl
  | cube c1 c2 p =>
    refine ⟨cubeCase G O start c1 c2 p o s, cubeCase_key G O start c1 c2 p o s, fun cs os => ?_⟩
    rw [walkSub]
    cases cubeCase G O start c1 c2 p o s <;> rfl
  | arc rx ry phi l sw p =>
    refine ⟨arcCase G O rx ry phi l sw p o s, arcCase_key G O rx ry phi l sw p o s, fun cs os => ?_⟩
    rw [walkSub]
    cases arcCase G O rx ry phi l sw p o s <;> rfl

theorem walkSub_short (c : Cmd α) (hc : c.isMove = false) (cs : List (Cmd α)) (start : Pt α) (s : SState α) :
    walkSub G O (c :: cs) start [] s = none := by
  cases c with
  | move p => cases hc
  | _ => rfl

theorem ivWalk_draw (c : Cmd α) (hc : c.isMove = false) (cs : List (Cmd α)) (o : SegOracle α)
    (os : List (SegOracle α)) (i : Nat) (t : IState α) :
    ivWalk O (c :: cs) (o :: os) i t = ivWalk O cs os (i + 1) (ivSeg O i o.dT t) := by
  cases c with
  | move p => cases hc
  | _ => rfl

theorem walkSub_start_irrelevant (p : Pt α) (cs : List (Cmd α)) (st st' : Pt α) (os : List (SegOracle α))
    (s : SState α) : walkSub G O (.move p :: cs) st os s = walkSub G O (.move p :: cs) st' os s := rfl

theorem walkSub_append (ys : List (Cmd α)) : ∀ (xs : List (Cmd α)) (os : List (SegOracle α))
    (start : Pt α) (s : SState α),
    walkSub G O (xs ++ ys) start os s =
      (walkSub G O xs start os s).bind fun r => walkSub G O ys (chainEnd start xs) r.2 r.1 := by
  apply walk_induction
  · intro os start s; rfl
  · intro q cs os ih start s; exact ih q _
  · intro c cs o os hc ih start s
    obtain ⟨r, _, hw⟩ := walkSub_draw G O c hc start o s
    rw [List.cons_append, hw, hw]
    cases r with
    | none => rfl
    | some s1 => exact ih c.endp s1
  · intro c cs hc start s
    rw [List.cons_append, walkSub_short G O c hc, walkSub_short G O c hc]; rfl

def AllStartWithMove (pss : List (List (Cmd α))) : Prop :=
  ∀ ps ∈ pss, ∃ p r, ps = Cmd.move p :: r

theorem walkSubs_flatten (pss : List (List (Cmd α))) (h : AllStartWithMove pss) :
    ∀ (os : List (SegOracle α)) (s : SState α) (st : Pt α),
    walkSubs G O pss os s = (walkSub G O pss.flatten st os s).map (·.1) := by
  induction pss with
  | nil => intro os s st; rfl
  | cons ps rest ih =>
    intro os s st
    obtain ⟨p, r, rfl⟩ := h _ List.mem_cons_self
    rw [walkSubs, List.flatten_cons, walkSub_append, walkSub_start_irrelevant G O p r st G.origin]
    cases walkSub G O (.move p :: r) G.origin os s with
    | none => rfl
    | some res => exact ih (fun q hq => h q (List.mem_cons_of_mem _ hq)) res.2 res.1 _

/-- `ys`: the records of the pieces still to come - `walkSubs` takes the pieces one by one, `ivWalk` runs over
their concatenation -/
theorem walkSub_refines : ∀ (cs : List (Cmd α)) (os : List (SegOracle α)) (start : Pt α)
    (os' : List (SegOracle α)) (s s' : SState α) (t : IState α) (i : Nat), sKey s = iKey t →
    walkSub G O cs start os s = some (s', os') →
    ∃ t' i', sKey s' = iKey t' ∧ ∀ ys, ivWalk O (cs ++ ys) os i t = ivWalk O ys os' i' t' := by
  apply walk_induction
  · intro os start os' s s' t i ha h
    cases h
    exact ⟨t, i, ha, fun _ => rfl⟩
  · intro p cs os ih start os' s s' t i ha h
    exact ih p os' { s with q := moveTo p s.q } s' t i ha h
  · intro c cs o os hc ih start os' s s' t i ha h
    obtain ⟨r, hk, hw⟩ := walkSub_draw G O c hc start o s
    rw [hw, Option.bind_eq_some_iff] at h
    obtain ⟨s1, hr, h1⟩ := h
    obtain ⟨t', i', hk', hys⟩ := ih c.endp os' s1 s' (ivSeg O i o.dT t) (i + 1) (by rw [hk s1 hr, ha, ivSeg_key]) h1
    exact ⟨t', i', hk', fun ys => by rw [List.cons_append, ivWalk_draw O c hc, hys]⟩
  · intro c cs hc start os' s s' t i _ h
    rw [walkSub_short G O c hc] at h
    cases h

theorem walkSubs_refines (pss : List (List (Cmd α))) : ∀ (os : List (SegOracle α)) (s s' : SState α)
    (t : IState α) (i : Nat), sKey s = iKey t → walkSubs G O pss os s = some s' →
    ∃ t', ivWalk O pss.flatten os i t = some t' ∧ sKey s' = iKey t' := by
  induction pss with
  | nil => intro os s s' t i ha h; cases h; exact ⟨t, rfl, ha⟩
  | cons ps rest ih =>
    intro os s s' t i ha h
    rw [walkSubs] at h
    cases hw : walkSub G O ps G.origin os s with
    | none => rw [hw] at h; cases h
    | some res =>
      rw [hw] at h
      obtain ⟨t1, i1, hk, hys⟩ := walkSub_refines G O ps os G.origin res.2 s res.1 t i ha hw
      rw [List.flatten_cons, hys]
      exact ih res.2 res.1 s' t1 i1 hk h

end C09L
