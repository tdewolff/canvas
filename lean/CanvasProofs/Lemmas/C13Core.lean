import CanvasModel.C13
import CanvasProofs.Lemmas.Basic

/-! C13: the object-table invariant of the pdfWriter model, kept by each primitive of the writer;
`Close` discharges every reservation. -/
namespace C13L
open Canvas.C13
open Canvas (forall_mem_snoc mem_map_append mem_map_last)

def HdrAt (out : Bytes) (off n : Nat) : Prop := objHeader n <+: out.drop off

theorem objHeader_ne_nil (n : Nat) : objHeader n ≠ [] :=
  fun h => absurd (List.append_eq_nil_iff.mp h).2 (by decide)

theorem hdrAt_append {out b : Bytes} {off n : Nat} (h : HdrAt out off n) : HdrAt (out ++ b) off n := by
  unfold HdrAt at *
  by_cases hle : off ≤ out.length
  · rw [List.drop_append_of_le_length hle]
    exact h.trans (List.prefix_append _ _)
  · rw [List.drop_eq_nil_of_le (by omega)] at h
    exact absurd (List.prefix_nil.mp h) (objHeader_ne_nil n)

theorem hdrAt_here {out : Bytes} {n : Nat} : HdrAt (out ++ objHeader n) out.length n := by
  unfold HdrAt
  rw [List.drop_left]
  exact List.prefix_refl _

/-- `P` = set of object numbers that are reserved but not yet written. -/
structure Inv (P : Nat → Prop) (c : Core) : Prop where
  pos_eq : c.pos = c.out.length
  three : 3 ≤ c.offs.length
  filled : ∀ i (h : i < c.offs.length), HdrAt c.out c.offs[i] (i + 1) ∨ P (i + 1)

theorem Inv.weaken {P Q : Nat → Prop} {c : Core} (h : Inv P c) (hpq : ∀ x, P x → Q x) : Inv Q c :=
  ⟨h.pos_eq, h.three, fun i hi => (h.filled i hi).imp id (hpq _)⟩

@[simp] theorem emit_offs (c : Core) (b : Bytes) : (c.emit b).offs = c.offs := rfl
@[simp] theorem emit_out (c : Core) (b : Bytes) : (c.emit b).out = c.out ++ b := rfl
@[simp] theorem emit_pos (c : Core) (b : Bytes) : (c.emit b).pos = c.pos + b.length := rfl

theorem inv_emit {P : Nat → Prop} {c : Core} (b : Bytes) (h : Inv P c) : Inv P (c.emit b) :=
  ⟨by rw [emit_pos, emit_out, List.length_append, h.pos_eq], h.three,
    fun i hi => (h.filled i hi).imp hdrAt_append id⟩

/-- `writeObject` and `lateWrite` differ only in which slot of the table receives `pos`: both then
emit the header of that slot's number, the value and `endobj`. -/
theorem inv_header {P Q : Nat → Prop} {c : Core} (h : Inv P c) (offs : List Nat) (n : Nat) (v : Val)
    (h3 : 3 ≤ offs.length)
    (hf : ∀ i (hi : i < offs.length), (offs[i] = c.pos ∧ i + 1 = n) ∨
      ∃ hi' : i < c.offs.length, offs[i] = c.offs[i] ∧ (P (i + 1) → Q (i + 1))) :
    Inv Q (((({ c with offs := offs } : Core).emit (objHeader n)).emit (ser v)).emit sEndobj) := by
  refine ⟨?_, h3, fun i hi => ?_⟩
  · simp only [emit_pos, emit_out, List.length_append, h.pos_eq]
  · show HdrAt (c.out ++ objHeader n ++ ser v ++ sEndobj) offs[i] (i + 1) ∨ Q (i + 1)
    rcases hf i hi with ⟨e, rfl⟩ | ⟨hi', e, hq⟩
    · rw [e, h.pos_eq]
      exact Or.inl (hdrAt_append (hdrAt_append hdrAt_here))
    · rw [e]
      exact (h.filled i hi').imp (fun hh => hdrAt_append (hdrAt_append (hdrAt_append hh))) hq

theorem writeObject_len (c : Core) (v : Val) : (c.writeObject v).offs.length = c.offs.length + 1 :=
  List.length_append

theorem lateWrite_len (c : Core) (r : Nat) (v : Val) : (c.lateWrite r v).offs.length = c.offs.length :=
  List.length_set

theorem inv_writeObject {P : Nat → Prop} {c : Core} (v : Val) (h : Inv P c) : Inv P (c.writeObject v) := by
  refine inv_header h (c.offs ++ [c.pos]) _ v (by rw [List.length_append]; have := h.three; omega) fun i hi => ?_
  rw [List.length_append, List.length_singleton] at hi
  by_cases hlt : i < c.offs.length
  · exact Or.inr ⟨hlt, List.getElem_append_left hlt, id⟩
  · obtain rfl : i = c.offs.length := by omega
    exact Or.inl ⟨by simp, (List.length_append (as := c.offs) (bs := [c.pos])).symm⟩

theorem inv_lateWrite {P : Nat → Prop} {c : Core} (r : Nat) (v : Val) (h : Inv P c)
    (hr1 : 1 ≤ r) : Inv (fun x => P x ∧ x ≠ r) (c.lateWrite r v) := by
  refine inv_header h (c.offs.set (r - 1) c.pos) r v (by rw [List.length_set]; exact h.three) fun i hi => ?_
  rw [List.length_set] at hi
  rw [List.getElem_set]
  by_cases hieq : r - 1 = i
  · exact Or.inl ⟨if_pos hieq, by omega⟩
  · exact Or.inr ⟨hi, if_neg hieq, fun hp => ⟨hp, by omega⟩⟩

theorem reserve_len (c : Core) : c.reserve.offs.length = c.offs.length + 1 := List.length_append

theorem inv_reserve {P : Nat → Prop} {c : Core} (h : Inv P c) :
    Inv (fun x => P x ∨ x = c.reserve.offs.length) c.reserve := by
  refine ⟨h.pos_eq, by rw [reserve_len]; have := h.three; omega, fun i hi => ?_⟩
  simp only [Core.reserve, List.length_append, List.length_singleton] at hi ⊢
  by_cases hlt : i < c.offs.length
  · rw [List.getElem_append_left hlt]
    exact (h.filled i hlt).imp id Or.inl
  · exact Or.inr (Or.inr (by omega))

theorem inv_init : Inv (fun x => x = 1 ∨ x = 2 ∨ x = 3) Core.init :=
  inv_emit pdfHeader (c := ⟨[], 0, [0, 0, 0]⟩)
    ⟨rfl, Nat.le_refl 3, fun i hi => Or.inr (by have : i < 3 := hi; omega)⟩

theorem writeObject_le (c : Core) (v : Val) : c.offs.length ≤ (c.writeObject v).offs.length := by
  rw [writeObject_len]; omega

theorem inv_foldl_writeObject {P : Nat → Prop} : ∀ (vs : List Val) {c : Core}, Inv P c →
    Inv P (vs.foldl Core.writeObject c)
  | [], _, h => h
  | v :: vs, _, h => inv_foldl_writeObject vs (inv_writeObject v h)

theorem foldl_writeObject_len : ∀ (vs : List Val) (c : Core), c.offs.length ≤ (vs.foldl Core.writeObject c).offs.length
  | [], _ => Nat.le_refl _
  | v :: vs, c => Nat.le_trans (writeObject_le c v) (foldl_writeObject_len vs _)

def InR (len r : Nat) : Prop := 1 ≤ r ∧ r ≤ len

theorem InR.mono {len len' r : Nat} (h : InR len r) (hl : len ≤ len') : InR len' r := ⟨h.1, Nat.le_trans h.2 hl⟩

theorem lookupFont_mem {id r : Nat} {L : List (Nat × Nat)} (h : lookupFont id L = some r) : r ∈ L.map (·.2) := by
  obtain ⟨e, he, rfl⟩ := Option.map_eq_some_iff.mp h
  exact List.mem_map.mpr ⟨e, List.mem_of_find?_eq_some he, rfl⟩

def Pend (H V : List (Nat × Nat)) (x : Nat) : Prop :=
  x = 1 ∨ x = 2 ∨ x = 3 ∨ x ∈ H.map (·.2) ∨ x ∈ V.map (·.2)

theorem pend_iff {H V : List (Nat × Nat)} {x : Nat} :
    Pend H V x ↔ (x = 1 ∨ x = 2 ∨ x = 3) ∨ x ∈ H.map (·.2) ∨ x ∈ V.map (·.2) := by
  unfold Pend
  simp only [or_assoc]

def RefsOk (c : Core) (L : List (Nat × Nat)) : Prop := ∀ r ∈ L.map (·.2), 1 ≤ r ∧ r ≤ c.offs.length

structure SInv' (c : Core) (H V : List (Nat × Nat)) : Prop where
  inv : Inv (Pend H V) c
  refsH : RefsOk c H
  refsV : RefsOk c V

def SInv (s : St) : Prop := SInv' s.core s.fontsH s.fontsV

theorem RefsOk.mono {c c' : Core} {L : List (Nat × Nat)} (h : RefsOk c L) (hle : c.offs.length ≤ c'.offs.length) :
    RefsOk c' L := fun r hr => ⟨(h r hr).1, Nat.le_trans (h r hr).2 hle⟩

theorem SInv'.swap {c : Core} {H V} (h : SInv' c H V) : SInv' c V H :=
  ⟨h.inv.weaken fun _ hx => pend_iff.mpr ((pend_iff.mp hx).imp_right Or.symm), h.refsV, h.refsH⟩

theorem sinv_init : SInv' Core.init [] [] :=
  ⟨inv_init.weaken fun _ hx => pend_iff.mpr (Or.inl hx), fun r hr => (by cases hr), fun r hr => (by cases hr)⟩

theorem SInv'.grow {c c' : Core} {H V} (h : SInv' c H V) (hi : Inv (Pend H V) c')
    (hl : c.offs.length ≤ c'.offs.length) : SInv' c' H V :=
  ⟨hi, h.refsH.mono hl, h.refsV.mono hl⟩

theorem sinv_writeObject {c : Core} {H V} (v : Val) (h : SInv' c H V) : SInv' (c.writeObject v) H V :=
  h.grow (inv_writeObject v h.inv) (writeObject_le c v)

theorem sinv_reserve {c : Core} {H V} (id : Nat) (h : SInv' c H V) :
    SInv' c.reserve (H ++ [(id, c.reserve.offs.length)]) V := by
  have hlen := reserve_len c
  refine ⟨(inv_reserve h.inv).weaken fun x hx => ?_, ?_, h.refsV.mono (by omega)⟩
  · rcases hx with hx | rfl
    · exact pend_iff.mpr ((pend_iff.mp hx).imp_right (Or.imp_left (mem_map_append x)))
    · exact pend_iff.mpr (Or.inr (Or.inl mem_map_last))
  · unfold RefsOk
    rw [List.map_append]
    exact forall_mem_snoc (h.refsH.mono (by omega)) (show 1 ≤ c.reserve.offs.length ∧ _ from ⟨by omega, Nat.le_refl _⟩)

theorem getFont_spec (s : St) (id : Nat) (vert : Bool) :
    ∃ c H V, (getFont s id vert).1 = { s with core := c, fontsH := H, fontsV := V }
      ∧ s.core.offs.length ≤ c.offs.length
      ∧ (SInv s → SInv' c H V ∧ InR c.offs.length (getFont s id vert).2) := by
  have hl := reserve_len s.core
  unfold getFont
  cases vert with
  | false =>
    simp only [Bool.false_eq_true, if_false]
    split
    · next r heq => exact ⟨_, _, _, rfl, Nat.le_refl _, fun h => ⟨h, h.refsH r (lookupFont_mem heq)⟩⟩
    · exact ⟨_, _, _, rfl, by omega, fun h => ⟨sinv_reserve id h, by omega, Nat.le_refl _⟩⟩
  | true =>
    simp only [if_true]
    split
    · next r heq => exact ⟨_, _, _, rfl, Nat.le_refl _, fun h => ⟨h, h.refsV r (lookupFont_mem heq)⟩⟩
    · exact ⟨_, _, _, rfl, by omega, fun h => ⟨(sinv_reserve id h.swap).swap, by omega, Nat.le_refl _⟩⟩

theorem getFont_frame (s : St) (id : Nat) (vert : Bool) :
    ∃ c H V, (getFont s id vert).1 = { s with core := c, fontsH := H, fontsV := V }
      ∧ s.core.offs.length ≤ c.offs.length :=
  let ⟨c, H, V, e, hl, _⟩ := getFont_spec s id vert
  ⟨c, H, V, e, hl⟩

theorem sinv_writePage (env : Env) (compress : Bool) {c : Core} {H V} (p : Page) (h : SInv' c H V) :
    SInv' (writePage env compress c p).1 H V :=
  sinv_writeObject _ (sinv_writeObject _ h)

theorem sinv_flushPage (env : Env) {s : St} (h : SInv s) : SInv (flushPage env s) := by
  unfold flushPage
  split
  · exact h
  · exact sinv_writePage env s.compress _ h

theorem flushPage_fonts (env : Env) (s : St) :
    (flushPage env s).fontsH = s.fontsH ∧ (flushPage env s).fontsV = s.fontsV := by
  unfold flushPage; cases s.page <;> exact ⟨rfl, rfl⟩

theorem inv_writeFonts (env : Env) : ∀ (L : List Nat) {P : Nat → Prop} {c : Core}, Inv P c → (∀ r ∈ L, 1 ≤ r) →
    Inv (fun x => P x ∧ x ∉ L) (writeFonts env c L)
  | [], _, _, h, _ => h.weaken fun _ hx => ⟨hx, List.not_mem_nil⟩
  | r :: L, _, _, h, hL => by
    have h1 := inv_lateWrite r (env.fontVals r).2 (inv_foldl_writeObject (env.fontVals r).1 h) (hL r List.mem_cons_self)
    refine (inv_writeFonts env L h1 fun x hx => hL x (List.mem_cons_of_mem _ hx)).weaken fun x hx => ?_
    exact ⟨hx.1.1, fun hm => (List.mem_cons.mp hm).elim hx.1.2 hx.2⟩

theorem inv_closeBody (env : Env) {s : St} (h : SInv s) : Inv (fun _ => False) (closeBody env s).core := by
  have h1 : SInv (flushPage env s) := sinv_flushPage env h
  have i1 := inv_writeFonts env _ h1.inv fun r hr => (h1.refsH r hr).1
  have i2 := inv_writeFonts env _ i1 fun r hr => (h1.refsV r hr).1
  have i3 := inv_lateWrite 1 (catalogDict (flushPage env s)) i2 (Nat.le_refl 1)
  have i4 := inv_lateWrite 2 (infoDict env (flushPage env s)) i3 (by omega)
  have i5 := inv_lateWrite 3 (pagesDict (flushPage env s).pages) i4 (by omega)
  refine i5.weaken ?_
  rintro x ⟨⟨⟨⟨⟨hp, hnH⟩, hnV⟩, n1⟩, n2⟩, n3⟩
  rcases pend_iff.mp hp with (a | a | a) | a | a
  · exact n1 a
  · exact n2 a
  · exact n3 a
  · exact hnH a
  · exact hnV a

theorem writeFonts_len (env : Env) (L : List Nat) (c : Core) : c.offs.length ≤ (writeFonts env c L).offs.length := by
  unfold writeFonts
  induction L generalizing c with
  | nil => exact Nat.le_refl _
  | cons r L ih =>
    refine Nat.le_trans ?_ (ih _)
    rw [writeFontObjs, lateWrite_len]
    exact foldl_writeObject_len _ c

theorem close_eq (env : Env) (s : St) :
    close env s = ⟨{ flushPage env s with
      core := (closeBody env s).core.emit (tailBytes (closeBody env s).core.offs (closeBody env s).core.pos) },
      (closeBody env s).core.pos⟩ := by
  have e : closeBody env s = { flushPage env s with core := (closeBody env s).core } := rfl
  -- the core is made opaque first: unfolding `closeBody` on both sides of the equation is slow to check
  rw [close]
  generalize (closeBody env s).core = c at e ⊢
  rw [e]

theorem closeBody_len (env : Env) (s : St) :
    (flushPage env s).core.offs.length ≤ (closeBody env s).core.offs.length := by
  show _ ≤ (Core.lateWrite _ _ _).offs.length
  rw [lateWrite_len, lateWrite_len, lateWrite_len]
  exact Nat.le_trans (writeFonts_len env _ _) (writeFonts_len env _ _)

theorem close_spec (env : Env) (s : St) : ∃ c : Core,
    close env s = ⟨{ flushPage env s with core := c.emit (tailBytes c.offs c.pos) }, c.pos⟩
    ∧ (flushPage env s).core.offs.length ≤ c.offs.length
    ∧ (SInv s → Inv (fun _ => False) c) :=
  ⟨_, close_eq env s, closeBody_len env s, inv_closeBody env⟩

end C13L
