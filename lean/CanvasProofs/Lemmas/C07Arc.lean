import CanvasProofs.Lemmas.C07Eigen
import CanvasProofs.Lemmas.C07Form

/-! # C07 helper lemmas: the ellipse equation `Path.Transform` builds for an arc, and its relation to the
image of the original ellipse. -/
set_option linter.unusedSectionVars false
namespace C07
open Canvas Canvas.C07 GenK

variable {K : Type} [Field K] [LinearOrder K] [IsStrictOrderedRing K] [Env K]

/-- the linear part of `Q` is the symmetric matrix `[[W.a, W.b], [W.b, W.c]]` of the form `W` -/
structure HasForm (Q : Mat K) (W : Form K) : Prop where
  a : Q.a = W.a
  b : Q.b = W.b
  d : Q.d = W.b
  e : Q.e = W.c

/-- `Nᵀ · diag(p, q) · N` as a form; the translation entries are carried along and ignored -/
theorem conj_scale (N : Mat K) (p q : K) :
    HasForm (Matrix.Mul (Matrix.Mul (Matrix.T N) (Matrix.Scale identity p q)) N) ((Form.mk p 0 q).pull N.a N.b N.d N.e) := by
  simp only [Matrix.Mul, Matrix.T, Matrix.Scale, identity, Form.pull]
  constructor <;> ring

/-- The scaled ellipse equation `T⁻ᵀ · diag(σ/rx², σ/ry²) · T⁻¹` of `Path.Transform` (`T = m.Rotate(phi)`,
`σ = rx·ry·|det m|`) as a push-forward along `T`, that is a pull-back along `Inv T`. -/
theorem arcQ_push {m T : Mat K} {s c : K} (rx ry : K) (hT : rotateSC m s c = T) :
    HasForm (arcQ m rx ry (s, c))
      ((Form.mk (rx * ry * |Matrix.Det m| / rx / rx) 0 (rx * ry * |Matrix.Det m| / ry / ry)).push T.a T.b T.d T.e) := by
  subst hT
  exact conj_scale (Matrix.Inv (rotateSC m s c)) _ _

/-- `Q` is `σ` times the symmetric matrix of the form `V`; trace and determinant are there for the signs of the eigenvalues -/
structure ScaledPosForm (Q : Mat K) (σ : K) (V : Form K) : Prop where
  a : Q.a = σ * V.a
  b : Q.b = σ * V.b
  e : Q.e = σ * V.c
  symm : Q.b = Q.d
  tr_nonneg : 0 ≤ Q.a + Q.e
  det_pos : 0 < Matrix.Det Q

/-- `diag(σ/rx², σ/ry²)` pushed along `T = m·R(c,s)` is `σ` times the ellipse form pushed along `m`, and
`det T = det m`. -/
theorem arcQ_spec {m : Mat K} {rx ry s c : K} (hcs : c * c + s * s = 1) (hdet : Matrix.Det m ≠ 0)
    (hrx : 0 < rx) (hry : 0 < ry) :
    ScaledPosForm (arcQ m rx ry (s, c)) (rx * ry * |Matrix.Det m|) ((ellipseForm rx ry c s).push m.a m.b m.d m.e) := by
  have hA : 0 < |Matrix.Det m| := abs_pos.mpr hdet
  have hD : (m.a * c + m.b * s) * (m.e * c - m.d * s) - (m.b * c - m.a * s) * (m.d * c + m.e * s) = m.a * m.e - m.b * m.d := by
    linear_combination (m.a * m.e - m.b * m.d) * hcs
  have hq := arcQ_push rx ry (rotateSC_eq m s c)
  obtain ⟨htr, hdt⟩ := push_diag_pos (show 0 < rx * ry * |Matrix.Det m| / rx / rx by positivity)
    (show 0 < rx * ry * |Matrix.Det m| / ry / ry by positivity) (by rw [hD]; exact hdet)
  exact
    { a := by rw [hq.a]; simp only [Form.push, ellipseForm, hD]; ring
      b := by rw [hq.b]; simp only [Form.push, ellipseForm, hD]; ring
      e := by rw [hq.e]; simp only [Form.push, ellipseForm, hD]; ring
      symm := hq.b.trans hq.d.symm
      tr_nonneg := by rw [hq.a, hq.e]; exact htr
      det_pos := by rw [Matrix.Det, hq.a, hq.b, hq.d, hq.e]; exact hdt }

/-- the form of an ellipse with semi-axes `√(σ/l1), √(σ/l2)` along `v, v⊥` is `(l1 v vᵀ + l2 v⊥ v⊥ᵀ)/σ` -/
theorem ellipseForm_of_spec (L : Laws K) {Q : Mat K} {l1 l2 σ : K} {v : Pt K} (hσ : 0 < σ) (h1 : 0 < l1) (h2 : 0 < l2)
    (hS : SpecAt Q l1 l2 v) {W : Form K} (ha : Q.a = σ * W.a) (hb : Q.b = σ * W.b) (hc : Q.e = σ * W.c) :
    ellipseForm (Env.sqrt (σ / l1)) (Env.sqrt (σ / l2)) v.x v.y = W := by
  obtain ⟨sa, sb, se, _⟩ := hS
  have q1 := L.sqrt_sq (σ / l1) (by positivity)
  have q2 := L.sqrt_sq (σ / l2) (by positivity)
  cases W with | mk wa wb wc =>
  simp only at ha hb hc
  simp only [ellipseForm, q1, q2, one_div_div, Form.mk.injEq]
  have hσ' : σ ≠ 0 := hσ.ne'
  refine ⟨?_, ?_, ?_⟩
  · rw [eq_div_of_mul_eq hσ' ((mul_comm _ _).trans ha.symm), sa]; ring
  · rw [eq_div_of_mul_eq hσ' ((mul_comm _ _).trans hb.symm), sb]; ring
  · rw [eq_div_of_mul_eq hσ' ((mul_comm _ _).trans hc.symm), se]; ring

end C07
