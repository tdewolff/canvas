import CanvasModel.C20
/-! # C20 lemmas: token hand-over in well-formed traces, lockset ⇒ happens-before -/
namespace Canvas.C20

theorem holderAt_succ_none {tr : Trace} {tok : Tok} {k : Nat} (h : tr[k]? = none) :
    holderAt tr tok (k+1) = holderAt tr tok k := by
  simp [holderAt, h]

theorem holderAt_succ_some {tr : Trace} {tok : Tok} {k : Nat} {t : Tid} {e : Ev} (h : tr[k]? = some (t, e)) :
    holderAt tr tok (k+1) =
      if e.acq = some tok then some t else if e.rel = some tok then none else holderAt tr tok k := by
  simp [holderAt, h]

theorem heldBy_succ_none {tr : Trace} {t : Tid} {tok : Tok} {k : Nat} (h : tr[k]? = none) :
    heldBy tr t tok (k+1) = heldBy tr t tok k := by
  simp [heldBy, h]

theorem heldBy_succ_some {tr : Trace} {t : Tid} {tok : Tok} {k : Nat} {t' : Tid} {e : Ev} (h : tr[k]? = some (t', e)) :
    heldBy tr t tok (k+1) =
      if t' = t then (if e.acq = some tok then true else if e.rel = some tok then false else heldBy tr t tok k)
      else heldBy tr t tok k := by
  simp [heldBy, h]

theorem holderAt_kept_or_released {tr : Trace} (wf : WF tr) {tok : Tok} {k : Nat} {t : Tid}
    (h : holderAt tr tok k = some t) :
    holderAt tr tok (k+1) = some t ∨ ∃ e, tr[k]? = some (t, e) ∧ e.rel = some tok := by
  cases hk : tr[k]? with
  | none => exact .inl ((holderAt_succ_none hk).trans h)
  | some p =>
    obtain ⟨u, e⟩ := p
    have w := wf k u e tok hk
    rw [holderAt_succ_some hk]
    by_cases ha : e.acq = some tok
    · cases (w.1 ha).symm.trans h
    rw [if_neg ha]
    by_cases hr : e.rel = some tok
    · cases (w.2 hr).symm.trans h
      exact .inr ⟨e, rfl, hr⟩
    rw [if_neg hr]
    exact .inl h

theorem holderAt_kept_or_acquired {tr : Trace} (wf : WF tr) {tok : Tok} {k : Nat} {u : Tid}
    (h : holderAt tr tok (k+1) = some u) :
    holderAt tr tok k = some u ∨ holderAt tr tok k = none ∧ ∃ e, tr[k]? = some (u, e) ∧ e.acq = some tok := by
  cases hk : tr[k]? with
  | none => exact .inl ((holderAt_succ_none hk).symm.trans h)
  | some p =>
    obtain ⟨t, e⟩ := p
    rw [holderAt_succ_some hk] at h
    by_cases ha : e.acq = some tok
    · rw [if_pos ha] at h
      cases h
      exact .inr ⟨(wf k _ e tok hk).1 ha, e, rfl, ha⟩
    rw [if_neg ha] at h
    by_cases hr : e.rel = some tok
    · rw [if_pos hr] at h
      cases h
    rw [if_neg hr] at h
    exact .inl h

theorem heldBy_holder {tr : Trace} (wf : WF tr) {t : Tid} {tok : Tok} :
    ∀ k, heldBy tr t tok k = true → holderAt tr tok k = some t := by
  intro k
  induction k with
  | zero => intro h; cases h
  | succ k ih =>
    intro h
    cases hk : tr[k]? with
    | none =>
      rw [heldBy_succ_none hk] at h
      rw [holderAt_succ_none hk]; exact ih h
    | some p =>
      obtain ⟨t', e⟩ := p
      rw [heldBy_succ_some hk] at h
      by_cases htt : t' = t
      · subst htt
        rw [if_pos rfl] at h; rw [holderAt_succ_some hk]
        by_cases ha : e.acq = some tok
        · exact if_pos ha
        rw [if_neg ha] at h ⊢
        by_cases hr : e.rel = some tok
        · rw [if_pos hr] at h; cases h
        rw [if_neg hr] at h ⊢; exact ih h
      · -- a step of another thread: it can neither acquire what `t` holds nor release it
        rw [if_neg htt] at h
        rcases holderAt_kept_or_released wf (ih h) with h' | ⟨_, hk', _⟩
        · exact h'
        · cases hk.symm.trans hk'
          exact absurd rfl htt

theorem holderAt_release {tr : Trace} (wf : WF tr) {tok : Tok} {t : Tid} {i : Nat} :
    ∀ j, i ≤ j → holderAt tr tok i = some t → holderAt tr tok j ≠ some t →
      ∃ c e, i ≤ c ∧ c < j ∧ tr[c]? = some (t, e) ∧ e.rel = some tok := by
  intro j
  induction j with
  | zero => intro hij hi hj; cases Nat.le_zero.mp hij; exact absurd hi hj
  | succ j ih =>
    intro hij hi hj
    rcases Nat.lt_or_ge j i with h | h
    · cases Nat.le_antisymm hij h; exact absurd hi hj
    by_cases hjt : holderAt tr tok j = some t
    · rcases holderAt_kept_or_released wf hjt with h' | ⟨e, hk, hr⟩
      · exact absurd h' hj
      · exact ⟨j, e, h, Nat.lt_succ_self j, hk, hr⟩
    · obtain ⟨c, e, h1, h2, h3⟩ := ih h hi hjt
      exact ⟨c, e, h1, Nat.lt_succ_of_lt h2, h3⟩

theorem holderAt_handover {tr : Trace} (wf : WF tr) {tok : Tok} {t u : Tid} (htu : t ≠ u) {i : Nat} :
    ∀ j, i ≤ j → holderAt tr tok i = some t → holderAt tr tok j = some u →
      ∃ c b e e', i ≤ c ∧ c < b ∧ b < j ∧ tr[c]? = some (t, e) ∧ e.rel = some tok ∧
        tr[b]? = some (u, e') ∧ e'.acq = some tok := by
  intro j
  induction j with
  | zero => intro _ _ hj; cases hj
  | succ j ih =>
    intro hij hi hj
    rcases Nat.lt_or_ge j i with h | h
    · cases Nat.le_antisymm hij h; rw [hi] at hj; cases hj; exact absurd rfl htu
    rcases holderAt_kept_or_acquired wf hj with h' | ⟨hfree, e', hk, ha⟩
    · obtain ⟨c, b, e, e', h1, h2, h3, h4⟩ := ih h hi h'
      exact ⟨c, b, e, e', h1, h2, Nat.lt_succ_of_lt h3, h4⟩
    · -- `u` takes the free token at `j`: `t` has released it before
      obtain ⟨c, e, h1, h2, h3, h4⟩ := holderAt_release wf j h hi (by rw [hfree]; exact nofun)
      exact ⟨c, j, e, e', h1, h2, Nat.lt_succ_self j, h3, h4, hk, ha⟩

theorem hb_of_common_token {tr : Trace} (wf : WF tr) {tok : Tok} {i j : Nat} {t u : Tid} {ei ej : Ev}
    (hij : i < j) (htu : t ≠ u) (hi : tr[i]? = some (t, ei)) (hj : tr[j]? = some (u, ej))
    (hti : heldBy tr t tok i = true) (htj : heldBy tr u tok j = true) : HB tr i j := by
  obtain ⟨c, b, e, e', hc, hcb, hbj, hce, hrel, hbe, hacq⟩ :=
    holderAt_handover wf htu j (Nat.le_of_lt hij) (heldBy_holder wf i hti) (heldBy_holder wf j htj)
  have hcj : HB tr c j := HB.trans (HB.sync hcb hce hbe hrel hacq) (HB.po hbj hbe hj)
  -- the release at `c` may be the event `i` itself
  rcases Nat.eq_or_lt_of_le hc with rfl | hic
  · exact hcj
  · exact HB.trans (HB.po hic hi hce) hcj

/-- the nine clauses of `ObeysAt` come to four, one per kind of access; these are what `obeysB` evaluates -/
theorem ObeysAt.of_accesses {body : String → List String} {prot : Prot} {tr : Trace} {x : String}
    (rd : ∀ (k : Nat) (t : Tid), tr[k]? = some (t, Ev.read x) → match prot with
      | .guarded tok => heldBy tr t tok k = true
      | .byOnce o => ∃ k', k' < k ∧ tr[k']? = some (t, Ev.onceDo o)
      | .readOnly => True
      | .atomicOnly => False)
    (wr : ∀ (k : Nat) (t : Tid), tr[k]? = some (t, Ev.write x) → ∃ tok, prot = .guarded tok ∧ heldBy tr t tok k = true)
    (bd : ∀ o, x ∈ body o → prot = .byOnce o)
    (atom : ∀ (k : Nat) (t : Tid), tr[k]? = some (t, Ev.atomicOp x) → prot = .atomicOnly) : ObeysAt body prot tr x where
  rdLock k t tok h hp := by subst hp; exact rd k t h
  rdOnce k t o h hp := by subst hp; exact rd k t h
  wrLock k t tok h hp := by obtain ⟨_, e, hh⟩ := wr k t h; cases hp.symm.trans e; exact hh
  wrOnce k t o h hp := by obtain ⟨_, e, _⟩ := wr k t h; cases hp.symm.trans e
  wrRO k t h hp := by obtain ⟨_, e, _⟩ := wr k t h; cases hp.symm.trans e
  inBody := bd
  rdAtomic k t h hp := by subst hp; exact rd k t h
  wrAtomic k t h hp := by obtain ⟨_, e, _⟩ := wr k t h; cases hp.symm.trans e
  atOnly := atom

/-- under a once, reads and the write have one form: an own call `k'` of the once at or before `k`,
which for the write is `k` itself -/
theorem ObeysAt.access {body : String → List String} {prot : Prot} {tr : Trace} {x : String}
    (ob : ObeysAt body prot tr x) {k : Nat} (h : writesAt body tr k x ∨ readsAt tr k x ∨ atomicAt tr k x) :
    ∃ t e, tr[k]? = some (t, e) ∧ match prot with
    | .guarded tok => heldBy tr t tok k = true
    | .byOnce o => ∃ k', k' ≤ k ∧ tr[k']? = some (t, .onceDo o) ∧
        (writesAt body tr k x → k = k' ∧ firstOnce tr k o)
    | .readOnly => ¬ writesAt body tr k x ∧ ¬ atomicAt tr k x
    | .atomicOnly => atomicAt tr k x := by
  -- by the kind of access first: a once body and an atomic operation fix `prot` by themselves
  rcases h with (⟨t, h⟩ | ⟨t, o, h, hf, hb⟩) | ⟨t, h⟩ | ⟨t, h⟩ <;> refine ⟨t, _, h, ?_⟩
  · cases prot with
    | guarded tok => exact ob.wrLock _ _ _ h rfl
    | byOnce o => exact absurd rfl (ob.wrOnce _ _ o h)
    | readOnly => exact absurd rfl (ob.wrRO _ _ h)
    | atomicOnly => exact absurd rfl (ob.wrAtomic _ _ h)
  · cases ob.inBody o hb
    exact ⟨k, Nat.le_refl k, h, fun _ => ⟨rfl, hf⟩⟩
  · have nw : ¬ writesAt body tr k x := by
      rintro (⟨_, h'⟩ | ⟨_, _, h', _⟩) <;> cases h.symm.trans h'
    cases prot with
    | guarded tok => exact ob.rdLock _ _ _ h rfl
    | byOnce o =>
      obtain ⟨k', hlt, hk'⟩ := ob.rdOnce _ _ o h rfl
      exact ⟨k', Nat.le_of_lt hlt, hk', fun w => absurd w nw⟩
    | readOnly => exact ⟨nw, fun ⟨_, h'⟩ => nomatch h.symm.trans h'⟩
    | atomicOnly => exact absurd rfl (ob.rdAtomic _ _ h)
  · cases ob.atOnly _ _ h
    exact ⟨t, h⟩

theorem no_race_at (body : String → List String) (prot : Prot) {tr : Trace} (wf : WF tr) (x : String)
    (ob : ObeysAt body prot tr x) : ∀ i j, ¬ Race body tr i j x := by
  intro i j ⟨hij, htid, acci, accj, hw, hnat, hnhb⟩
  obtain ⟨t, ei, hi, ni⟩ := ob.access acci
  obtain ⟨u, ej, hj, nj⟩ := ob.access accj
  have htu : t ≠ u := by
    intro h; subst h; apply htid; simp [tidAt, hi, hj]
  cases prot with
  | atomicOnly => exact hnat ⟨ni, nj⟩
  | readOnly =>
    rcases hw with h | h | h | h
    · exact ni.1 h
    · exact nj.1 h
    · exact ni.2 h
    · exact nj.2 h
  | guarded tok => exact hnhb (hb_of_common_token wf hij htu hi hj ni nj)
  | byOnce o =>
    obtain ⟨a, hai, ha, wi⟩ := ni
    obtain ⟨b, hbj, hb, wj⟩ := nj
    -- the writer is the first `onceDo o` of all; it is not `j`, which the call at `a ≤ i` precedes
    have hwi : writesAt body tr i x := by
      rcases hw with h | h | ⟨_, h⟩ | ⟨_, h⟩
      · exact h
      · exact absurd ha ((wj h).2 a t (Nat.lt_of_le_of_lt hai hij))
      · cases ob.atOnly _ _ h
      · cases ob.atOnly _ _ h
    obtain ⟨rfl, hfi⟩ := wi hwi
    -- so the call of `u` at `b ≤ j` comes after it, and once completion, then program order, give `HB i j`
    have hib : i < b := by
      rcases Nat.lt_trichotomy i b with h | h | h
      · exact h
      · subst h; cases ha.symm.trans hb; exact absurd rfl htu
      · exact absurd hb (hfi b u h)
    have h1 : HB tr i b := HB.once hib ha hfi hb
    rcases Nat.lt_or_ge b j with h | h
    · exact hnhb (HB.trans h1 (HB.po h hb hj))
    · cases Nat.le_antisymm hbj h; exact hnhb h1

/-- two atomic operations on one location are no data race, whatever the order -/
theorem atomic_pair_no_race (body : String → List String) (tr : Trace) (i j : Nat) (x : String)
    (hi : atomicAt tr i x) (hj : atomicAt tr j x) : ¬ Race body tr i j x :=
  fun ⟨_, _, _, _, _, notBothAtomic, _⟩ => notBothAtomic ⟨hi, hj⟩

end Canvas.C20
