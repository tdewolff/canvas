import CanvasGen.CoreK
import CanvasGen.BezierK
import Mathlib.Tactic.Ring
/-! C03: the cubic that `ellipseToCubicBeziers` (path_util.go:295) puts on a 90° piece of the unit circle. -/
set_option linter.unusedSectionVars false
namespace C03L
open Canvas GenK
variable {K : Type} [Field K] [LinearOrder K] [IsStrictOrderedRing K] [Env K]

/-- the control length of path_util.go:301: `sin(dθ)·(sqrt(4 + 3·tan²(dθ/2)) − 1)/3`, with the values of
sin, tan and the square root as arguments -/
def kappaK (sinD sq : K) : K := sinD * (sq - 1) / 3

theorem quarter_midpoint (k : K) :
    cubicBezierPos (Pt.mk 1 0) (Pt.mk 1 k) (Pt.mk k 1) (Pt.mk 0 1) (1 / 2) = ⟨(4 + 3 * k) / 8, (4 + 3 * k) / 8⟩ := by
  simp only [cubicBezierPos, Point.Mul, Point.Add]; congr 1 <;> ring

end C03L
