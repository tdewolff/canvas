import CanvasModel.C02.Verdict
import CanvasProofs.Lemmas.Wn
/-! The C02 verdict is `ok` exactly on the observations that satisfy `Holds` (`verdict_eq_ok`), which
is monotone in the tolerance; symmetries of the per-point judgement. -/
namespace Canvas.C02
open Canvas Canvas.Wn

/-- what the property demands of one judged point, in terms of the two winding numbers -/
def PointOK (rule : Rule) (wp wr : Int) : Prop :=
  rule.fills wp = Rule.nonZero.fills wr ∧ (wr = 0 ∨ wr = 1)

theorem pointClass_none_iff (rule : Rule) (wp wr : Int) :
    pointClass rule wp wr = none ↔ PointOK rule wp wr := by
  unfold pointClass PointOK
  by_cases h1 : rule.fills wp = Rule.nonZero.fills wr
  · by_cases h2 : wr = 0 <;> simp [h1, h2]
  · simp [h1]

theorem scanPts_eq_ok (rule : Rule) (P R : List (List IPt)) (d2 : Int) (pts : List IPt) (idx c k c' k' : Nat) :
    scanPts rule P R d2 pts idx c k = .ok c' k' ↔
      (∀ p ∈ pts, judged P R d2 p = true → pointClass rule (wn p P) (wn p R) = none) ∧
      c' = c + pts.countP (judged P R d2) ∧ k' = k + pts.countP (fun p => ¬ judged P R d2 p) := by
  induction pts generalizing idx c k with
  | nil => simp [scanPts, eq_comm (a := c), eq_comm (a := k)]
  | cons p rest ih =>
    simp only [scanPts, List.forall_mem_cons]
    by_cases hj : judged P R d2 p = true
    · rw [if_pos hj, List.countP_cons_of_pos hj, List.countP_cons_of_neg (by simpa using hj),
        ← Nat.add_assoc, Nat.add_right_comm c]
      cases hc : pointClass rule (wn p P) (wn p R) with
      | some cls => simp [hj]
      | none => simp only [ih, hj, true_implies, true_and]
    · rw [if_neg hj, List.countP_cons_of_neg hj, List.countP_cons_of_pos (by simpa using hj),
        ← Nat.add_assoc, Nat.add_right_comm k, ih]
      simp only [hj, Bool.false_eq_true, false_implies, true_and]

/-- a `crosses` verdict comes from `firstCross` alone; no theorem here reads the failing verdicts -/
theorem scanPts_ne_crosses (rule : Rule) (P R : List (List IPt)) (d2 : Int) (pts : List IPt) (idx c k i j : Nat) :
    scanPts rule P R d2 pts idx c k ≠ .crosses i j := by
  induction pts generalizing idx c k with
  | nil => exact Verdict.noConfusion
  | cons p rest ih =>
    rw [scanPts]
    split
    · split
      · exact Verdict.noConfusion
      · exact ih _ _ _
    · exact ih _ _ _

theorem firstCrossWith_none (d2 : Int) (s : IPt × IPt) (l : List (IPt × IPt)) (j : Nat) :
    firstCrossWith d2 s l j = none ↔ ∀ t ∈ l, crossFar d2 s t = false := by
  induction l generalizing j with
  | nil => simp [firstCrossWith]
  | cons t rest ih =>
    rw [firstCrossWith, List.forall_mem_cons, ← ih (j + 1)]
    cases crossFar d2 s t <;> simp

def NoCross (d2 : Int) (l : List (IPt × IPt)) : Prop := l.Pairwise (fun s t => crossFar d2 s t = false)

theorem firstCross_none (d2 : Int) (l : List (IPt × IPt)) (i : Nat) :
    firstCross d2 l i = none ↔ NoCross d2 l := by
  induction l generalizing i with
  | nil => simp [firstCross, NoCross]
  | cons s rest ih =>
    simp only [firstCross, NoCross, List.pairwise_cons, ← firstCrossWith_none d2 s rest (i + 1)]
    cases firstCrossWith d2 s rest (i + 1) with
    | some j => simp
    | none => simpa [NoCross] using ih (i + 1)

/-- what the property demands of one observation (input P, result R, query points, tolerance) -/
def Holds (rule : Rule) (P R : List (List IPt)) (pts : List IPt) (d2 : Int) : Prop :=
  (∀ p ∈ pts, judged P R d2 p = true → PointOK rule (wn p P) (wn p R)) ∧ NoCross d2 (allSegs R)

theorem verdict_eq_ok (rule : Rule) (P R : List (List IPt)) (pts : List IPt) (d2 : Int) (c k : Nat) :
    verdict rule P R pts d2 = .ok c k ↔ Holds rule P R pts d2 ∧
      c = pts.countP (judged P R d2) ∧ k = pts.countP (fun p => ¬ judged P R d2 p) := by
  have hv : verdict rule P R pts d2 = .ok c k ↔
      scanPts rule P R d2 pts 0 0 0 = .ok c k ∧ firstCross d2 (allSegs R) 0 = none := by
    rw [verdict]
    cases scanPts rule P R d2 pts 0 0 0 <;> cases firstCross d2 (allSegs R) 0 <;> simp
  rw [hv, scanPts_eq_ok, firstCross_none, and_right_comm, Holds]
  simp only [pointClass_none_iff, Nat.zero_add]

theorem verdict_ok_sound (rule : Rule) (P R : List (List IPt)) (pts : List IPt) (d2 : Int) (c k : Nat)
    (h : verdict rule P R pts d2 = .ok c k) : Holds rule P R pts d2 ∧ c + k = pts.length := by
  obtain ⟨hh, rfl, rfl⟩ := (verdict_eq_ok ..).mp h
  exact ⟨hh, (List.length_eq_countP_add_countP _).symm⟩

theorem judged_mono {P R : List (List IPt)} {d d' : Int} (hd : d ≤ d') {p : IPt}
    (h : judged P R d' p = true) : judged P R d p = true := by
  simp only [judged, Bool.and_eq_true] at h ⊢
  exact ⟨farFromAll_mono p d d' hd P h.1, farFromAll_mono p d d' hd R h.2⟩

theorem crossFar_mono {d d' : Int} (hd : d ≤ d') {s t : IPt × IPt} (h : crossFar d s t = false) :
    crossFar d' s t = false := by
  refine Bool.eq_false_iff.mpr fun h' => Bool.eq_false_iff.mp h ?_
  simp only [crossFar, Bool.and_eq_true] at h' ⊢
  obtain ⟨⟨⟨⟨h0, h1⟩, h2⟩, h3⟩, h4⟩ := h'
  exact ⟨⟨⟨⟨h0, farFromSeg_mono _ _ _ _ _ hd h1⟩, farFromSeg_mono _ _ _ _ _ hd h2⟩,
    farFromSeg_mono _ _ _ _ _ hd h3⟩, farFromSeg_mono _ _ _ _ _ hd h4⟩

/-- at a larger tolerance fewer points are judged and fewer crossings count -/
theorem holds_mono {rule : Rule} {P R : List (List IPt)} {pts : List IPt} {d d' : Int} (hd : d ≤ d')
    (h : Holds rule P R pts d) : Holds rule P R pts d' :=
  ⟨fun p hp hj => h.1 p hp (judged_mono hd hj), h.2.imp (crossFar_mono hd)⟩

theorem pointClass_congr {r r' : Rule} {wp wp' : Int} (wr : Int) (h : r.fills wp = r'.fills wp') :
    pointClass r wp wr = pointClass r' wp' wr := by
  simp only [pointClass, h]

end Canvas.C02
