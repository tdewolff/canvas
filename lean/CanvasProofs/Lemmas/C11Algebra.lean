import Mathlib.Tactic.Ring
import Mathlib.Tactic.LinearCombination
/-! Helper algebra for C11 over any field: degree elevation in one coordinate and the point of an
ellipse under ToSVG's rx/ry swap. -/
namespace C11L
variable {K : Type} [Field K]

/-- all that is used of the weight 2/3 is `3 · w = 2`: the two sides differ by a multiple of `3 · w - 2` -/
theorem elevation_coord {w : K} (hw : 3 * w = 2) (a b c t : K) :
    (1 - 3 * t + 3 * t * t - t * t * t) * a + (3 * t - 6 * t * t + 3 * t * t * t) * ((1 - w) * a + w * b)
        + (3 * t * t - 3 * t * t * t) * ((1 - w) * c + w * b) + t * t * t * c =
      (1 - 2 * t + t * t) * a + (2 * t - 2 * t * t) * b + t * t * c := by
  linear_combination (-(t - 2 * t ^ 2 + t ^ 3) * a + (t - t ^ 2) * b - (t ^ 2 - t ^ 3) * c) * hw

/-- point of the ellipse with radii `rx, ry` whose major axis has direction `(c, s)`, at the
parameter with cosine/sine `(u, v)`, relative to the centre -/
def ellipsePoint (rx ry c s u v : K) : K × K := (c * (rx * u) - s * (ry * v), s * (rx * u) + c * (ry * v))

theorem ellipse_swap_pt (rx ry c s u v : K) :
    ellipsePoint ry rx s (-c) (-v) u = ellipsePoint rx ry c s u v := by
  simp only [ellipsePoint]
  refine Prod.ext ?_ ?_ <;> simp only [] <;> ring

end C11L
