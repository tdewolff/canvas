import CanvasModel.C20.Pool
import CanvasProofs.Lemmas.Basic
/-! # C20 lemmas: soundness of the pool-protocol verdicts -/
namespace Canvas.C20

def InitOp.Respects {α : Type} (op : InitOp α) : Prop :=
  ∀ g s s', (∀ d, d ∈ op.deps → s d = s' d) → op.val g s = op.val g s'

theorem runInit_agree {α : Type} (fields : List String) :
    ∀ (ops : List (InitOp α)) (a : List String) (s s' : String → α),
      (∀ op, op ∈ ops → op.Respects) → readsAssigned fields ops a →
      (∀ g, g ∈ a → s g = s' g) →
      ∀ g, g ∈ assignedAfter fields ops a → runInit ops s g = runInit ops s' g := by
  intro ops
  induction ops with
  | nil => intro a s s' _ _ hag g hga; exact hag g hga
  | cons op ops ih =>
    intro a s s' hres hra hag g hga
    simp only [runInit]
    simp only [assignedAfter] at hga
    obtain ⟨hdeps, hra'⟩ := hra
    refine ih _ (op.run s) (op.run s') (fun o ho => hres o (List.mem_cons_of_mem _ ho)) hra' ?_ g hga
    intro g' hga'
    have hval : op.val g' s = op.val g' s' :=
      hres op (List.mem_cons_self ..) g' s s' (fun d hd => hag d (hdeps d hd))
    -- where the statement assigns, both sides are `hval`; elsewhere `g'` was assigned before
    simp only [InitOp.run, hval]
    by_cases hc : (op.all || g' == op.f) = true
    · rw [if_pos hc, if_pos hc]
    · rw [if_neg hc, if_neg hc]
      simp only [Bool.or_eq_true, beq_iff_eq, not_or, Bool.not_eq_true] at hc
      rw [hc.1, if_neg Bool.false_ne_true] at hga'
      exact hag g' ((List.mem_cons.mp hga').resolve_left hc.2)

theorem GetSite.assigned_of_stateless {g : GetSite} (h : g.stateless = true) :
    ∀ f, f ∈ g.fields → f ∈ g.assigned := by
  simp only [GetSite.stateless, Bool.and_eq_true] at h
  exact mem_of_all_contains h.2

theorem initOk_assigns (fields : List String) :
    ∀ (steps : List InitStep) (a : List String), initOk fields steps a = true →
      fields.all (assignedBy fields steps a).contains = true
  | [], a, h => h
  | s :: rest, a, h => by
    simp only [initOk, Bool.and_eq_true] at h
    unfold assignedBy
    cases hkind : s.kind with
    | use =>
      rw [hkind] at h
      exact h.2
    | _ =>
      rw [hkind] at h
      exact initOk_assigns fields rest _ h.2

theorem initOk_sound {α : Type} (fields : List String) (sem : InitStep → String → (String → α) → α) :
    ∀ (steps : List InitStep) (a : List String), initOk fields steps a = true →
      readsAssigned fields (toOps fields sem steps) a ∧
      ∀ f, f ∈ fields → f ∈ assignedAfter fields (toOps fields sem steps) a := by
  intro steps
  induction steps with
  | nil =>
    intro a h
    simp only [initOk] at h
    exact ⟨trivial, fun f hf => by simpa [toOps, assignedAfter] using mem_of_all_contains h f hf⟩
  | cons s rest ih =>
    intro a h
    simp only [initOk, Bool.and_eq_true, Bool.or_eq_true, Bool.not_eq_true'] at h
    obtain ⟨⟨hr, hw⟩, hk⟩ := h
    have hdeps : ∀ d, d ∈ (if s.whole then fields ++ s.reads else s.reads) → d ∈ a := by
      intro d hd
      by_cases hwh : s.whole = true
      · simp only [hwh, if_true, List.mem_append] at hd
        rcases hw with hw | hw
        · rw [hwh] at hw; cases hw
        · rcases hd with hd | hd
          · exact mem_of_all_contains hw d hd
          · exact mem_of_all_contains hr d hd
      · simp only [hwh, Bool.false_eq_true, if_false] at hd
        exact mem_of_all_contains hr d hd
    cases hkind : s.kind with
    | use =>
      rw [hkind] at hk
      simp only [toOps, hkind, readsAssigned, assignedAfter]
      exact ⟨trivial, mem_of_all_contains hk⟩
    | _ =>
      rw [hkind] at hk
      obtain ⟨h1, h2⟩ := ih _ hk
      simp only [toOps, hkind, readsAssigned, assignedAfter]
      exact ⟨⟨hdeps, by simpa using h1⟩, by simpa using h2⟩

theorem toOps_respects {α : Type} (fields : List String) (sem : InitStep → String → (String → α) → α)
    (hs : SemRespects fields sem) : ∀ steps op, op ∈ toOps fields sem steps → op.Respects := by
  intro steps
  induction steps with
  | nil => intro op h; simp [toOps] at h
  | cons s rest ih =>
    intro op h
    cases hkind : s.kind with
    | use => simp [toOps, hkind] at h
    | _ =>
      simp only [toOps, hkind, List.mem_cons] at h
      rcases h with rfl | h
      · exact hs s
      · exact ih op h

theorem initOk_stateless {α : Type} (fields : List String) (steps : List InitStep)
    (h : initOk fields steps [] = true)
    (sem : InitStep → String → (String → α) → α) (hs : SemRespects fields sem) :
    ∀ (stale stale' : String → α) f, f ∈ fields →
      runInit (toOps fields sem steps) stale f = runInit (toOps fields sem steps) stale' f := by
  obtain ⟨h1, h2⟩ := initOk_sound fields sem steps [] h
  intro stale stale' f hf
  exact runInit_agree fields _ [] stale stale' (toOps_respects fields sem hs steps) h1
    (fun g hg => by cases hg) f (h2 f hf)

theorem gen_only_release {ks : List StmtKind} {tr : List PEv}
    (hks : ks.all (· != .other) = true) (hg : Gen ks tr) : ∀ e, e ∈ tr → e.isRelease = true := by
  induction hg with
  | nil => intro e h; cases h
  | other _ _ _ => simp at hks
  | release hseg _ ih =>
    simp only [List.all_cons, Bool.and_eq_true] at hks
    intro e he
    rcases List.mem_append.mp he with h | h
    · exact hseg e h
    · exact ih hks.2 e h
  | ret => intro e h; cases h

/-- "after a put, only releases" as a relation between any two events in order: it splits over `++`
by itself, where the form with `tr = a ++ put id :: b` has to find the put in one of the two parts -/
theorem tailOk_pairwise {ks : List StmtKind} {tr : List PEv} (hk : tailOk ks = true) (hg : Gen ks tr) :
    tr.Pairwise fun x y => x.isPut = true → y.isRelease = true := by
  induction hg with
  | nil => exact .nil
  | ret => exact .nil
  | release hseg hrest _ =>
    -- no `other` statement from this release statement on: every event is a release
    exact List.pairwise_of_forall_mem_list fun _ _ y hy _ =>
      gen_only_release (ks := .release :: _) hk (.release hseg hrest) y hy
  | @other _ seg _ hseg _ ih =>
    have noput : ∀ x, x ∈ seg → ∀ y : PEv, x.isPut = true → y.isRelease = true :=
      fun x hx _ hp => nomatch (hseg x hx).1.symm.trans hp
    exact List.pairwise_append.mpr
      ⟨List.pairwise_of_forall_mem_list fun x hx y _ => noput x hx y, ih hk, fun x hx y _ => noput x hx y⟩

theorem tailOk_sound : ∀ (ks : List StmtKind) (tr : List PEv), tailOk ks = true → Gen ks tr →
    ∀ (a b : List PEv) (id : Nat), tr = a ++ PEv.put id :: b → ∀ e, e ∈ b → e.isRelease = true := by
  intro ks tr hk hg a b id h e he
  have hp := tailOk_pairwise hk hg
  rw [h] at hp
  exact List.rel_of_pairwise_cons (List.pairwise_append.mp hp).2.1 he rfl

end Canvas.C20
