import CanvasModel.C01Merge
import CanvasProofs.Lemmas.C01Column
/-! `mergeOverlapping` over a run of coincident segments in a column keeps the crossing sums of
`C01Column` (what every segment above the run sees) and zeroes the absorbed segments. Throughout,
`(absorb s below).1` is the receiver, `.2.1` the absorbed entries, `.2.2` the rest of the chain.
Core only. -/
namespace Canvas.C01Merge
open Canvas.C01

/-- view of a chain as the (segment, fields) pairs of the column model -/
def pairs (l : List Ent) : List (Seg × Fields) := l.map fun e => (e.seg, e.f)

theorem sums_cons (e : Ent) (l : List Ent) :
    sums (pairs (e :: l)) = ((contrib e.seg e.f).1 + (sums (pairs l)).1, (contrib e.seg e.f).2 + (sums (pairs l)).2) := rfl

theorem addSelf_seg (s p : Ent) : (addSelf s p).seg = s.seg ∧ (addSelf s p).geom = s.geom ∧
    (addSelf s p).overlapped = s.overlapped := by
  unfold addSelf; split <;> simp

theorem addSelf_contrib (s p : Ent) (hv : p.seg.vertical = s.seg.vertical) :
    contrib (addSelf s p).seg (addSelf s p).f
      = ((contrib s.seg s.f).1 + (contrib p.seg p.f).1, (contrib s.seg s.f).2 + (contrib p.seg p.f).2) := by
  unfold addSelf contrib
  cases hsv : s.seg.vertical <;> cases hsc : s.seg.clipping <;> cases hpc : p.seg.clipping <;>
    simp_all

theorem contrib_zero (sg : Seg) : contrib sg zeroF = (0, 0) := by
  unfold contrib zeroF; split <;> (try split) <;> rfl

/-- 51f64dd: `if s.open && !prev.open { s.open = false }` -/
theorem closeOn_seg (s p : Ent) :
    (closeOn s p).seg.clipping = s.seg.clipping ∧ (closeOn s p).seg.vertical = s.seg.vertical ∧
    (closeOn s p).seg.increasing = s.seg.increasing ∧ (closeOn s p).geom = s.geom ∧
    (closeOn s p).overlapped = s.overlapped ∧ (closeOn s p).f = s.f := by
  unfold closeOn; split <;> simp

theorem closeOn_open (s p : Ent) : (closeOn s p).seg.open_ = (s.seg.open_ && p.seg.open_) := by
  unfold closeOn
  cases hs : s.seg.open_ <;> cases hp : p.seg.open_ <;> simp [hs]

/-- `contrib` (hence the crossing sums) does not read `open_` -/
theorem contrib_closeOn (s p : Ent) (f : Fields) : contrib (closeOn s p).seg f = contrib s.seg f := by
  obtain ⟨h1, h2, _⟩ := closeOn_seg s p
  unfold contrib; rw [h1, h2]

theorem expected_congr (a b : Seg) (h : a.clipping = b.clipping) (sc : Int × Int) :
    expected a sc = expected b sc := by
  unfold expected; rw [h]

/-- `hv`: coincident segments agree on being vertical (they have the same endpoints) -/
theorem absorb_sums (s : Ent) (below : List Ent)
    (hv : ∀ p ∈ below, p.geom = s.geom → p.seg.vertical = s.seg.vertical) :
    sums (pairs ((absorb s below).1 :: ((absorb s below).2.1 ++ (absorb s below).2.2)))
      = sums (pairs (s :: below)) := by
  fun_induction absorb s below with
  | case1 s => rfl
  | case2 s p rest hc => rfl
  | case3 s p rest hc r ih =>
    have hg : p.geom = s.geom := by
      simp only [Bool.or_eq_true, bne_iff_ne, ne_eq, not_or, Decidable.not_not] at hc; exact hc.2
    obtain ⟨cc, cv, ci, cgeo, cov, cf⟩ := closeOn_seg s p
    obtain ⟨sg, sgeo, sov⟩ := addSelf_seg (closeOn s p) p
    have e1 := ih fun q hq hqg => by
      rw [sg, cv]
      exact hv q (List.mem_cons_of_mem _ hq) (by rw [hqg, sgeo, cgeo])
    have := addSelf_contrib (closeOn s p) p (by rw [cv]; exact hv p List.mem_cons_self hg)
    simp only [r, List.cons_append, sums_cons, contrib_zero] at e1 ⊢
    rw [this, contrib_closeOn, cf] at e1
    simp only [Prod.mk.injEq] at e1 ⊢
    omega

theorem absorb_seg_flags (s : Ent) (below : List Ent) :
    (absorb s below).1.seg.clipping = s.seg.clipping ∧
    (absorb s below).1.seg.vertical = s.seg.vertical ∧
    (absorb s below).1.seg.increasing = s.seg.increasing := by
  fun_induction absorb s below with
  | case1 s => exact ⟨rfl, rfl, rfl⟩
  | case2 s p rest hc => exact ⟨rfl, rfl, rfl⟩
  | case3 s p rest hc r ih =>
    obtain ⟨cc, cv, ci, _⟩ := closeOn_seg s p
    rw [(addSelf_seg (closeOn s p) p).1, cc, cv, ci] at ih
    exact ih

/-- `e.seg.open_` is the flag `e` had in `below`: `absorb` changes `f` and `overlapped` of what it
absorbs, never `seg` -/
theorem absorb_open_iff (s : Ent) (below : List Ent) :
    (absorb s below).1.seg.open_ = true ↔
      s.seg.open_ = true ∧ ∀ e ∈ (absorb s below).2.1, e.seg.open_ = true := by
  fun_induction absorb s below with
  | case1 s => simp
  | case2 s p rest hc => simp
  | case3 s p rest hc r ih =>
    rw [(addSelf_seg (closeOn s p) p).1, closeOn_open] at ih
    simp only [ih, r, Bool.and_eq_true, List.mem_cons, forall_eq_or_imp, and_assoc]

theorem absorb_zeroed (s : Ent) (below : List Ent) :
    ∀ e ∈ (absorb s below).2.1, e.f = zeroF ∧ e.overlapped = true := by
  fun_induction absorb s below with
  | case1 s => simp
  | case2 s p rest hc => simp
  | case3 s p rest hc r ih =>
    intro e he
    rcases List.mem_cons.mp he with rfl | he
    · exact ⟨rfl, rfl⟩
    · exact ih e he

theorem absorb_split (s : Ent) (below : List Ent) :
    ∃ pre, below = pre ++ (absorb s below).2.2 ∧ pre.length = (absorb s below).2.1.length := by
  fun_induction absorb s below with
  | case1 s => exact ⟨[], rfl, rfl⟩
  | case2 s p rest hc => exact ⟨[], rfl, rfl⟩
  | case3 s p rest hc r ih =>
    obtain ⟨pre, e1, e2⟩ := ih
    exact ⟨p :: pre, congrArg (p :: ·) e1, congrArg (· + 1) e2⟩

theorem sums_zeroed (a rest : List Ent) (hz : ∀ e ∈ a, e.f = zeroF ∧ e.overlapped = true) :
    sums (pairs (a ++ rest)) = sums (pairs rest) := by
  induction a with
  | nil => rfl
  | cons e a ih =>
    have h1 := (hz e List.mem_cons_self).1
    have h2 := ih (fun q hq => hz q (List.mem_cons_of_mem _ hq))
    simp only [List.cons_append, sums_cons, h1, contrib_zero, h2]
    simp

theorem contrib_merged (s : Ent) (rest : List Ent) :
    contrib s.seg (mergedFields s rest) = contrib s.seg s.f := by
  cases rest with
  | nil => rfl
  | cons p r => simp only [mergedFields]; split <;> rfl

theorem merge_cases (s : Ent) (below : List Ent) :
    ((merge s below).s = s ∧ (merge s below).below = below ∧ (merge s below).touched = false) ∨
    ((merge s below).s =
        { (absorb s below).1 with f := mergedFields (absorb s below).1 (absorb s below).2.2 } ∧
      (merge s below).below = (absorb s below).2.1 ++ (absorb s below).2.2 ∧
      (merge s below).touched = true) := by
  unfold merge
  by_cases h1 : s.overlapped = true
  · rw [if_pos h1]; exact .inl ⟨rfl, rfl, rfl⟩
  · by_cases h2 : (absorb s below).2.1.isEmpty = true
    · simp [h1, h2]
    · simp [h1, h2]

theorem merge_of_touched {s : Ent} {below : List Ent} (ht : (merge s below).touched = true) :
    (merge s below).s =
        { (absorb s below).1 with f := mergedFields (absorb s below).1 (absorb s below).2.2 } ∧
      (merge s below).below = (absorb s below).2.1 ++ (absorb s below).2.2 := by
  rcases merge_cases s below with ⟨-, -, h⟩ | ⟨e1, e2, -⟩
  · rw [h] at ht; cases ht
  · exact ⟨e1, e2⟩

end Canvas.C01Merge
