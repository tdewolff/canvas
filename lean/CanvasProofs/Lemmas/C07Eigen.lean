import CanvasProofs.Lemmas.C07Basics

set_option linter.unusedSectionVars false
namespace C07
open Canvas Canvas.C07 GenK

variable {K : Type} [Field K] [LinearOrder K] [IsStrictOrderedRing K] [Env K]

theorem ite_fst_none {p : Prop} [Decidable p] {x y : Option K × Option K} (hx : x.1 = none → x.2 = none)
    (hy : y.1 = none → y.2 = none) : (if p then x else y).1 = none → (if p then x else y).2 = none := by
  split <;> assumption

/-- Vieta for the numerically stable formula: `x = -(B + q)/2` is a non-zero root, `C/x` the other one -/
theorem stable_roots {B C q x : K} (hq : q * q = B * B - 4 * C) (hC : C ≠ 0) (hx : x = -(B + q) / 2) :
    x + C / x = -B ∧ x * (C / x) = C := by
  have hroot : x * x + B * x + C = 0 := by rw [hx]; linear_combination (1 / 4 : K) * hq
  have hx0 : x ≠ 0 := by
    rintro rfl
    exact hC (by simpa using hroot)
  constructor
  · field_simp; linear_combination hroot
  · field_simp

theorem ite_neg_mul_self (p : Prop) [Decidable p] (x : K) : (if p then -x else x) * (if p then -x else x) = x * x := by
  split <;> ring

theorem solveQuadratic_monic (L : Laws K) (h0 : (Env.epsilon : K) = 0) {B C : K} (hd : 0 < B * B - 4 * C) :
    ∃ x1 x2 : K, solveQuadratic 1 B C = (some x1, some x2) ∧ x1 + x2 = -B ∧ x1 * x2 = C := by
  simp only [solveQuadratic, ops_equal, ops_sqrt, equal_eq_decide h0, mul_one, one_mul, one_ne_zero, hd.ne', decide_false,
    Bool.false_eq_true, if_false, if_neg (not_lt.mpr hd.le)]
  by_cases hC : C = 0
  · have hB : B ≠ 0 := by
      rintro rfl
      simp [hC] at hd
    simp only [hC, hB, decide_true, decide_false, if_true, Bool.false_eq_true, if_false]
    exact ⟨0, -B / 1, rfl, by simp, by simp⟩
  · simp only [hC, decide_false, Bool.false_eq_true, if_false]
    have hq := (ite_neg_mul_self (B < 0) _).trans (L.sqrt_sq (B * B - 4 * C) hd.le)
    generalize (if B < 0 then -Env.sqrt (B * B - 4 * C) else Env.sqrt (B * B - 4 * C)) = q at hq ⊢
    obtain ⟨hsum, hprod⟩ := stable_roots hq hC rfl
    split_ifs
    · exact ⟨_, _, rfl, (add_comm _ _).trans hsum, (mul_comm _ _).trans hprod⟩
    · exact ⟨_, _, rfl, hsum, hprod⟩

/-- `Q = l1 · v vᵀ + l2 · v⊥ v⊥ᵀ` for the unit vector `v`, entry by entry (`Q = [[a, b], [b, e]]`) -/
def SpecAt (m : Mat K) (l1 l2 : K) (v : Pt K) : Prop :=
  m.a = l1 * v.x * v.x + l2 * v.y * v.y ∧ m.b = (l1 - l2) * v.x * v.y ∧
  m.e = l1 * v.y * v.y + l2 * v.x * v.x ∧ v.x * v.x + v.y * v.y = 1

theorem SpecAt.eigvec {m : Mat K} {l1 l2 : K} {v : Pt K} (h : SpecAt m l1 l2 v) (hsym : m.b = m.d) :
    m.a * v.x + m.b * v.y = l1 * v.x ∧ m.d * v.x + m.e * v.y = l1 * v.y := by
  obtain ⟨sa, sb, se, su⟩ := h
  constructor
  · rw [sa, sb]; linear_combination (l1 * v.x) * su
  · rw [← hsym, sb, se]; linear_combination (l1 * v.y) * su

theorem specAt_norm1 (L : Laws K) {m : Mat K} {l1 l2 : K} {p : Pt K} (hp : p.x * p.x + p.y * p.y ≠ 0)
    (h1 : (m.a - l1) * p.x + m.b * p.y = 0) (h2 : m.b * p.x + (m.e - l1) * p.y = 0) (htr : l1 + l2 = m.a + m.e) :
    SpecAt m l1 l2 (norm1 p) := by
  have hn2 := L.hypot_sq p.x p.y
  have hn : Env.hypot p.x p.y ≠ 0 := by
    rintro h
    rw [h, mul_zero] at hn2
    exact hp hn2.symm
  have hv : norm1 p = ⟨p.x / Env.hypot p.x p.y, p.y / Env.hypot p.x p.y⟩ := by
    simp [norm1, hn]
  rw [hv]
  generalize Env.hypot p.x p.y = n at hn hn2 ⊢
  -- the eigenvector equations and the length are homogeneous: divide by `n`
  have hu : p.x / n * (p.x / n) + p.y / n * (p.y / n) = 1 := by
    rw [div_mul_div_comm, div_mul_div_comm, ← add_div, ← hn2, div_self (mul_ne_zero hn hn)]
  have g1 : (m.a - l1) * (p.x / n) + m.b * (p.y / n) = 0 := by
    rw [mul_div_assoc', mul_div_assoc', ← add_div, h1, zero_div]
  have g2 : m.b * (p.x / n) + (m.e - l1) * (p.y / n) = 0 := by
    rw [mul_div_assoc', mul_div_assoc', ← add_div, h2, zero_div]
  generalize p.x / n = x at hu g1 g2 ⊢
  generalize p.y / n = y at hu g1 g2 ⊢
  obtain rfl : l2 = m.a + m.e - l1 := by linarith
  refine ⟨?_, ?_, ?_, hu⟩
  · linear_combination x * g1 - y * g2 - m.a * hu
  · linear_combination y * g1 + x * g2 - m.b * hu
  · linear_combination y * g2 - x * g1 - m.e * hu

/-- `x`, `y` the roots of the characteristic polynomial: `(x - e, d)` is the vector `Matrix.Eigen` takes for `x` when `d ≠ 0` -/
theorem specAt_root (L : Laws K) {m : Mat K} (hsym : m.b = m.d) (hd : m.d ≠ 0) {x y : K} (htr : x + y = m.a + m.e)
    (hdet : x * y = Matrix.Det m) : SpecAt m x y (norm1 ⟨x - m.e, m.d⟩) := by
  rw [Matrix.Det] at hdet
  exact specAt_norm1 L (add_pos_of_nonneg_of_pos (mul_self_nonneg _) (mul_self_pos.mpr hd)).ne'
    (by linear_combination (-x) * htr + hdet) (by rw [hsym]; ring) htr

theorem eigen_spectral (L : Laws K) (h0 : (Env.epsilon : K) = 0) {m : Mat K} (hsym : m.b = m.d) :
    ∃ l1 l2 : K, (eigen m).l1 = some l1 ∧ (eigen m).l2 = some l2 ∧ l1 + l2 = m.a + m.e ∧ l1 * l2 = Matrix.Det m ∧
      SpecAt m l1 l2 (eigen m).v1 ∧ SpecAt m l2 l1 (eigen m).v2 := by
  by_cases hd : m.d = 0
  · have hb : m.b = 0 := hsym.trans hd
    have hE : eigen m = ⟨some m.a, some m.e, ⟨1, 0⟩, ⟨0, 1⟩, 0⟩ := by
      simp only [eigen, ops_equal, equal_eq_decide h0, hd, hb, decide_true, Bool.and_self, if_true]
    rw [hE]
    refine ⟨m.a, m.e, rfl, rfl, rfl, ?_, ?_, ?_⟩ <;> simp [Matrix.Det, SpecAt, hb]
  · have hdisc : 0 < (-m.a - m.e) * (-m.a - m.e) - 4 * Matrix.Det m := by
      rw [Matrix.Det, hsym]
      linarith [mul_self_nonneg (m.a - m.e), mul_self_pos.mpr hd]
    obtain ⟨x1, x2, hsq, hsum, hprod⟩ := solveQuadratic_monic L h0 hdisc
    have htr : x1 + x2 = m.a + m.e := hsum.trans (by ring)
    have hE : eigen m = ⟨some x1, some x2, norm1 ⟨x1 - m.e, m.d⟩, norm1 ⟨x2 - m.e, m.d⟩, 2⟩ := by
      simp only [eigen, eigenvalues, ops_equal, ops_mdet, equal_eq_decide h0, hd, decide_false, hsq, Bool.false_and,
        Bool.false_eq_true, if_false, Bool.not_false, if_true, Option.getD_some]
    rw [hE]
    exact ⟨x1, x2, rfl, rfl, htr, hprod, specAt_root L hsym hd htr hprod,
      specAt_root L hsym hd ((add_comm _ _).trans htr) ((mul_comm _ _).trans hprod)⟩

end C07
