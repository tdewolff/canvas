import CanvasProofs.Lemmas.C19State
/-! The stack machine `walk` is the environment-passing specification `render`; what one element does, in the
terms of `render`; and the equations of the drawing functions through which a concrete document is read.
Generic in `Ops α`. -/
namespace C19
open Canvas Canvas.C19
variable {α : Type} (o : Ops α)

theorem mkP_inh_thr (p : P α) : mkP (inhOf p) (thrOf p) = p := rfl
theorem inhOf_mkP (i : Inh α) (t : Thr α) : inhOf (mkP i t) = i := rfl
theorem thrOf_mkP (i : Inh α) (t : Thr α) : thrOf (mkP i t) = t := rfl

/-- the environment the children of an element with computed style `s` inherit: `s` on top of the caller's -/
def childInh (i : Inh α) (s : Sty α) (e : Elem) : Inh α :=
  { i with ctx := s.ctx, st := s.st, ctxStack := i.ctx :: i.ctxStack, stStack := i.st :: i.stStack, elems := e :: i.elems }

theorem styled_eq (i : Inh α) (t : Thr α) (tag : String) (attrs : List (Attr α)) :
    setStyling o (push (mkP i t) tag attrs) attrs =
      mkP (childInh i (cascade o i.diagonal t.rules (elemOf tag attrs :: i.elems) ⟨i.ctx, i.st, t.err⟩ attrs) (elemOf tag attrs))
        { t with err := (cascade o i.diagonal t.rules (elemOf tag attrs :: i.elems) ⟨i.ctx, i.st, t.err⟩ attrs).err } := by
  rw [setStyling_eq_cascade]; rfl

theorem inhOf_enter (i : Inh α) (t : Thr α) (tag : String) (attrs : List (Attr α)) :
    inhOf (enter o i t tag attrs) =
      childInh i (cascade o i.diagonal t.rules (elemOf tag attrs :: i.elems) ⟨i.ctx, i.st, t.err⟩ attrs) (elemOf tag attrs) := by
  rw [enter, inhOf_drawShape, styled_eq]; rfl

theorem pop_childInh (i : Inh α) (s : Sty α) (e : Elem) (t : Thr α) : pop (mkP (childInh i s e) t) = mkP i t := by
  cases i; rfl

mutual
theorem walk_eq_render_aux : ∀ (t : Canvas.C19.Tree α) (i : Inh α) (th : Thr α),
    walk o t (mkP i th) = mkP i (render o t i th)
  | .elem tag attrs children, i, th => by
    rw [walk, render, ← mkP_inh_thr (drawShape _ _ _ _), walkList_eq_renderList_aux children]
    exact (congrArg (fun j => pop (mkP j _)) (inhOf_enter o i th tag attrs)).trans (pop_childInh i _ _ _)
  | .css rules, i, th => by rw [walk, render]; rfl
theorem walkList_eq_renderList_aux : ∀ (ts : List (Canvas.C19.Tree α)) (i : Inh α) (th : Thr α),
    walkList o ts (mkP i th) = mkP i (renderList o ts i th)
  | [], i, th => by rw [walkList, renderList]
  | t :: ts, i, th => by rw [walkList, renderList, walk_eq_render_aux t, walkList_eq_renderList_aux ts]
end

theorem render_elem (tag : String) (attrs : List (Attr α)) (children : List (Canvas.C19.Tree α)) (i : Inh α) (t : Thr α) :
    let s := cascade o i.diagonal t.rules (elemOf tag attrs :: i.elems) ⟨i.ctx, i.st, t.err⟩ attrs
    render o (.elem tag attrs children) i t =
      renderList o children (childInh i s (elemOf tag attrs))
        (thrOf (drawShape o (mkP (childInh i s (elemOf tag attrs)) { t with err := s.err }) tag attrs)) := by
  rw [render, inhOf_enter, enter, styled_eq]

theorem renderList_one (c : Canvas.C19.Tree α) (i : Inh α) (t : Thr α) :
    renderList o [c] i t = render o c i t := by
  rw [renderList, renderList]

/-- a tag that is no shape (`g`, `svg`, …: `h` holds by `rfl`) draws nothing, dashes or not -/
theorem drawShape_of_core (p : P α) (tag : String) (attrs : List (Attr α))
    (h : ∀ q : P α, drawShapeCore o q tag attrs = q) : drawShape o p tag attrs = p := by
  unfold drawShape
  simp only [h]
  -- where the dashes were scaled for the shape, the two record updates cancel
  split <;> rfl

theorem drawShape_of_no_dashes (p : P α) (tag : String) (attrs : List (Attr α)) (h : p.ctx.dashes = []) :
    drawShape o p tag attrs = drawShapeCore o p tag attrs := by
  unfold drawShape
  rw [h]; rfl

def layerOf (p : P α) (x y : α) (path : RPath α) : Layer α :=
  let r := o.checkDash p.ctx.sw p.ctx.dashOff p.ctx.dashes (p.lens.headD o.zero)
  { path := path.reverse, fill := p.ctx.fill, evenOdd := p.ctx.evenOdd, stroke := if r.2 then p.ctx.stroke else transparent,
    sw := p.ctx.sw, cap := p.ctx.cap, join := p.ctx.join, dashOff := p.ctx.dashOff, dashes := r.1,
    m := o.translate (o.mmul (o.reflectYAbout o.ident (o.div p.ch (o.nat 2))) p.ctx.view) x y }

theorem drawPath_eq (p : P α) (x y : α) (path : RPath α) :
    drawPath o p x y path =
      if !(hasFill p.ctx) && !(hasStroke o p.ctx) then p
      else { p with layers := layerOf o p x y path :: p.layers, lens := p.lens.tail } := rfl

/-- whatever `drawPath` puts on top is `layerOf`: no hypothesis, since a path neither filled nor stroked puts nothing -/
theorem drawPath_layer (p : P α) (x y : α) (path : RPath α) (L : Layer α)
    (h : (drawPath o p x y path).layers = L :: p.layers) : L = layerOf o p x y path := by
  rw [drawPath_eq] at h
  split at h
  · exact absurd h.symm (List.cons_ne_self _ _)
  · exact (List.cons.inj h).1.symm

theorem dimAttr_user {attrs : List (Attr α)} {k : String} {n : α} (h : lookup attrs k = some (.dim n "")) (p : P α) (par : α) :
    dimAttr o p attrs k par = (n, p) := by
  unfold dimAttr
  rw [h]
  simp only [parseDimension, Bool.or_false]

theorem drawShapeCore_rect (p : P α) (attrs : List (Attr α)) (x y w h : α)
    (hx : lookup attrs "x" = some (.dim x "")) (hy : lookup attrs "y" = some (.dim y ""))
    (hw : lookup attrs "width" = some (.dim w "")) (hh : lookup attrs "height" = some (.dim h ""))
    (hrx : lookup attrs "rx" = none) (hry : lookup attrs "ry" = none) :
    drawShapeCore o p "rect" attrs = drawPath o p x y (rectangle o w h) := by
  unfold drawShapeCore
  simp only [dimAttr_user o hx, dimAttr_user o hy, dimAttr_user o hw, dimAttr_user o hh, hrx, hry]

/-- `w`, `h` are the size of the view box in mm, left to the caller to state in the normal form of its instance
(`o.nat 96` need not be a numeral there) -/
theorem parseSVG_of_viewBox (vb : α × α × α × α) (attrs : List (Attr α)) (children : List (Canvas.C19.Tree α)) (lens : List α)
    {w h : α} (hw : o.div (o.mul vb.2.2.1 o.c25_4) (o.nat 96) = w) (hh : o.div (o.mul vb.2.2.2 o.c25_4) (o.nat 96) = h) :
    parseSVG o ⟨none, none, some vb, "none"⟩ attrs children lens =
      walk o (.elem "svg" attrs children) (init o w h vb false lens) := by
  subst hw hh; rfl

end C19
