import CanvasModel.C15
/-!
# C15 — what each call of the model touches (generic in the scalar type and in `Ops`)

`loopCalls` is the list of renderer calls made by the loop of `DrawPath`; `drawCalls op c` the calls
made by any single history operation.  Every operation leaves `emitted` a prefix-extension, draws do
not touch the Context state, setters do not touch the renderer.
-/
namespace C15
open Canvas Canvas.C15
variable {α : Type}

/-- the renderer calls of the loop in `DrawPath` (every path starts from the same style) -/
def loopCalls (o : Ops α) (off : α) (dashes : List α) (m : Mat α) : Style α → List (PathRef α) → List (Call α)
  | _, [] => []
  | style, p :: ps =>
    let r := drawDashes o style.width off dashes p.len
    let style' := { style with dashes := r.1, stroke := if r.2 then style.stroke else Paint.none }
    ⟨.path p style', m⟩ :: loopCalls o off dashes m style ps

def emitAll (c : Ctx α) : List (Call α) → Ctx α
  | [] => c
  | k :: ks => emitAll (c.emit k) ks

theorem emitAll_append (c : Ctx α) (a b : List (Call α)) : emitAll c (a ++ b) = emitAll (emitAll c a) b := by
  induction a generalizing c with
  | nil => rfl
  | cons k ks ih => exact ih _

theorem foldl_render_eq (ks : List (Call α)) (cv : Canvas α) :
    ks.foldl Canvas.render cv =
      { cv with layers := (ks.map (fun k => (cv.z, k))).foldl (fun l zc => assocAppend zc.1 zc.2 l) cv.layers,
                log := cv.log ++ ks.map (fun k => (cv.z, k)) } := by
  induction ks generalizing cv with
  | nil =>
    rw [List.map_nil, List.append_nil]
    rfl
  | cons k ks ih =>
    rw [List.foldl_cons, ih, List.map_cons, List.append_cons]
    rfl

theorem emitAll_eq (c : Ctx α) (ks : List (Call α)) :
    emitAll c ks = { c with emitted := c.emitted ++ ks, cv := ks.foldl Canvas.render c.cv } := by
  induction ks generalizing c with
  | nil => rw [List.append_nil]; rfl
  | cons k ks ih => rw [emitAll, ih, List.append_cons]; rfl

theorem loopCalls_eq_map (o : Ops α) (off : α) (dashes : List α) (m : Mat α) (style : Style α)
    (ps : List (PathRef α)) :
    loopCalls o off dashes m style ps = ps.map (fun p =>
      ⟨.path p { style with dashes := (drawDashes o style.width off dashes p.len).1,
                            stroke := if (drawDashes o style.width off dashes p.len).2 then style.stroke
                                      else Paint.none }, m⟩) := by
  induction ps with
  | nil => rfl
  | cons p ps ih => rw [loopCalls, ih]; rfl

theorem drawPathLoop_eq (o : Ops α) (off : α) (dashes : List α) (m : Mat α) (style : Style α)
    (ps : List (PathRef α)) (c : Ctx α) :
    drawPathLoop o off dashes m style ps c = emitAll c (loopCalls o off dashes m style ps) := by
  induction ps generalizing c with
  | nil => rfl
  | cons p ps ih => exact ih _

/-- the renderer calls of `DrawPath(x, y, ps…)` in context `c` -/
def pathCalls (o : Ops α) (c : Ctx α) (x y : α) (ps : List (PathRef α)) : List (Call α) :=
  if !c.st.style.hasFill && !c.st.style.hasStroke o then []
  else loopCalls o c.st.style.dashOff c.st.style.dashes (c.baseMatrix o x y) c.st.style ps

/-- the renderer calls made by one history operation in context `c`; those of `FitImage` are read off `step` itself
on a context with nothing emitted (no closed form), so `step_draw` and what follows from it do not say what they are -/
def drawCalls (o : Ops α) (op : Op α) (c : Ctx α) : List (Call α) :=
  match op with
  | .drawPath x y ps => pathCalls o c x y ps
  | .drawText x y t =>
    if t.empty then [] else
      [⟨.text t, (fun m => if c.st.cs.flipX then o.reflectX m else m)
        ((fun m => if c.st.cs.flipY then o.reflectY m else m) (c.baseMatrix o x y))⟩]
  | .drawImage x y i res =>
    if o.beq i.w o.zero && o.beq i.h o.zero then [] else
      [⟨.image i, imageFlip o c.st.cs (o.scale (c.baseMatrix o x y) (o.div o.one res) (o.div o.one res)) i.w i.h⟩]
  | .fitImage i r fit => (step o (.fitImage i r fit) { c with emitted := [] }).emitted
  | .fill p => pathCalls o (c.withStyle { c.st.style with stroke := Paint.none }) o.zero o.zero [p]
  | .stroke p => pathCalls o (c.withStyle { c.st.style with fill := Paint.none }) o.zero o.zero [p]
  | .fillStroke p => pathCalls o c o.zero o.zero [p]
  | _ => []

def _root_.Canvas.C15.Op.isDraw : Op α → Bool
  | .drawPath .. => true | .drawText .. => true | .drawImage .. => true | .fitImage .. => true
  | .fill .. => true | .stroke .. => true | .fillStroke .. => true | _ => false
def _root_.Canvas.C15.Op.isCanvasOp : Op α → Bool
  | .cvTransform .. => true | .cvClip .. => true | .cvFit .. => true | .cvReset => true | .cvNest .. => true | _ => false
def _root_.Canvas.C15.Op.isStack : Op α → Bool
  | .push => true | .pop => true | _ => false

theorem pathCalls_eq (o : Ops α) (c : Ctx α) (x y : α) (ps : List (PathRef α)) :
    pathCalls o c x y ps =
      if c.st.style.hasFill || c.st.style.hasStroke o then ps.map (fun p =>
        ⟨.path p { c.st.style with
            dashes := (drawDashes o c.st.style.width c.st.style.dashOff c.st.style.dashes p.len).1,
            stroke := if (drawDashes o c.st.style.width c.st.style.dashOff c.st.style.dashes p.len).2
                      then c.st.style.stroke else Paint.none },
          c.baseMatrix o x y⟩)
      else [] := by
  rw [pathCalls, loopCalls_eq_map]
  cases c.st.style.hasFill <;> cases c.st.style.hasStroke o <;> rfl

theorem drawPath_eq (o : Ops α) (c : Ctx α) (x y : α) (ps : List (PathRef α)) :
    c.drawPath o x y ps = emitAll c (pathCalls o c x y ps) := by
  unfold Ctx.drawPath pathCalls
  split
  · rfl
  · exact drawPathLoop_eq ..

theorem drawWith_eq (o : Ops α) (c : Ctx α) (s : Style α) (p : PathRef α) :
    c.drawWith o s p = emitAll c (pathCalls o (c.withStyle s) o.zero o.zero [p]) := by
  rw [Ctx.drawWith, drawPath_eq, emitAll_eq, emitAll_eq]
  rfl

/-- a draw that makes at most one call -/
theorem emit_ite {P : Prop} [Decidable P] {k : Call α} (c : Ctx α) :
    (if P then c else c.emit k) = emitAll c (if P then [] else [k]) := by
  split <;> rfl

/-- …and the same when the call is read off a run that starts with nothing emitted (`drawCalls` of `FitImage`) -/
theorem emit_ite_emitted {P : Prop} [Decidable P] {k : Call α} (c : Ctx α) :
    (if P then c else c.emit k) =
      emitAll c (if P then ({ c with emitted := [] } : Ctx α) else ({ c with emitted := [] } : Ctx α).emit k).emitted := by
  split <;> rfl

theorem step_draw (o : Ops α) (op : Op α) (c : Ctx α) (h : op.isDraw = true) :
    step o op c = emitAll c (drawCalls o op c) := by
  cases op <;> cases h
  · exact drawPath_eq ..
  · exact emit_ite c
  · exact emit_ite c
  · exact emit_ite_emitted c
  · exact drawWith_eq ..
  · exact drawWith_eq ..
  · exact drawPath_eq ..

theorem step_pop (o : Ops α) (c : Ctx α) :
    step o .pop c = { c with st := c.stack.head?.getD c.st, stack := c.stack.tail } := by
  obtain ⟨st, stack, cv, emitted⟩ := c
  cases stack <;> rfl

theorem step_pop_of_stack (o : Ops α) {c : Ctx α} {s : CState α} {rest : List (CState α)}
    (h : c.stack = s :: rest) : step o Op.pop c = { c with st := s, stack := rest } := by
  rw [step_pop, h]; rfl

theorem step_st_of_draw_or_canvasOp (o : Ops α) (op : Op α) (c : Ctx α)
    (h : op.isDraw = true ∨ op.isCanvasOp = true) :
    (step o op c).st = c.st ∧ (step o op c).stack = c.stack := by
  rcases h with h | h
  · rw [step_draw o op c h, emitAll_eq]; exact ⟨rfl, rfl⟩
  · cases op <;> cases h <;> exact ⟨rfl, rfl⟩

theorem step_stack (o : Ops α) (op : Op α) (c : Ctx α) (h : op.isStack = false) :
    (step o op c).stack = c.stack := by
  cases hd : op.isDraw
  · cases op <;> cases hd <;> cases h <;> rfl
  · exact (step_st_of_draw_or_canvasOp o op c (Or.inl hd)).2

theorem step_emitted_of_not_draw (o : Ops α) (op : Op α) (c : Ctx α) (h : op.isDraw = false) :
    (step o op c).emitted = c.emitted := by
  cases op <;> cases h
  case pop => rw [step_pop]
  all_goals rfl

theorem step_recorded_of_draw (o : Ops α) (op : Op α) (c : Ctx α) (h : op.isDraw = true) :
    (step o op c).emitted = c.emitted ++ drawCalls o op c ∧
    (step o op c).cv.log = c.cv.log ++ (drawCalls o op c).map (fun k => (c.cv.z, k)) := by
  rw [step_draw o op c h, emitAll_eq, foldl_render_eq]
  exact ⟨rfl, rfl⟩

theorem run_append (o : Ops α) (a b : List (Op α)) (c : Ctx α) : run o (a ++ b) c = run o b (run o a c) := by
  induction a generalizing c with
  | nil => rfl
  | cons op ops ih => exact ih _

theorem run_push_pop (o : Ops α) (h h2 : List (Op α)) (c : Ctx α)
    (hs : (run o h (step o .push c)).stack = c.st :: c.stack) :
    run o (Op.push :: h ++ Op.pop :: h2) c =
      run o h2 { run o h (step o .push c) with st := c.st, stack := c.stack } := by
  show run o (h ++ Op.pop :: h2) (step o .push c) = _
  rw [run_append]
  show run o h2 (step o .pop _) = _
  rw [step_pop_of_stack o hs]

end C15
