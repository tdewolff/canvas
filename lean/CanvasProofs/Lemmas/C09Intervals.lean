import CanvasProofs.Lemmas.C09SplitAt
import Mathlib.Tactic.Ring
import Mathlib.Tactic.LinearCombination
/-!
C09 helper lemmas: the interval-walk specification of SplitAt over an ordered field with exact
arithmetic: the piece lengths sum to the path length for ANY positions; the k-th piece boundary lies at
arc length t_k; sorted positive positions are consumed exactly up to the path length.
-/
namespace C09L
open Canvas Canvas.Path Canvas.C09
set_option linter.unusedSectionVars false
variable {K : Type} [Field K] [LinearOrder K] [IsStrictOrderedRing K]

structure ExactOps (O : SplitOps K) : Prop where
  zero : O.zero = 0
  add : ∀ a b, O.add a b = a + b
  sub : ∀ a b, O.sub a b = a - b
  lt : ∀ a b, O.lt a b = decide (a < b)
  le : ∀ a b, O.le a b = decide (a ≤ b)

def ivLen (iv : Iv K) : K := iv.b - iv.a
def pieceLen (p : List (Iv K)) : K := (p.map ivLen).sum
def totalLen (ps : List (List (Iv K))) : K := (ps.map pieceLen).sum

/-- arc length at the end of every finished piece, newest first -/
def boundaries : List (List (Iv K)) → List K
  | [] => []
  | p :: rest => totalLen (p :: rest) :: boundaries rest

@[simp] theorem pieceLen_nil : pieceLen ([] : List (Iv K)) = 0 := rfl
@[simp] theorem pieceLen_cons (iv : Iv K) (p : List (Iv K)) : pieceLen (iv :: p) = (iv.b - iv.a) + pieceLen p := by
  simp [pieceLen, ivLen]
@[simp] theorem totalLen_nil : totalLen ([] : List (List (Iv K))) = 0 := rfl
@[simp] theorem totalLen_cons (p : List (Iv K)) (ps : List (List (Iv K))) :
    totalLen (p :: ps) = pieceLen p + totalLen ps := by
  simp [totalLen]

variable {O : SplitOps K}

/-- the cuts of one record: Φ = total(done) + len(cur) − last is invariant; every push lands at
`Φ + (t − T)`; the consumed positions are recorded -/
theorem ivCut_fold (hO : ExactOps O) (i : Nat) (T : K) (ts : List K) : ∀ (st : IState K) (last : K),
    let r := ts.foldl (ivCut O i T) (st, last)
    totalLen r.1.done + pieceLen r.1.cur - r.2 = totalLen st.done + pieceLen st.cur - last ∧
    r.1.consumed = ts.reverse ++ st.consumed ∧
    boundaries r.1.done =
      (ts.reverse.map fun t => totalLen st.done + pieceLen st.cur - last + (t - T)) ++ boundaries st.done := by
  induction ts with
  | nil => intro st last; exact ⟨rfl, rfl, rfl⟩
  | cons t ts ih =>
    intro st last
    obtain ⟨h1, h2, h3⟩ := ih (ivCut O i T (st, last) t).1 (ivCut O i T (st, last) t).2
    have e : totalLen (ivCut O i T (st, last) t).1.done + pieceLen (ivCut O i T (st, last) t).1.cur
          - (ivCut O i T (st, last) t).2 = totalLen st.done + pieceLen st.cur - last := by
      simp only [ivCut, hO.sub, totalLen_cons, pieceLen_cons, pieceLen_nil]; ring
    rw [e] at h1 h3
    refine ⟨h1, by rw [List.foldl_cons, h2]; simp [ivCut], ?_⟩
    rw [List.foldl_cons, h3]
    simp only [ivCut, hO.sub, boundaries, totalLen_cons, pieceLen_cons, List.reverse_cons, List.map_append,
      List.map_cons, List.map_nil, List.append_assoc, List.singleton_append, List.append_cancel_left_eq,
      List.cons.injEq, and_true]
    ring

theorem ivSeg_done (i : Nat) (d : K) (s : IState K) (h : s.rem.isEmpty = true) :
    ivSeg O i d s = { s with cur := ⟨i, O.zero, d⟩ :: s.cur } := by
  rw [ivSeg, if_pos h]

theorem ivSeg_total (hO : ExactOps O) (i : Nat) (d : K) (s : IState K) :
    totalLen (ivSeg O i d s).done + pieceLen (ivSeg O i d s).cur = totalLen s.done + pieceLen s.cur + d := by
  by_cases he : s.rem.isEmpty = true
  · rw [ivSeg_done i d s he]
    simp only [pieceLen_cons, hO.zero, sub_zero]
    rw [add_comm d, add_assoc]
  · rw [ivSeg, if_neg he]
    have h := (ivCut_fold hO i s.T (selectCuts O s.T d s.rem).1 s O.zero).1
    simp only [pieceLen_cons, hO.zero] at h ⊢
    linear_combination h

def walkLen : List (Cmd K) → List (SegOracle K) → K
  | [], _ => 0
  | .move _ :: cs, os => walkLen cs os
  | _ :: cs, o :: os => o.dT + walkLen cs os
  | _ :: _, [] => 0

theorem ivWalk_induction {I : K → IState K → Prop} : ∀ (cs : List (Cmd K)) (os : List (SegOracle K)),
    (∀ o ∈ os, ∀ i w s, I w s → I (w + o.dT) (ivSeg O i o.dT s)) →
    ∀ (i : Nat) (w : K) (s s' : IState K), I w s → ivWalk O cs os i s = some s' → I (w + walkLen cs os) s' := by
  apply walk_induction
  · intro os _ i w s s' hI h
    cases h
    rwa [walkLen, add_zero]
  · intro p cs os ih step i w s s' hI h
    exact ih step i w s s' hI h
  · intro c cs o os hc ih step i w s s' hI h
    rw [ivWalk_draw O c hc] at h
    have hw : walkLen (c :: cs) (o :: os) = o.dT + walkLen cs os := by
      cases c with
      | move p => cases hc
      | _ => rfl
    rw [hw, ← add_assoc]
    exact ih (fun o' ho' => step o' (List.mem_cons_of_mem _ ho')) (i + 1) _ _ s'
      (step o List.mem_cons_self i w s hI) h
  · intro c cs hc _ i w s s' _ h
    cases c with
    | move p => cases hc
    | _ => cases h

/-- invariant of the walk from position `T0`: while positions remain, `T` is the arc length walked so
far; every finished piece ends at the arc length of the position that closed it -/
structure IvInv (T0 : K) (s : IState K) : Prop where
  walked : s.rem ≠ [] → totalLen s.done + pieceLen s.cur = s.T - T0
  bounds : boundaries s.done = s.consumed.map (· - T0)
  count : s.done.length = s.consumed.length

structure RangeInv (T0 : K) (ts0 : List K) (s : IState K) : Prop where
  part : s.consumed.reverse ++ s.rem = ts0
  sorted : s.rem.Pairwise (· ≤ ·)
  ahead : ∀ t ∈ s.rem, s.T < t
  behind : ∀ t ∈ s.consumed, t - T0 ≤ totalLen s.done + pieceLen s.cur

theorem selectCuts_rest (hO : ExactOps O) (T d : K) (rem : List K)
    (hs : rem.Pairwise (· ≤ ·)) (hpos : ∀ t ∈ rem, T < t) : ∀ t ∈ (selectCuts O T d rem).2, T + d < t := by
  induction rem with
  | nil => simp [selectCuts]
  | cons t ts ih =>
    rw [selectCuts]
    split
    · exact ih hs.of_cons fun u hu => hpos u (List.mem_cons_of_mem _ hu)
    · next h =>
      have ht : T + d < t := by simpa [hO.lt, hO.le, hO.add, hpos t List.mem_cons_self] using h
      exact List.forall_mem_cons.mpr ⟨ht, fun u hu => ht.trans_le (List.rel_of_pairwise_cons hs hu)⟩

theorem ivSeg_inv (hO : ExactOps O) (T0 : K) (ts0 : List K) (i : Nat) (d : K) (s : IState K) (h : IvInv T0 s) :
    IvInv T0 (ivSeg O i d s) ∧ (0 ≤ d → RangeInv T0 ts0 s → RangeInv T0 ts0 (ivSeg O i d s)) := by
  have htot := ivSeg_total hO i d s
  by_cases he : s.rem.isEmpty = true
  · rw [ivSeg_done i d s he] at htot ⊢
    exact ⟨⟨fun hne => absurd (List.isEmpty_iff.mp he) hne, h.bounds, h.count⟩, fun hd hr =>
      ⟨hr.part, hr.sorted, hr.ahead, fun t ht => (hr.behind t ht).trans (htot ▸ le_add_of_nonneg_right hd)⟩⟩
  · have hk := ivSeg_key O i d s
    rw [advance_cut O d _ he] at hk
    rw [ivSeg, if_neg he] at hk htot ⊢
    obtain ⟨_, h4, h5⟩ := ivCut_fold hO i s.T (selectCuts O s.T d s.rem).1 s O.zero
    have hw := h.walked (by simpa using he)
    refine ⟨⟨fun _ => ?_, ?_, ?_⟩, fun hd hr => ?_⟩
    · rw [htot, hw, hO.add, sub_add_eq_add_sub]
    · dsimp only
      rw [h5, h4, h.bounds, hO.zero, hw]
      simp only [List.map_append, List.map_reverse]
      congr 2
      exact List.map_congr_left fun t _ => by rw [sub_zero, sub_add_sub_cancel']
    · exact (congrArg Key.done hk).trans
        (by rw [h4, List.length_append, List.length_reverse, ← h.count, Nat.add_comm]; rfl)
    · obtain ⟨hp, hin⟩ := selectCuts_spec O s.T d s.rem
      refine ⟨?_, ?_, ?_, ?_⟩ <;> dsimp only
      · rw [h4, List.reverse_append, List.reverse_reverse, List.append_assoc, hp, hr.part]
      · exact (List.pairwise_append.mp (hp ▸ hr.sorted)).2.1
      · rw [hO.add]
        exact selectCuts_rest hO s.T d s.rem hr.sorted hr.ahead
      · intro t ht
        rw [h4] at ht
        rcases List.mem_append.mp ht with ht | ht
        · rw [htot, hw, sub_add_eq_add_sub]
          have := (hin t (List.mem_reverse.mp ht)).2
          rw [hO.le, hO.add, decide_eq_true_eq] at this
          exact sub_le_sub_right this T0
        · exact (hr.behind t ht).trans (htot ▸ le_add_of_nonneg_right hd)

def ivInit (T0 : K) (ts : List K) : IState K := ⟨[], [], ts, T0, []⟩

theorem ivInit_inv (T0 : K) (ts : List K) : IvInv T0 (ivInit T0 ts) :=
  ⟨fun _ => by simp [ivInit], rfl, rfl⟩

theorem ivInit_range (T0 : K) (ts : List K) (hs : ts.Pairwise (· ≤ ·)) (hpos : ∀ t ∈ ts, T0 < t) :
    RangeInv T0 ts (ivInit T0 ts) :=
  ⟨by simp [ivInit], hs, hpos, by simp [ivInit]⟩

end C09L
