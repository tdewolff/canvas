import CanvasProofs.Lemmas.C12
/-!
C12, PDF: a block of setters and a painting operator keeps "cache = graphics state" without any assumption
(`PSimE`); with lawful `==` it is a step between known caches painting known items (`PStep`). `pdfDraw_cases`
lists the sequences of blocks `PDF.RenderPath` can write, each beside what the reference paints then; both
theorems about a call are read off it, block by block.
-/
namespace Canvas.C12
section
variable {ν : Type} {N : Num ν}

def PSimE (a : PAct ν) (w : PW ν) : Prop := ∃ out, PSim a w out

theorem PSimE.inv {a : PAct ν} {w : PW ν} (h : PSimE a w) : (pdfRun (gOf w.c) (a w).2).1 = gOf (a w).1.c := by
  obtain ⟨out, h⟩ := h
  exact congrArg Prod.fst h

theorem PSimE.nil (w : PW ν) : PSimE (PAct.seq []) w := ⟨[], PSim.nil w⟩

theorem PSimE.cons {a : PAct ν} {as : List (PAct ν)} {w : PW ν}
    (h1 : PSimE a w) (h2 : ∀ w', PSimE (PAct.seq as) w') : PSimE (PAct.seq (a :: as)) w := by
  obtain ⟨o1, h1⟩ := h1
  obtain ⟨o2, h2⟩ := h2 (a w).1
  exact ⟨o1 ++ o2, PSim.cons h1 h2⟩

theorem PSimE.append {as bs : List (PAct ν)} {w : PW ν}
    (h1 : PSimE (PAct.seq as) w) (h2 : ∀ w', PSimE (PAct.seq bs) w') : PSimE (PAct.seq (as ++ bs)) w := by
  obtain ⟨o1, h1⟩ := h1
  obtain ⟨o2, h2⟩ := h2 (PAct.seq as w).1
  exact ⟨o1 ++ o2, PSim.append h1 h2⟩

def PStep (a : PAct ν) (c c' : PC ν) (out : List (Painted ν)) : Prop :=
  ∀ w : PW ν, w.c = c → (a w).1.c = c' ∧ PSim a w out

theorem PStep.nil (c : PC ν) : PStep (PAct.seq []) c c [] := fun w hw => ⟨hw, PSim.nil w⟩

theorem PStep.cons {a : PAct ν} {as : List (PAct ν)} {c c1 c2 : PC ν} {o1 o2 : List (Painted ν)}
    (h1 : PStep a c c1 o1) (h2 : PStep (PAct.seq as) c1 c2 o2) : PStep (PAct.seq (a :: as)) c c2 (o1 ++ o2) :=
  fun w hw => ⟨(h2 _ (h1 w hw).1).1, PSim.cons (h1 w hw).2 (h2 _ (h1 w hw).1).2⟩

theorem PStep.append {as bs : List (PAct ν)} {c c1 c2 : PC ν} {o1 o2 : List (Painted ν)}
    (h1 : PStep (PAct.seq as) c c1 o1) (h2 : PStep (PAct.seq bs) c1 c2 o2) :
    PStep (PAct.seq (as ++ bs)) c c2 (o1 ++ o2) :=
  fun w hw => ⟨by rw [PAct.seq_append]; exact (h2 _ (h1 w hw).1).1, PSim.append (h1 w hw).2 (h2 _ (h1 w hw).1).2⟩

theorem PStep.simE {a : PAct ν} {w : PW ν} {c' : PC ν} {o : List (Painted ν)} (h : PStep a w.c c' o) : PSimE a w :=
  ⟨o, (h w rfl).2⟩

theorem sayPaint_step (r : PathRef) (k : PK) {c : PC ν} :
    PStep (PAct.seq [say [.path r, .paint k]]) c c (pdfPaint (gOf c) r k) :=
  fun w hw => hw ▸ ⟨rfl, PSim.single (say_path_paint_sim r k w)⟩

theorem setFill_step (p : Paint) (hp : p.has = true) {c : PC ν} :
    PStep (setFill p) c { c with fill := p, alpha := p.alpha } [] :=
  fun w hw => hw ▸ ⟨setFill_c p hp w, setFill_sim p hp w⟩

theorem pdfPaint_fillK (g : PG ν) (p : PathRef) (eo : Bool) : pdfPaint g p (fillK eo) = [g.fillItem p eo] := by
  cases eo <;> rfl

theorem pdfPaint_strokeK (g : PG ν) (p : PathRef) (cl : Bool) : pdfPaint g p (strokeK cl) = [g.strokeItem p cl] := by
  cases cl <;> rfl

theorem pdfPaint_bothK (g : PG ν) (p : PathRef) (cl eo : Bool) :
    pdfPaint g p (bothK cl eo) = [g.fillItem p eo, g.strokeItem p cl] := by
  cases cl <;> cases eo <;> rfl

theorem fillBlock_step (p : Paint) (hp : p.has = true) {r : PathRef} {eo : Bool} {c : PC ν} :
    PStep (PAct.seq [setFill p, say [.path r, .paint (fillK eo)]]) c { c with fill := p, alpha := p.alpha }
      [.fill [r] eo (shadeOf p) p.alpha] := by
  have h := PStep.cons (setFill_step p hp (c := c)) (sayPaint_step r (fillK eo))
  rwa [pdfPaint_fillK] at h

def strokeCache (N : Num ν) (d : Draw ν) (c : PC ν) : PC ν :=
  { c with stroke := d.stroke, alpha := d.stroke.alpha, lw := d.w' N true, cap := d.cap, join := joinCode d.join,
           ml := (match joinLimit d.join with | some l => l | none => c.ml),
           dashes := pdfDashArr (d.dashes' N true), phase := pdfPhaseOf N (d.off' N true) (d.dashes' N true) }

theorem strokeCache_alpha (d : Draw ν) (c : PC ν) : (strokeCache N d c).alpha = d.stroke.alpha := rfl
theorem strokeCache_fill (d : Draw ν) (c : PC ν) : (strokeCache N d c).fill = c.fill := rfl

theorem strokeCache_inv (d : Draw ν) (c : PC ν) : PInv N (strokeCache N d c) := by
  intro h
  simp only [strokeCache] at h
  simp [strokeCache, pdfPhaseOf, h]

theorem strokeSetup_sim (d : Draw ν) (w : PW ν) (hs : d.stroke.has = true) (hj : d.join.pdfOk = true) :
    PSim (PAct.seq (pdfStrokeSetup N d)) w [] :=
  PSim.cons (setStroke_sim d.stroke hs w)
    (PSim.cons (setLineWidth_sim (N := N) _ _)
      (PSim.cons (setLineCap_sim d.cap _)
        (PSim.cons (setLineJoin_sim (N := N) d.join hj _)
          (PSim.cons (setDashes_sim (N := N) _ _ _) (PSim.nil _)))))

theorem strokeSetup_c (L : Lawful N) (d : Draw ν) (hs : d.stroke.has = true) (hj : d.join.pdfOk = true) (w : PW ν)
    (hi : PInv N w.c) : (PAct.seq (pdfStrokeSetup N d) w).1.c = strokeCache N d w.c := by
  simp only [pdfStrokeSetup, PAct.seq, hj]
  rw [setDashes_c L, setLineJoin_c L _ hj, setLineCap_c, setLineWidth_c L, setStroke_c _ hs]
  · rfl
  · -- the cache `SetDashes` finds has the dashes and phase of `w`
    rw [setLineJoin_c L _ hj, setLineCap_c, setLineWidth_c L, setStroke_c _ hs]
    exact hi

theorem strokeBlock_step (L : Lawful N) (d : Draw ν) (hs : d.stroke.has = true) (hj : d.join.pdfOk = true)
    {r : PathRef} {k : PK} {c : PC ν} (hi : PInv N c) :
    PStep (PAct.seq (pdfStrokeSetup N d ++ [say [.path r, .paint k]])) c (strokeCache N d c)
      (pdfPaint (gOf (strokeCache N d c)) r k) := by
  have h : PStep (PAct.seq (pdfStrokeSetup N d)) c (strokeCache N d c) [] := fun w hw => by
    subst hw
    exact ⟨strokeSetup_c L d hs hj w hi, strokeSetup_sim d w hs hj⟩
  exact PStep.append h (sayPaint_step r k)

theorem strokeBlock_simE (d : Draw ν) (hs : d.stroke.has = true) (hj : d.join.pdfOk = true) {r : PathRef} {k : PK} (w : PW ν) :
    PSimE (PAct.seq (pdfStrokeSetup N d ++ [say [.path r, .paint k]])) w :=
  PSimE.append ⟨[], strokeSetup_sim d w hs hj⟩ fun _ => (sayPaint_step r k).simE

def refStroke (N : Num ν) (d : Draw ν) : Painted ν :=
  .stroke [.orig d.pid] d.closed (shadeOf d.stroke) d.stroke.alpha (d.w' N true) d.cap (joinCode d.join) (joinLimit d.join)
    (pdfDashArr (d.dashes' N true)) (pdfPhaseOf N (d.off' N true) (d.dashes' N true))

theorem strokeItem_ref (d : Draw ν) {c : PC ν} (hj : d.join.pdfOk = true) :
    (gOf (strokeCache N d c)).strokeItem (.orig d.pid) d.closed = refStroke N d := by
  -- the item shows the miter limit under join code 0 only, the code of the one admissible joiner that has a limit
  rcases Join.pdfOk_cases hj with h | h | ⟨l, h⟩ <;>
    simp [PG.strokeItem, refStroke, gOf, strokeCache, h, joinCode, joinLimit]

theorem sameAlpha_eq {d : Draw ν} (h : d.sameAlpha = true) : d.fill.alpha = d.stroke.alpha := by
  simp [Draw.sameAlpha] at h
  omega

/-- `pdfDraw` and `pdfRef` opened together: one premise per kind of call `PDF.RenderPath` distinguishes, giving the
blocks it writes, the items `pdfRef` paints then, and what that branch knows about the style. A call whose outline is
empty falls under `nothing` or `fill`. The premises do not say which flags of `d` lead to them: that is the case tree
of the proof. `P` has to be given by name: the conclusion is no pattern from which unification could find it. -/
theorem pdfDraw_cases {P : PAct ν → List (Painted ν) → Prop} (d : Draw ν)
    (nothing : P (PAct.seq []) [])
    (fill : d.fill.has = true →
      P (PAct.seq [setFill d.fill, say [.path (.orig d.pid), .paint (fillK d.evenOdd)]])
        [.fill [.orig d.pid] d.evenOdd (shadeOf d.fill) d.fill.alpha])
    (outline : d.stroke.has = true →
      P (PAct.seq [setFill d.stroke, say [.path (.outline d.pid), .paint (fillK false)]])
        [.fill [.outline d.pid] false (shadeOf d.stroke) d.stroke.alpha])
    (fill_outline : d.fill.has = true → d.stroke.has = true →
      P (PAct.seq ([setFill d.fill, say [.path (.orig d.pid), .paint (fillK d.evenOdd)]] ++
          [setFill d.stroke, say [.path (.outline d.pid), .paint (fillK false)]]))
        [.fill [.orig d.pid] d.evenOdd (shadeOf d.fill) d.fill.alpha,
         .fill [.outline d.pid] false (shadeOf d.stroke) d.stroke.alpha])
    (stroke : d.stroke.has = true → d.join.pdfOk = true →
      P (PAct.seq (pdfStrokeSetup N d ++ [say [.path (.orig d.pid), .paint (strokeK d.closed)]])) [refStroke N d])
    (fill_stroke : d.fill.has = true → d.stroke.has = true → d.join.pdfOk = true →
      P (PAct.seq ([setFill d.fill, say [.path (.orig d.pid), .paint (fillK d.evenOdd)]] ++
          (pdfStrokeSetup N d ++ [say [.path (.orig d.pid), .paint (strokeK d.closed)]])))
        [.fill [.orig d.pid] d.evenOdd (shadeOf d.fill) d.fill.alpha, refStroke N d])
    (both : d.fill.has = true → d.stroke.has = true → d.join.pdfOk = true → d.fill.alpha = d.stroke.alpha →
      P (PAct.seq (setFill d.fill ::
          (pdfStrokeSetup N d ++ [say [.path (.orig d.pid), .paint (bothK d.closed d.evenOdd)]])))
        [.fill [.orig d.pid] d.evenOdd (shadeOf d.fill) d.fill.alpha, refStroke N d]) :
    P (pdfDraw N d) (pdfRef N d) := by
  simp only [pdfDraw, pdfRef_eq, refPaint]
  cases hs : d.hasStroke N d.join.pdfOk
  · cases hf : d.hasFill
    · exact nothing
    · simpa using fill hf
  · have hsn : d.stroke.has = true := (Bool.and_eq_true_iff.1 hs).1
    cases hn : d.native d.join.pdfOk
    · cases hf : d.hasFill
      · cases hoe : d.outlineEmpty
        · simpa [fillK] using outline hsn
        · simpa using nothing
      · cases hoe : d.outlineEmpty
        · simpa [fillK] using fill_outline hf hsn
        · simpa using fill hf
    · have hj : d.join.pdfOk = true := (Bool.and_eq_true_iff.1 hn).1
      cases hf : d.hasFill
      · simpa [refStroke, hj] using stroke hsn hj
      · cases ha : d.sameAlpha
        · simpa [refStroke, hj] using fill_stroke hf hsn hj
        · simpa [refStroke, hj] using both hf hsn hj (sameAlpha_eq ha)

theorem pdfDraw_simE (d : Draw ν) (w : PW ν) : PSimE (pdfDraw N d) w :=
  pdfDraw_cases (P := fun a _ => PSimE a w) d
    (nothing := PSimE.nil w)
    (fill := fun hf => (fillBlock_step d.fill hf).simE)
    (outline := fun hs => (fillBlock_step d.stroke hs).simE)
    (fill_outline := fun hf hs =>
      PSimE.append (fillBlock_step d.fill hf).simE fun _ => (fillBlock_step d.stroke hs).simE)
    (stroke := fun hs hj => strokeBlock_simE d hs hj w)
    (fill_stroke := fun hf hs hj => PSimE.append (fillBlock_step d.fill hf).simE (strokeBlock_simE d hs hj))
    (both := fun hf hs hj _ => PSimE.cons (setFill_step d.fill hf).simE (strokeBlock_simE d hs hj))

theorem PStep.refines {a : PAct ν} {w : PW ν} {c' : PC ν} {out ref : List (Painted ν)} (h : PStep a w.c c' out)
    (ho : ref = out) (hi : PInv N c') : PSim a w ref ∧ PInv N (a w).1.c :=
  ⟨ho ▸ (h w rfl).2, (h w rfl).1 ▸ hi⟩

theorem pdfImage_sim (k : Nat) (w : PW ν) : PSim (pdfImage k) w [.image k 255] := by
  unfold PSim pdfImage
  rw [pdfRun_append, setAlpha_sim 255 w]
  show (_, [Painted.image k (gOf (setAlpha 255 w).1.c).ca]) = _
  rw [setAlpha_c]
  rfl

theorem pg0_eq : pg0 N = gOf (pw0 N).c := rfl

/-- not `invalid`, the item with which the interpreter answers an operator it rejects. No theorem is stated with it:
that a call paints no `invalid` item is part of `pdf_step_refines`, the items of `pdfRef` being fills and strokes. -/
def Painted.valid : Painted ν → Bool
  | .invalid _ => false
  | _ => true

end
end Canvas.C12
