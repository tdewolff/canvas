import CanvasModel.C16
import Mathlib.Tactic.Linarith.Frontend
set_option linter.unusedSectionVars false
namespace Canvas.C16
variable {K : Type} [Field K] [LinearOrder K] [IsStrictOrderedRing K]

/-- where the spans of a line start before the alignment shift: the indent on the first line -/
def ind (indent : K) (first : Bool) : K := if first then indent else 0

/-- positions `xs` with widths `ws` follow each other from `a` and end at `b` -/
def Follows : K → List K → List K → K → Prop
  | a, [], [], b => a = b
  | a, x :: xs, w :: ws, b => x = a ∧ Follows (a + w) xs ws b
  | _, _, _, _ => False

theorem layoutFrom_end (ws : List K) : ∀ a, (layoutFrom a ws).2 = a + ws.sum := by
  induction ws with
  | nil => intro a; simp [layoutFrom]
  | cons w r ih => intro a; rw [layoutFrom, ih, List.sum_cons, add_assoc]

theorem layoutFrom_shift (d : K) (ws : List K) : ∀ a,
    Follows (a + d) ((layoutFrom a ws).1.map (· + d)) ws (a + d + ws.sum) := by
  induction ws with
  | nil => intro a; simp [layoutFrom, Follows]
  | cons w r ih =>
    intro a
    have := ih (a + w)
    rw [add_right_comm a w d, add_assoc (a + d) w] at this
    exact ⟨rfl, this⟩

theorem alignLine_eq (h : HAlign) (width indent : K) (first : Bool) (ws : List K) :
    alignLine h width indent first ws =
      match h with
      | .right => (layoutFrom (ind indent first) ws).1.map (· + (width - (ind indent first + ws.sum)))
      | .center => (layoutFrom (ind indent first) ws).1.map (· + (width - (ind indent first + ws.sum)) / 2)
      | _ => (layoutFrom (ind indent first) ws).1 := by
  have h0 : (if first then 0 + indent else 0) = ind indent first := by rw [zero_add]; rfl
  simp only [alignLine, h0, layoutFrom_end]
  cases h <;> rfl

end Canvas.C16
