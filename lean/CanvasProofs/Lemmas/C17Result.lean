import CanvasProofs.Lemmas.C17Pass
/-! C17: the final selection and the parent walk; what a well-formed chain says about the returned breakpoints
(positions, lines, widths, demerits); a run that returns a breaking ends with a completed pass. -/
set_option linter.unusedSectionVars false
namespace Canvas.C17

section
variable {α : Type} [Add α] [Sub α] [Mul α] [Div α] [Neg α] [LT α] [LE α] [BEq α]
  [DecidableLT α] [DecidableLE α] [NatCast α]
variable (P : Params α) (items : List (Item α)) (lineW : α)

theorem chooseBest_mem : ∀ (l : List (Node α)) (x : Node α), ∃ y, chooseBest l (some x) = some y ∧ (y = x ∨ y ∈ l) := by
  intro l
  induction l with
  | nil => intro x; exact ⟨x, rfl, Or.inl rfl⟩
  | cons a rest ih =>
    intro x
    simp only [chooseBest]
    split
    · obtain ⟨y, hy, hm⟩ := ih a
      exact ⟨y, hy, Or.inr (hm.elim (fun h => h ▸ List.mem_cons_self) (List.mem_cons_of_mem _))⟩
    · obtain ⟨y, hy, hm⟩ := ih x
      exact ⟨y, hy, hm.elim Or.inl (fun h => Or.inr (List.mem_cons_of_mem _ h))⟩

theorem chooseBest_none_mem (l : List (Node α)) (hl : l ≠ []) : ∃ y, chooseBest l none = some y ∧ y ∈ l := by
  cases l with
  | nil => exact absurd rfl hl
  | cons a rest =>
    simp only [chooseBest]
    obtain ⟨y, hy, hm⟩ := chooseBest_mem rest a
    exact ⟨y, hy, hm.elim (fun h => h ▸ List.mem_cons_self) (List.mem_cons_of_mem _)⟩

theorem chooseLoose_mem (loose : Int) (kl : Nat) {L : List (Node α)} : ∀ (l : List (Node α)) (s : Int) (x : Node α),
    x ∈ L → l ⊆ L → chooseLoose loose kl l s x ∈ L := by
  intro l
  induction l with
  | nil => intro s x hx _; exact hx
  | cons a rest ih =>
    intro s x hx hl
    obtain ⟨ha, hr⟩ := List.cons_subset.mp hl
    simp only [chooseLoose]
    split
    · exact ih _ a ha hr
    · split
      · exact ih s a ha hr
      · exact ih s x hx hr

/-- the reported `Ratio`: the line's adjustment ratio, or 0 outside `[-1, Tolerance]` -/
def clampVal (P : Params α) (r : α) : α := if r < -(k 1 : α) || P.tolerance < r then k 0 else r

theorem clampRatio_eq (P : Params α) (c : ND α) : clampRatio P c = { c with ratio := clampVal P c.ratio } := by
  unfold clampRatio clampVal; split <;> rfl

theorem clampVal_zero (P : Params α) : clampVal P (k 0) = k 0 := by
  unfold clampVal; split <;> rfl

/-- the returned breakpoints of a chain (nearest first): the parent walk without the root -/
def fixNonRoot (P : Params α) : List (ND α) → List (ND α)
  | [] => []
  | [_] => []
  | c :: p :: rest => { clampRatio P c with width := c.width - p.w } :: fixNonRoot P (p :: rest)

theorem fixNonRoot_cons (c p : ND α) (rest : List (ND α)) : fixNonRoot P (c :: p :: rest) =
    { c with ratio := clampVal P c.ratio, width := c.width - p.w } :: fixNonRoot P (p :: rest) := by
  simp only [fixNonRoot, clampRatio_eq]

theorem fixNonRoot_getLast (c : ND α) {anc : List (ND α)} (hanc : anc ≠ []) :
    (fixNonRoot P (c :: anc)).reverse.getLast? =
      some { c with ratio := clampVal P c.ratio, width := c.width - (anc.head hanc).w } := by
  obtain ⟨p, rest, rfl⟩ := List.exists_cons_of_ne_nil hanc
  rw [fixNonRoot_cons, List.getLast?_reverse, List.head?_cons, List.head_cons]

theorem fixChain_eq : ∀ (c : ND α) (rest : List (ND α)),
    ∃ r, fixChain P (c :: rest) = fixNonRoot P (c :: rest) ++ [r] := by
  intro c rest
  induction rest generalizing c with
  | nil => exact ⟨clampRatio P c, rfl⟩
  | cons p rest ih =>
    obtain ⟨r, hr⟩ := ih p
    exact ⟨r, by simp only [fixChain, fixNonRoot, hr, List.cons_append]⟩

theorem fixNonRoot_pos : ∀ ch : List (ND α), (fixNonRoot P ch).map (·.pos) = nonRootPos ch := by
  intro ch
  induction ch with
  | nil => rfl
  | cons c rest ih =>
    cases rest with
    | nil => rfl
    | cons p rest' =>
      simp only [fixNonRoot_cons, nonRootPos, List.map_cons, ih]

theorem finish_ok (n : Nat) (loose : Int) (lb : LB α) :
    ∃ breaks, finish P n loose lb = Outcome.ok breaks (!lb.ovf) := by
  unfold finish
  split <;> exact ⟨_, rfl⟩

theorem finish_spec (tol : Option α) (loose : Int)
    (lb : LB α) (m : Nat) (hlen : items.length = m + 1) (hfo : forcedAt P items m = true)
    (hle : legalAt P items m = true) (hI : Inv P items lineW tol items.length lb)
    (breaks : List (ND α)) (fit : Bool) (h : finish P items.length loose lb = Outcome.ok breaks fit) :
    ∃ nb, nb ∈ lb.act ∧ breaks = (fixNonRoot P (nb.d :: nb.anc)).reverse ∧ fit = !lb.ovf ∧
      nb.d.pos = m ∧ nb.anc ≠ [] ∧ (loose = 0 → chooseBest lb.act none = some nb) := by
  unfold finish at h
  obtain ⟨b0, hb0, hb0m⟩ := chooseBest_none_mem lb.act hI.ne
  rw [hb0] at h
  simp only at h
  have hsel : ∃ nb, nb ∈ lb.act ∧ (if loose ≠ 0 then chooseLoose loose b0.d.line lb.act 0 b0 else b0) = nb ∧
      (loose = 0 → b0 = nb) := by
    split
    · rename_i hl
      exact ⟨_, chooseLoose_mem loose _ lb.act 0 b0 hb0m (List.Subset.refl _), rfl, fun h0 => absurd h0 hl⟩
    · exact ⟨b0, hb0m, rfl, fun _ => rfl⟩
  obtain ⟨nb, hnb, hsel, hsel0⟩ := hsel
  rw [hsel] at h
  obtain ⟨hpos, hanc⟩ := hI.last m (by omega) hfo hle nb hnb
  obtain ⟨r, hr⟩ := fixChain_eq P nb.d nb.anc
  have hlenc : 1 < ((fixChain P (nb.d :: nb.anc)).reverse).length := by
    rw [hr]
    cases ha : nb.anc with
    | nil => exact absurd ha hanc
    | cons p rest => simp [fixNonRoot]
  rw [if_pos hlenc] at h
  injection h with h1 h2
  refine ⟨nb, hnb, ?_, h2.symm, hpos, hanc, fun h0 => by rw [← hsel0 h0]; exact hb0⟩
  rw [← h1, hr]
  simp

/-- A run that returns a breaking ends with a completed pass; whatever holds of the first tolerance and
overflow flag and is handed on by every restart holds of that pass. -/
theorem linebreakFuel_ok (loose : Int) (Q : Option α → Bool → Prop)
    (hres : ∀ tol ovf nt ovf', Q tol ovf →
      passLoop P items lineW tol 0 none items (initLB ovf) = PassRes.restart nt ovf' → Q nt ovf')
    (breaks : List (ND α)) (fit : Bool) : ∀ (fuel : Nat) (tol : Option α) (ovf : Bool), Q tol ovf →
    linebreakFuel P items lineW loose fuel tol ovf = Outcome.ok breaks fit →
    ∃ tol' ovf' lb, Q tol' ovf' ∧ passLoop P items lineW tol' 0 none items (initLB ovf') = PassRes.done lb ∧
      finish P items.length loose lb = Outcome.ok breaks fit := by
  intro fuel
  induction fuel with
  | zero => intro tol ovf _ h; simp [linebreakFuel] at h
  | succ f ih =>
    intro tol ovf hQ h
    simp only [linebreakFuel] at h
    cases hp : passLoop P items lineW tol 0 none items (initLB ovf) with
    | panic => rw [hp] at h; cases h
    | restart nt ovf' => rw [hp] at h; exact ih nt ovf' (hres tol ovf nt ovf' hQ hp) h
    | done lb => rw [hp] at h; exact ⟨tol, ovf, lb, hQ, hp, h⟩

end

section
variable {α : Type} [Add α] [Sub α] [Mul α] [Div α] [Neg α] [LT α] [LE α] [BEq α]
  [DecidableLT α] [DecidableLE α] [NatCast α]
variable {P : Params α} {items : List (Item α)} {lineW : α} {tol : Option α} {fb : Bool}

theorem chain_pos : ∀ {c : ND α} {rest : List (ND α)}, ChainOK P items lineW tol fb (c :: rest) →
    (nonRootPos (c :: rest)).Pairwise (· > ·) ∧
      ∀ x, x ∈ nonRootPos (c :: rest) → legalAt P items x = true ∧ x ≤ c.pos
  | _, [], _ => ⟨List.Pairwise.nil, nofun⟩
  | c, p :: rest, h => by
    have L := h.link
    have ih := chain_pos L.tail
    have key : ∀ x, x ∈ nonRootPos (p :: rest) → x < c.pos := by
      intro x hx
      rcases L.above with h3 | rfl
      · exact Nat.lt_of_le_of_lt (ih.2 x hx).2 h3
      · cases hx
    refine ⟨List.Pairwise.cons key ih.1, fun x hx => ?_⟩
    rcases List.mem_cons.mp hx with rfl | hx
    · exact ⟨L.legal, Nat.le_refl _⟩
    · exact ⟨(ih.2 x hx).1, Nat.le_of_lt (key x hx)⟩

theorem chain_sorted {c : ND α} {rest : List (ND α)} (h : ChainOK P items lineW tol fb (c :: rest)) :
    (nonRootPos (c :: rest)).Pairwise (· > ·) :=
  (chain_pos h).1

theorem chain_legal {c : ND α} {rest : List (ND α)} (h : ChainOK P items lineW tol fb (c :: rest)) {x : Nat}
    (hx : x ∈ nonRootPos (c :: rest)) : legalAt P items x = true :=
  ((chain_pos h).2 x hx).1

/-- the returned breakpoint `d` reports the measures of the line from the break `prev` to `d.pos`:
`Width = Σw(d.pos) [+ penalty width] − Σw(after prev)`, and its adjustment ratio `r` (computed
from the same sums) lies in `[-1, tol]` and is reported as `clampVal r`. -/
def LineOK (P : Params α) (items : List (Item α)) (lineW : α) (tol : Option α) (prev : Option Nat) (d : ND α) : Prop :=
  ∃ it r, items[d.pos]? = some it ∧
    adjRatio P lineW it (pre items d.pos).1 (pre items d.pos).2.1 (pre items d.pos).2.2
      (afterSums P items prev).1 (afterSums P items prev).2.1 (afterSums P items prev).2.2 = some r ∧
    feasAt tol r = true ∧ d.ratio = clampVal P r ∧
    d.width = widthAt items d.pos - (afterSums P items prev).1

def LinesOKr (P : Params α) (items : List (Item α)) (lineW : α) (tol : Option α) : List (ND α) → Prop
  | [] => True
  | [d] => LineOK P items lineW tol none d
  | d :: p :: rest => LineOK P items lineW tol (some p.pos) d ∧ LinesOKr P items lineW tol (p :: rest)

/-- the breakpoint `d` was made by the overflow fallback: its `Width` is measured like every other
breakpoint's, its `Ratio` is reported as 0 and its class as 1 -/
def LineFb (P : Params α) (items : List (Item α)) (prev : Option Nat) (d : ND α) : Prop :=
  (∃ it, items[d.pos]? = some it) ∧ d.ratio = k 0 ∧ d.fit = 1 ∧
    d.width = widthAt items d.pos - (afterSums P items prev).1

def LinesAnyr (P : Params α) (items : List (Item α)) (lineW : α) (tol : Option α) : List (ND α) → Prop
  | [] => True
  | [d] => LineOK P items lineW tol none d ∨ LineFb P items none d
  | d :: p :: rest => (LineOK P items lineW tol (some p.pos) d ∨ LineFb P items (some p.pos) d) ∧
      LinesAnyr P items lineW tol (p :: rest)

def WidthsOKr (P : Params α) (items : List (Item α)) : List (ND α) → Prop
  | [] => True
  | [d] => d.width = widthAt items d.pos - (afterSums P items none).1
  | d :: p :: rest => d.width = widthAt items d.pos - (afterSums P items (some p.pos)).1 ∧
      WidthsOKr P items (p :: rest)

theorem linesAny_widths {l : List (ND α)} (h : LinesAnyr P items lineW tol l) : WidthsOKr P items l := by
  induction l with
  | nil => exact True.intro
  | cons d rest ih =>
    cases rest with
    | nil =>
      rcases h with ⟨_, _, _, _, _, _, hw⟩ | ⟨_, _, _, hw⟩ <;> exact hw
    | cons p rest' =>
      obtain ⟨h1, h2⟩ := h
      refine ⟨?_, ih h2⟩
      rcases h1 with ⟨_, _, _, _, _, _, hw⟩ | ⟨_, _, _, hw⟩ <;> exact hw

/-- the break a chain head stands for: `none` for the root -/
def headPrev (c : ND α) (rest : List (ND α)) : Option Nat := if rest = [] then none else some c.pos

theorem chain_head_sums
    {p : ND α} {rest : List (ND α)} (h : ChainOK P items lineW tol fb (p :: rest)) :
    (p.w, p.y, p.z) = afterSums P items (headPrev p rest) ∧ (rest = [] → p = rootD) := by
  cases rest with
  | nil =>
    cases h
    exact ⟨rfl, fun _ => rfl⟩
  | cons q r => exact ⟨h.link.sums, nofun⟩

theorem fixNonRoot_prev (P : Params α) (p : ND α) (rest : List (ND α)) :
    ((fixNonRoot P (p :: rest)).head?).map (·.pos) = headPrev p rest := by
  cases rest with
  | nil => rfl
  | cons q r => rw [fixNonRoot_cons]; rfl

theorem linesOKr_cons (d : ND α) (l : List (ND α)) :
    LinesOKr P items lineW tol (d :: l) ↔
      LineOK P items lineW tol (l.head?.map (·.pos)) d ∧ LinesOKr P items lineW tol l := by
  cases l with
  | nil => exact (and_iff_left True.intro).symm
  | cons p r => exact Iff.rfl

theorem linesAnyr_cons (d : ND α) (l : List (ND α)) :
    LinesAnyr P items lineW tol (d :: l) ↔
      (LineOK P items lineW tol (l.head?.map (·.pos)) d ∨ LineFb P items (l.head?.map (·.pos)) d) ∧
        LinesAnyr P items lineW tol l := by
  cases l with
  | nil => exact (and_iff_left True.intro).symm
  | cons p r => exact Iff.rfl

theorem chain_lines_both
    {ch : List (ND α)} (h : ChainOK P items lineW tol fb ch) :
    LinesAnyr P items lineW tol (fixNonRoot P ch) ∧ (fb = false → LinesOKr P items lineW tol (fixNonRoot P ch)) := by
  induction h with
  | root => exact ⟨True.intro, fun _ => True.intro⟩
  | normal c p rest it h1 h2 h3 h4 h5 h6 h7 h8 h9 h10 ih =>
    obtain ⟨hw, _, _⟩ := sums_eq (chain_head_sums h10).1
    have hL : LineOK P items lineW tol (headPrev p rest)
        { c with ratio := clampVal P c.ratio, width := c.width - p.w } :=
      ⟨it, c.ratio, h4, (ratioAt_eq P items it rfl (chain_head_sums h10).1).symm.trans h7, h8, rfl, by rw [← hw, h6]⟩
    rw [fixNonRoot_cons]
    rw [← fixNonRoot_prev P p rest] at hL
    exact ⟨(linesAnyr_cons _ _).mpr ⟨Or.inl hL, ih.1⟩, fun hf => (linesOKr_cons _ _).mpr ⟨hL, ih.2 hf⟩⟩
  | fallback c p rest h0 h1 h2 h3 h4 h5 h6 h7 h8 h9 ih =>
    obtain ⟨it, hit⟩ := legalAt_some h1
    obtain ⟨hw, _, _⟩ := sums_eq (chain_head_sums h9).1
    have hL : LineFb P items (headPrev p rest) { c with ratio := clampVal P c.ratio, width := c.width - p.w } :=
      ⟨⟨it, hit⟩, h6 ▸ clampVal_zero P, h7, by rw [← hw, h5]⟩
    rw [fixNonRoot_cons]
    rw [← fixNonRoot_prev P p rest] at hL
    exact ⟨(linesAnyr_cons _ _).mpr ⟨Or.inr hL, ih.1⟩, fun hf => by rw [hf] at h0; cases h0⟩

theorem chain_lines_any
    {ch : List (ND α)} (h : ChainOK P items lineW tol fb ch) : LinesAnyr P items lineW tol (fixNonRoot P ch) :=
  (chain_lines_both h).1

theorem chain_lines
    {ch : List (ND α)} (h : ChainOK P items lineW tol false ch) : LinesOKr P items lineW tol (fixNonRoot P ch) :=
  (chain_lines_both h).2 rfl

theorem finish_lines {loose : Int} {lb : LB α} {m : Nat} (hlen : items.length = m + 1)
    (hfo : forcedAt P items m = true) (hle : legalAt P items m = true) (hI : Inv P items lineW tol items.length lb)
    (hov : lb.ovf = false) {breaks : List (ND α)} {fit : Bool}
    (h : finish P items.length loose lb = Outcome.ok breaks fit) :
    fit = true ∧ LinesOKr P items lineW tol breaks.reverse := by
  obtain ⟨nb, hnb, hb, hfit, _, _, _⟩ := finish_spec P items lineW _ loose lb m hlen hfo hle hI breaks fit h
  have hch := (hI.act nb hnb).1
  rw [hov] at hch
  subst hb
  exact ⟨by rw [hfit, hov]; rfl, by rw [List.reverse_reverse]; exact chain_lines hch⟩

/-- Every successful run on a paragraph that ends in a forced legal break returns the (reversed)
parent walk of one node of the final active list of a completed pass that satisfies the invariant. -/
theorem run_chain (hrefl : ∀ a : α, (a == a) = true) {loose : Int} {breaks : List (ND α)} {fit : Bool} {m : Nat}
    (hlen : items.length = m + 1) (hfo : forcedAt P items m = true) (hle : legalAt P items m = true)
    (h : linebreak P items lineW loose = Outcome.ok breaks fit) :
    ∃ tol ovf0 lb nb, passLoop P items lineW tol 0 none items (initLB ovf0) = PassRes.done lb ∧
      Inv P items lineW tol items.length lb ∧ nb ∈ lb.act ∧
      breaks = (fixNonRoot P (nb.d :: nb.anc)).reverse ∧ fit = !lb.ovf ∧ nb.d.pos = m ∧ nb.anc ≠ [] ∧
      (loose = 0 → chooseBest lb.act none = some nb) := by
  obtain ⟨tol, ovf0, lb, _, hp, hf⟩ := linebreakFuel_ok P items lineW loose (fun _ _ => True)
    (fun _ _ _ _ _ _ => True.intro) breaks fit _ _ _ True.intro h
  have hI := passLoop_inv P items lineW hrefl tol ovf0 lb hp
  obtain ⟨nb, hnb, hb, hfit, hpos, hanc, h0⟩ := finish_spec P items lineW tol loose lb m hlen hfo hle hI breaks fit hf
  exact ⟨tol, ovf0, lb, nb, hp, hI, hnb, hb, hfit, hpos, hanc, h0⟩

/-- The structural content of a successful run: the returned breakpoints are the parent walk of one well-formed chain
(with fallback breakpoints only if overflow is reported) that ends at the final break and holds every forced break. -/
theorem result_chain (hrefl : ∀ a : α, (a == a) = true) {loose : Int} {breaks : List (ND α)} {fit : Bool} {m : Nat}
    (hlen : items.length = m + 1) (hfo : forcedAt P items m = true) (hle : legalAt P items m = true)
    (h : linebreak P items lineW loose = Outcome.ok breaks fit) :
    ∃ tol c anc, ChainOK P items lineW tol (!fit) (c :: anc) ∧ breaks = (fixNonRoot P (c :: anc)).reverse ∧
      c.pos = m ∧ anc ≠ [] ∧
      ∀ f, forcedAt P items f = true → legalAt P items f = true → f ∈ nonRootPos (c :: anc) := by
  obtain ⟨tol, _, lb, nb, _, hI, hnb, hb, hfit, hpos, hanc, _⟩ := run_chain hrefl hlen hfo hle h
  refine ⟨tol, nb.d, nb.anc, ?_, hb, hpos, hanc, fun f hf hl => hI.forced nb hnb f (legalAt_lt hl) hf hl⟩
  rw [hfit, Bool.not_not]
  exact (hI.act nb hnb).1

/-- total demerits of a chain recomputed from its lines -/
def chainCost (P : Params α) (items : List (Item α)) : List (ND α) → α
  | [] => k 0
  | [r] => r.dem
  | c :: p :: rest =>
    (match items[c.pos]? with
      | some it => lineDemerits P it c.ratio (flaggedAt items p.pos) p.fit
      | none => k 0) + chainCost P items (p :: rest)

theorem chain_cost {c : ND α} {rest : List (ND α)} (h : ChainOK P items lineW tol false (c :: rest)) :
    c.dem = chainCost P items (c :: rest) := by
  generalize he : c :: rest = ch at h ⊢
  induction h generalizing c rest with
  | root =>
    cases he
    rfl
  | normal c' p rest' it h1 h2 h3 h4 h5 h6 h7 h8 h9 _ ih =>
    cases he
    simp only [chainCost, h4]
    rw [h9, ih rfl]
  | fallback _ _ _ h0 => cases h0

end
end Canvas.C17
