import CanvasModel.C16
import CanvasProofs.Lemmas.Basic
/-! reorderSpans only moves spans: whatever of a span does not depend on its X
(level, width) is kept, in logical order. -/
namespace Canvas.C16
variable {α β : Type} [Add α] [Sub α] [LT α] [∀ a b : α, Decidable (a < b)]

theorem mirror_map (f : Span α → β) (hf : ∀ lo hi t, f (mir lo hi t) = f t) (l : List (Span α)) :
    (mirror l).map f = l.map f := by
  unfold mirror
  split
  · rfl
  · rfl
  · rw [List.map_map]
    exact List.map_congr_left (fun t _ => hf _ _ t)

theorem fixGo_map (f : Span α → β) (hf : ∀ lo hi t, f (mir lo hi t) = f t) (fuel prev : Nat) (l : List (Span α)) :
    (fixGo fuel prev l).map f = l.map f := by
  fun_induction fixGo fuel prev l with
  | case1 | case2 => rfl
  | case3 fuel prev s rest _ inRun tail ih1 ih2 =>
    rw [List.map_append, ih1, ih2, mirror_map f hf, ← List.map_append, List.cons_append, takeWhile_append_drop]
  | case4 fuel prev s rest _ ih => rw [List.map_cons, ih, List.map_cons]

end Canvas.C16
