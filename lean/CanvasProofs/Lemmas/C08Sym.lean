import CanvasProofs.Lemmas.C08
import CanvasProofs.Lemmas.C08Equiv

/-! # C08 — tight boxes are unique, hence equivariant under every axis-aligned affine map

`Bounds` is characterised semantically (contains the path, every side attained); the image of a tight
box under an axis-aligned affine map `m` (diagonal or anti-diagonal linear part: translations, axis
reflections, axis scalings, the swap x↔y and the rotations by multiples of 90°) is the tight box of the
image set, and it is the generated `Rect.Transform r m`. -/
set_option linter.unusedSectionVars false
namespace C08
open Canvas Canvas.C08 GenK
variable {K : Type} [Field K] [LinearOrder K] [IsStrictOrderedRing K] [Env K] [ArcFns K]

def TightBox (S : Pt K → Prop) (r : Rct K) : Prop :=
  (∀ q, S q → InRect r q) ∧
  (∃ q, S q ∧ q.x = r.x0) ∧ (∃ q, S q ∧ q.x = r.x1) ∧ (∃ q, S q ∧ q.y = r.y0) ∧ (∃ q, S q ∧ q.y = r.y1)

variable {S : Pt K → Prop} {r r' : Rct K}

theorem TightBox.intro (c : ∀ q, S q → InRect r q) (a : Att S r) : TightBox S r := ⟨c, a⟩
theorem TightBox.inRect (h : TightBox S r) : ∀ q, S q → InRect r q := h.1
theorem TightBox.att (h : TightBox S r) : Att S r := h.2

theorem tight_unique (h : TightBox S r) (h' : TightBox S r') : r = r' := by
  have a := att_le h.att h'.inRect
  have b := att_le h'.att h.inRect
  cases r; cases r'
  simp only [Rct.mk.injEq]
  exact ⟨le_antisymm b.1 a.1, le_antisymm b.2.2.1 a.2.2.1, le_antisymm a.2.1 b.2.1, le_antisymm a.2.2.2 b.2.2.2⟩

theorem tight_congr {S' : Pt K → Prop} (h : ∀ q, S' q ↔ S q) (t : TightBox S r) : TightBox S' r := by
  rwa [funext fun q => propext (h q)]

def AxisAligned (m : Mat K) : Prop := (m.b = 0 ∧ m.d = 0) ∨ (m.a = 0 ∧ m.e = 0)

def Image (T : Pt K → Pt K) (S : Pt K → Prop) (q : Pt K) : Prop := ∃ q0, S q0 ∧ q = T q0

/-- one axis of `tight_image`: `T` sends coordinate `g` to coordinate `h` by `v ↦ k·v + c`, so the ends of
the image interval are the images of the ends -/
theorem affine_att (T : Pt K → Pt K) (S : Pt K → Prop) (g h : Pt K → K) (k c : K) {lo hi : K}
    (hT : ∀ q, h (T q) = k * g q + c) (alo : Hit S g lo) (ahi : Hit S g hi) :
    Hit (Image T S) h (min (k * lo + c) (k * hi + c)) ∧ Hit (Image T S) h (max (k * lo + c) (k * hi + c)) :=
  have img : ∀ v, Hit S g v → Hit (Image T S) h (k * v + c) :=
    fun v ⟨q, hq, e⟩ => ⟨T q, ⟨q, hq, rfl⟩, by rw [hT, e]⟩
  ⟨sel_min (img lo alo) (img hi ahi), sel_max (img lo alo) (img hi ahi)⟩

/-! `Rect.Transform` takes `min` and `max` over the images of the four corners; when two entries of the
matrix vanish these are two values, each twice, in one of the two orders below. -/

theorem min_uvvu (u v : K) : min u (min v (min v u)) = min u v := by
  rcases le_total u v with h | h <;> simp [h]
theorem max_uvvu (u v : K) : max u (max v (max v u)) = max u v := by
  rcases le_total u v with h | h <;> simp [h]
theorem min_uuvv (u v : K) : min u (min u (min v v)) = min u v := by simp
theorem max_uuvv (u v : K) : max u (max u (max v v)) = max u v := by simp

theorem rectTransform_diag (r : Rct K) (m : Mat K) (hb : m.b = 0) (hd : m.d = 0) :
    Rect.Transform r m = ⟨min (m.a * r.x0 + m.c) (m.a * r.x1 + m.c), min (m.e * r.y0 + m.f) (m.e * r.y1 + m.f),
      max (m.a * r.x0 + m.c) (m.a * r.x1 + m.c), max (m.e * r.y0 + m.f) (m.e * r.y1 + m.f)⟩ := by
  simp only [Rect.Transform, Matrix.Dot, hb, hd, zero_mul, add_zero, zero_add, min_uvvu, max_uvvu, min_uuvv, max_uuvv]

theorem rectTransform_anti (r : Rct K) (m : Mat K) (ha : m.a = 0) (he : m.e = 0) :
    Rect.Transform r m = ⟨min (m.b * r.y0 + m.c) (m.b * r.y1 + m.c), min (m.d * r.x0 + m.f) (m.d * r.x1 + m.f),
      max (m.b * r.y0 + m.c) (m.b * r.y1 + m.c), max (m.d * r.x0 + m.f) (m.d * r.x1 + m.f)⟩ := by
  simp only [Rect.Transform, Matrix.Dot, ha, he, zero_mul, add_zero, zero_add, min_uvvu, max_uvvu, min_uuvv, max_uuvv]

theorem tight_image (m : Mat K) (hm : AxisAligned m) (t : TightBox S r) :
    TightBox (Image (Matrix.Dot m) S) (Rect.Transform r m) := by
  have c := t.inRect
  obtain ⟨a1, a2, a3, a4⟩ := t.att
  refine .intro ?_ ?_
  · -- containment holds for every `m`; only attainment needs the axes to be kept
    rintro q ⟨q0, h0, rfl⟩
    exact Aff.rect_transform_contains m r q0 ⟨(c q0 h0).1, (c q0 h0).2.1⟩ (c q0 h0).2.2
  rcases hm with ⟨hb, hd⟩ | ⟨ha, he⟩
  · rw [rectTransform_diag r m hb hd]
    have X := affine_att (Matrix.Dot m) S Pt.x Pt.x m.a m.c
      (fun q => by simp only [Matrix.Dot, hb, zero_mul, add_zero]) a1 a2
    have Y := affine_att (Matrix.Dot m) S Pt.y Pt.y m.e m.f
      (fun q => by simp only [Matrix.Dot, hd, zero_mul, zero_add]) a3 a4
    exact ⟨X.1, X.2, Y.1, Y.2⟩
  · rw [rectTransform_anti r m ha he]
    have X := affine_att (Matrix.Dot m) S Pt.y Pt.x m.b m.c
      (fun q => by simp only [Matrix.Dot, ha, zero_mul, zero_add]) a3 a4
    have Y := affine_att (Matrix.Dot m) S Pt.x Pt.y m.d m.f
      (fun q => by simp only [Matrix.Dot, he, zero_mul, add_zero]) a1 a2
    exact ⟨X.1, X.2, Y.1, Y.2⟩

theorem image_or (T : Pt K → Pt K) (A B : Pt K → Prop) (q : Pt K) :
    Image T (fun p => A p ∨ B p) q ↔ Image T A q ∨ Image T B q := by
  simp only [Image, or_and_right, exists_or]
theorem image_eq (T : Pt K → Pt K) (p q : Pt K) : Image T (fun p' => p' = p) q ↔ q = T p := by
  simp only [Image, exists_eq_left]
theorem image_false (T : Pt K → Pt K) (q : Pt K) : Image T (fun _ => False) q ↔ False := by
  simp only [Image, false_and, exists_false]
theorem image_exists_mem (T : Pt K → Pt K) (l : List (Cmd K)) (A : Cmd K → Pt K → Prop) (q : Pt K) :
    Image T (fun p => ∃ c ∈ l, A c p) q ↔ ∃ c ∈ l, Image T (A c) q :=
  ⟨fun ⟨q0, ⟨c, hc, h⟩, e⟩ => ⟨c, hc, q0, h, e⟩, fun ⟨c, hc, q0, h, e⟩ => ⟨q0, ⟨c, hc, h⟩, e⟩⟩
theorem image_curve {T : Pt K → Pt K} {f g : K → Pt K} (h : ∀ t, g t = T (f t)) (q : Pt K) :
    (∃ t, 0 ≤ t ∧ t ≤ 1 ∧ q = g t) ↔ Image T (fun q0 => ∃ t, 0 ≤ t ∧ t ≤ 1 ∧ q0 = f t) q := by
  constructor
  · rintro ⟨t, t0, t1, rfl⟩; exact ⟨_, ⟨t, t0, t1, rfl⟩, h t⟩
  · rintro ⟨_, ⟨t, t0, t1, rfl⟩, rfl⟩; exact ⟨t, t0, t1, (h t).symm⟩

theorem onSeg_map (m : Mat K) (start : Pt K) (c : Cmd K) (q : Pt K) :
    OnSeg (Matrix.Dot m start) (c.mapP (Matrix.Dot m)) q ↔ Image (Matrix.Dot m) (OnSeg start c) q := by
  cases c with
  | M p => exact (image_eq _ p q).symm
  | L p | Z p => exact image_curve (fun t => Aff.dot_interpolate m t _ _) q
  | Q cp p => exact image_curve (fun t => (bezier_map t _ (Aff.dot_interpolate m t) _ _ _).1) q
  | C cp1 cp2 p => exact image_curve (fun t => (bezier_map t _ (Aff.dot_interpolate m t) _ _ _).2 _) q
  | A rx ry phi l sw p => exact (image_false _ q).symm

theorem onPathFrom_map (m : Mat K) (cs : List (Cmd K)) (start q : Pt K) :
    OnPathFrom (Matrix.Dot m start) (cs.map (Cmd.mapP (Matrix.Dot m))) q ↔ Image (Matrix.Dot m) (OnPathFrom start cs) q := by
  induction cs generalizing start with
  | nil => exact (image_false _ q).symm
  | cons c cs ih =>
    simp only [List.map_cons, OnPathFrom, endPt_mapP]
    rw [onSeg_map, ih]
    exact (image_or _ _ _ q).symm

theorem onPath_map (m : Mat K) (cs : List (Cmd K)) (harc : ∀ c ∈ cs, c.isArc = false) (q : Pt K) :
    OnPath (cs.map (Cmd.mapP (Matrix.Dot m))) q ↔ Image (Matrix.Dot m) (OnPath cs) q := by
  cases cs with
  | nil => exact (image_false _ q).symm
  | cons c cs =>
    simp only [List.map_cons, OnPath]
    rw [firstPt_mapP _ c (harc c (List.mem_cons_self ..)), onPathFrom_map, ← image_eq]
    exact (image_or _ _ _ q).symm

theorem ctrlOf_map (f : Pt K → Pt K) (c : Cmd K) (q : Pt K) : CtrlOf (c.mapP f) q ↔ Image f (CtrlOf c) q := by
  cases c <;> simp [CtrlOf, Image, Cmd.mapP, or_and_right, exists_or]

theorem ctrlPts_map (f : Pt K → Pt K) (cs : List (Cmd K)) (harc : ∀ c ∈ cs, c.isArc = false) (q : Pt K) :
    CtrlPts (cs.map (Cmd.mapP f)) q ↔ Image f (CtrlPts cs) q := by
  cases cs with
  | nil => exact (image_false _ q).symm
  | cons c cs =>
    show _ ↔ Image f (fun q => q = c.firstPt ∨ ∃ c' ∈ cs, CtrlOf c' q) q
    simp only [List.map_cons, CtrlPts, List.mem_map, exists_exists_and_eq_and, ctrlOf_map,
      firstPt_mapP _ c (harc c (List.mem_cons_self ..)), image_or, image_eq, image_exists_mem]

end C08
