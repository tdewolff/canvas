import CanvasModel.C09.Length
import Mathlib.Algebra.Group.Basic
/-! C09 helper lemmas: the accumulation loop of `Path.Length` is additive over concatenation of record
arrays whose second part begins with a MoveTo (`pathLength_append`, `pathLength_cat`); empty paths and a
trailing MoveTo carry no length. Exact addition (any additive commutative monoid). -/
namespace C09L
open Canvas Canvas.Path Canvas.C09
variable {K : Type} [AddCommMonoid K]

theorem lengthFrom_append (f : Pt K → Cmd K → K) (xs ys : List (Cmd K)) : ∀ (start : Pt K) (d : K),
    lengthFrom (· + ·) f start d (xs ++ ys) =
      lengthFrom (· + ·) f (chainEnd start xs) (lengthFrom (· + ·) f start d xs) ys := by
  induction xs with
  | nil => intro start d; rfl
  | cons c cs ih =>
    intro start d
    cases c <;> simp only [List.cons_append, lengthFrom, chainEnd, Cmd.endp] <;> exact ih _ _

theorem lengthFrom_acc (f : Pt K → Cmd K → K) (cs : List (Cmd K)) : ∀ (start : Pt K) (d : K),
    lengthFrom (· + ·) f start d cs = d + lengthFrom (· + ·) f start 0 cs := by
  induction cs with
  | nil => intro start d; simp [lengthFrom]
  | cons c cs ih =>
    intro start d
    cases c with
    | move p => simp only [lengthFrom]; exact ih p d
    | line p | quad cp p | cube c1 c2 p | arc rx ry phi l sw p | close p =>
      simp only [lengthFrom]
      rw [ih _ (d + _), ih _ (0 + _), zero_add, add_assoc]

theorem lengthFrom_move_start (f : Pt K → Cmd K → K) (p : Pt K) (cs : List (Cmd K)) (s s' : Pt K) (d : K) :
    lengthFrom (· + ·) f s d (.move p :: cs) = lengthFrom (· + ·) f s' d (.move p :: cs) := rfl

theorem pathLength_append (f : Pt K → Cmd K → K) (z p : Pt K) (xs ys : List (Cmd K)) :
    pathLength 0 (· + ·) f z (xs ++ .move p :: ys) =
      pathLength 0 (· + ·) f z xs + pathLength 0 (· + ·) f z (.move p :: ys) := by
  unfold pathLength
  rw [lengthFrom_append, lengthFrom_acc f (.move p :: ys) _ (lengthFrom (· + ·) f z 0 xs)]
  rfl

def StartsWithMove (l : List (Cmd K)) : Prop := l = [] ∨ ∃ p r, l = Cmd.move p :: r

theorem pathLength_isEmpty (f : Pt K → Cmd K → K) (z : Pt K) (l : RPath K)
    (h : StartsWithMove l.reverse) (he : isEmpty l = true) : pathLength 0 (· + ·) f z l.reverse = 0 := by
  cases l with
  | nil => rfl
  | cons c cs =>
    cases cs with
    | nil =>
      rcases h with h | ⟨p, r, h⟩
      · simp at h
      · simp only [List.reverse_cons, List.reverse_nil, List.nil_append, List.cons.injEq] at h
        rw [List.reverse_cons, List.reverse_nil, List.nil_append, h.1]; rfl
    | cons d ds => simp [isEmpty] at he

theorem pathLength_dropTrailingMove (f : Pt K → Cmd K → K) (z : Pt K) (p : RPath K) :
    pathLength 0 (· + ·) f z (dropTrailingMove p).reverse = pathLength 0 (· + ·) f z p.reverse := by
  cases p with
  | nil => rfl
  | cons c cs =>
    cases c with
    | move m =>
      simp only [dropTrailingMove, List.reverse_cons, pathLength]
      rw [lengthFrom_append]; rfl
    | _ => rfl

theorem pathLength_cat (f : Pt K → Cmd K → K) (z : Pt K) (p q : RPath K) (hq : StartsWithMove q.reverse) :
    pathLength 0 (· + ·) f z (q ++ p).reverse =
      pathLength 0 (· + ·) f z p.reverse + pathLength 0 (· + ·) f z q.reverse := by
  rw [List.reverse_append]
  rcases hq with h | ⟨m, r, h⟩
  · rw [h, List.append_nil]; exact (add_zero _).symm
  · rw [h, pathLength_append]

end C09L
