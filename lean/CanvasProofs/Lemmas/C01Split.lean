import CanvasModel.C01Split
/-! The flag `addIntersections` returns (on which `bentleyOttmann` re-sorts) against the events that
`splitAtIntersections` pushed (model `CanvasModel/C01Split.lean`). -/
namespace Canvas.C01Split

theorem changed_iff (sIn : Bool) (zs : List Wn.IPt) (s0 s1 : Wn.IPt) :
    changed sIn zs s0 s1 = true ↔ 0 < splits sIn zs.reverse s0 s1 := by
  unfold changed
  simp [Nat.pos_iff_ne_zero]

theorem addRet_iff_pushed (aIn bIn : Bool) (zs : List Wn.IPt) (a0 a1 b0 b1 : Wn.IPt) :
    addRet aIn bIn zs a0 a1 b0 b1 = true ↔ 0 < pushed aIn bIn zs a0 a1 b0 b1 := by
  unfold addRet pushed
  generalize keepZ aIn bIn a0 b0 zs = ks
  cases ks with
  | nil => simp [splits]
  | cons z ks =>
    simp only [List.isEmpty_cons, Bool.false_eq_true, if_false, Bool.or_eq_true, changed_iff]
    omega

/-- non-vacuity: b ends in the interior of a (T-junction): only a is split, the flag is raised -/
example : addRet false false [⟨2, 0⟩] ⟨0, 0⟩ ⟨4, 0⟩ ⟨2, 0⟩ ⟨3, 5⟩ = true ∧
    pushed false false [⟨2, 0⟩] ⟨0, 0⟩ ⟨4, 0⟩ ⟨2, 0⟩ ⟨3, 5⟩ = 2 := by
  decide

/-- non-vacuity: b is in the status and the intersection lies directly below its left end -/
example : splits true [⟨2, -1⟩] ⟨2, 0⟩ ⟨5, 3⟩ = 0 ∧ splits false [⟨2, -1⟩] ⟨2, 0⟩ ⟨5, 3⟩ = 1 := by
  decide

end Canvas.C01Split
