import CanvasGen.CoreK
import CanvasGen.BezierK
import Mathlib.Tactic.Ring
/-! C03 helper lemmas: de Casteljau splits reparametrise exactly (any field). -/
set_option linter.unusedSectionVars false
namespace C03L
open Canvas GenK
variable {K : Type} [Field K] [LinearOrder K] [IsStrictOrderedRing K] [Env K]

/-- left / right control polygons returned by `quadraticBezierSplit` -/
def quadL (p0 p1 p2 : Pt K) (t : K) : Pt K × Pt K × Pt K :=
  let r := quadraticBezierSplit p0 p1 p2 t
  (r.1, r.2.1, r.2.2.1)
def quadR (p0 p1 p2 : Pt K) (t : K) : Pt K × Pt K × Pt K :=
  let r := quadraticBezierSplit p0 p1 p2 t
  (r.2.2.2.1, r.2.2.2.2.1, r.2.2.2.2.2)

theorem quad_left (p0 p1 p2 : Pt K) (t s : K) :
    quadraticBezierPos (quadL p0 p1 p2 t).1 (quadL p0 p1 p2 t).2.1 (quadL p0 p1 p2 t).2.2 s
      = quadraticBezierPos p0 p1 p2 (t * s) := by
  simp only [quadL, quadraticBezierSplit, quadraticBezierPos, Point.Interpolate, Point.Mul, Point.Add]
  congr 1 <;> ring

theorem quad_right (p0 p1 p2 : Pt K) (t s : K) :
    quadraticBezierPos (quadR p0 p1 p2 t).1 (quadR p0 p1 p2 t).2.1 (quadR p0 p1 p2 t).2.2 s
      = quadraticBezierPos p0 p1 p2 (t + (1 - t) * s) := by
  simp only [quadR, quadraticBezierSplit, quadraticBezierPos, Point.Interpolate, Point.Mul, Point.Add]
  congr 1 <;> ring

theorem quadR_end (p0 p1 p2 : Pt K) (t : K) : (quadR p0 p1 p2 t).2.2 = p2 := rfl

theorem quad_pos_zero (p0 p1 p2 : Pt K) : quadraticBezierPos p0 p1 p2 0 = p0 := by
  cases p0; cases p1; cases p2
  simp [quadraticBezierPos, Point.Mul, Point.Add]

theorem quad_pos_one (p0 p1 p2 : Pt K) : quadraticBezierPos p0 p1 p2 1 = p2 := by
  cases p0; cases p1; cases p2
  simp only [quadraticBezierPos, Point.Mul, Point.Add]
  congr 1 <;> ring

theorem quadL_end (p0 p1 p2 : Pt K) (t : K) : (quadL p0 p1 p2 t).2.2 = quadraticBezierPos p0 p1 p2 t := by
  have h := quad_left p0 p1 p2 t 1
  rwa [quad_pos_one, mul_one] at h

def cubL (p0 p1 p2 p3 : Pt K) (t : K) : Pt K × Pt K × Pt K × Pt K :=
  let r := cubicBezierSplit p0 p1 p2 p3 t
  (r.1, r.2.1, r.2.2.1, r.2.2.2.1)
def cubR (p0 p1 p2 p3 : Pt K) (t : K) : Pt K × Pt K × Pt K × Pt K :=
  let r := cubicBezierSplit p0 p1 p2 p3 t
  (r.2.2.2.2.1, r.2.2.2.2.2.1, r.2.2.2.2.2.2.1, r.2.2.2.2.2.2.2)

theorem cub_left (p0 p1 p2 p3 : Pt K) (t s : K) :
    cubicBezierPos (cubL p0 p1 p2 p3 t).1 (cubL p0 p1 p2 p3 t).2.1 (cubL p0 p1 p2 p3 t).2.2.1 (cubL p0 p1 p2 p3 t).2.2.2 s
      = cubicBezierPos p0 p1 p2 p3 (t * s) := by
  simp only [cubL, cubicBezierSplit, cubicBezierPos, Point.Interpolate, Point.Mul, Point.Add]
  congr 1 <;> ring

theorem cub_right (p0 p1 p2 p3 : Pt K) (t s : K) :
    cubicBezierPos (cubR p0 p1 p2 p3 t).1 (cubR p0 p1 p2 p3 t).2.1 (cubR p0 p1 p2 p3 t).2.2.1 (cubR p0 p1 p2 p3 t).2.2.2 s
      = cubicBezierPos p0 p1 p2 p3 (t + (1 - t) * s) := by
  simp only [cubR, cubicBezierSplit, cubicBezierPos, Point.Interpolate, Point.Mul, Point.Add]
  congr 1 <;> ring

theorem cub_pos_zero (p0 p1 p2 p3 : Pt K) : cubicBezierPos p0 p1 p2 p3 0 = p0 := by
  cases p0; cases p1; cases p2; cases p3
  simp [cubicBezierPos, Point.Mul, Point.Add]

theorem cub_pos_one (p0 p1 p2 p3 : Pt K) : cubicBezierPos p0 p1 p2 p3 1 = p3 := by
  cases p0; cases p1; cases p2; cases p3
  simp only [cubicBezierPos, Point.Mul, Point.Add]
  congr 1 <;> ring

end C03L
