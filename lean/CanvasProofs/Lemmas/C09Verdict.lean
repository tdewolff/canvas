import CanvasProofs.Lemmas.C09Chain
/-! C09 helper lemmas: `toSubs` reads back exactly the structured paths (so theorems about structured
paths cover every well-formed array); the decidable form of `RevOK` is sound. -/
namespace C09L
open Canvas Canvas.Path Canvas.C09
variable {α : Type}

theorem takeBody_spec (cs : List (Cmd α)) :
    (takeBody cs).1 ++ (takeBody cs).2 = cs ∧ (takeBody cs).1.all Cmd.isDraw = true := by
  induction cs with
  | nil => exact ⟨rfl, rfl⟩
  | cons c cs ih =>
    by_cases h : c.isDraw = true
    · simp only [takeBody, h, if_true, List.cons_append, ih.1, List.all_cons, ih.2, Bool.and_self, and_self]
    · simp [takeBody, h]

theorem toSubsN_flat [DecidableEq α] (n : Nat) : ∀ (cs : List (Cmd α)) (subs : List (SubPath α)),
    toSubsN n cs = some subs → flatF subs = cs ∧ ∀ s ∈ subs, s.drawOnly = true := by
  induction n with
  | zero =>
    intro cs subs h
    cases cs with
    | nil => cases h; exact ⟨rfl, by simp⟩
    | cons c cs => cases h
  | succ n ih =>
    intro cs subs h
    cases cs with
    | nil => cases h; exact ⟨rfl, by simp⟩
    | cons c cs =>
      cases c with
      | move p =>
        obtain ⟨hcat, hbd⟩ := takeBody_spec cs
        simp only [toSubsN] at h
        generalize takeBody cs = tb at h hcat hbd
        subst hcat
        split at h
        · next q rest' hr =>
          split at h
          · next hq =>
            obtain ⟨l, hl, rfl⟩ := Option.map_eq_some_iff.mp h
            obtain ⟨h1, h2⟩ := ih _ l hl
            exact ⟨by rw [flatF_cons, h1, hr, hq]; simp, List.forall_mem_cons.mpr ⟨hbd, h2⟩⟩
          · cases h
        · obtain ⟨l, hl, rfl⟩ := Option.map_eq_some_iff.mp h
          obtain ⟨h1, h2⟩ := ih _ l hl
          exact ⟨by rw [flatF_cons, h1]; simp, List.forall_mem_cons.mpr ⟨hbd, h2⟩⟩
      | _ => simp [toSubsN] at h

theorem toSubs_flat [DecidableEq α] (cs : List (Cmd α)) (subs : List (SubPath α)) (h : toSubs cs = some subs) :
    flatF subs = cs ∧ ∀ s ∈ subs, s.drawOnly = true :=
  toSubsN_flat cs.length cs subs h

theorem revOKb_sound [DecidableEq α] (eq : Pt α → Pt α → Bool) (s : SubPath α)
    (h : SubPath.revOKb eq s = true) : s.RevOK eq := by
  obtain ⟨start, segs, closed⟩ := s
  simp only [SubPath.revOKb, Bool.and_eq_true, Bool.or_eq_true, Bool.not_eq_true', decide_eq_true_eq] at h
  refine ⟨h.1, fun hc => ?_⟩
  rcases h.2 with h2 | ⟨⟨⟨hrefl, hfirst⟩, hlast⟩, hzero⟩
  · exact absurd hc (by simp [h2])
  · refine ⟨hrefl, fun c rest hs hl => ?_, fun hl => ?_, fun he => ?_⟩
    · subst hs; simpa [hl] using hfirst
    · simpa [hl] using hlast
    · simpa [he] using hzero

theorem takeBody_append (segs rest : List (Cmd α)) (hd : segs.all Cmd.isDraw = true)
    (hr : ∀ c r, rest = c :: r → c.isDraw = false) :
    takeBody (segs ++ rest) = (segs, rest) := by
  induction segs with
  | nil =>
    cases rest with
    | nil => rfl
    | cons c r => simp [takeBody, hr c r rfl]
  | cons c cs ih =>
    simp only [List.all_cons, Bool.and_eq_true] at hd
    simp [takeBody, hd.1, ih hd.2]

theorem toSubsN_complete [DecidableEq α] (subs : List (SubPath α)) (hd : ∀ s ∈ subs, s.drawOnly = true) :
    ∀ n, (flatF subs).length ≤ n → toSubsN n (flatF subs) = some subs := by
  induction subs with
  | nil => intro n _; cases n <;> rfl
  | cons s more ih =>
    intro n hn
    obtain ⟨start, segs, closed⟩ := s
    have hs : segs.all Cmd.isDraw = true := hd ⟨start, segs, closed⟩ (by simp)
    rw [flatF_cons] at hn ⊢
    cases n with
    | zero => simp at hn
    | succ n =>
      have hm := ih (fun t ht => hd t (by simp [ht])) n (by simp at hn; omega)
      -- after the body comes the Close, the next MoveTo or nothing: never a drawing command
      have htb : takeBody (segs ++ ((if closed then [Cmd.close start] else []) ++ flatF more)) =
          (segs, (if closed then [Cmd.close start] else []) ++ flatF more) :=
        takeBody_append segs _ hs fun c r h => by
          cases closed with
          | true => cases h; rfl
          | false =>
            rcases flatF_head more with h0 | ⟨p, r', h0⟩
            · rw [h0] at h
              cases h
            · rw [h0] at h
              cases h
              rfl
      simp only [toSubsN, List.append_assoc, htb]
      cases closed with
      | true => simp [hm]
      | false =>
        -- the next MoveTo or nothing follows, no Close: the subpath is read as open
        rcases flatF_head more with h0 | ⟨p, r, h0⟩
        · rw [h0] at hm ⊢
          simp [hm]
        · rw [h0] at hm ⊢
          simp [hm]

theorem toSubs_complete [DecidableEq α] (subs : List (SubPath α)) (hd : ∀ s ∈ subs, s.drawOnly = true) :
    toSubs (flatF subs) = some subs :=
  toSubsN_complete subs hd _ (Nat.le_refl _)

end C09L
