import CanvasModel.C09
import CanvasProofs.Lemmas.Basic
/-! C09 helper lemmas: chains of drawing commands and their reversal; the shape of the records of a
structured path (`flatF_cons`). -/
namespace C09L
open Canvas Canvas.Path Canvas.C09
variable {α : Type}

@[simp] theorem retarget_endp (c : Cmd α) (e : Pt α) : (retarget c e).endp = e := by
  cases c <;> rfl

@[simp] theorem retarget_isDraw (c : Cmd α) (e : Pt α) : (retarget c e).isDraw = c.isDraw := by
  cases c <;> rfl

@[simp] theorem retarget_isLine (c : Cmd α) (e : Pt α) : isLine (retarget c e) = isLine c := by
  cases c <;> rfl

@[simp] theorem retarget_isMove (c : Cmd α) (e : Pt α) : (retarget c e).isMove = c.isMove := by
  cases c <;> rfl

@[simp] theorem retarget_retarget (c : Cmd α) (e : Pt α) : retarget (retarget c e) c.endp = c := by
  cases c <;> simp [retarget, Cmd.endp]

theorem isLine_eq (c : Cmd α) (h : isLine c = true) : c = .line c.endp := by
  cases c <;> simp_all [isLine, Cmd.endp]

theorem isDraw_not_move (c : Cmd α) (h : c.isDraw = true) : c.isMove = false := by
  cases c <;> simp_all [Cmd.isDraw, Cmd.isMove]

@[simp] theorem chainEnd_nil (a : Pt α) : chainEnd a [] = a := rfl
@[simp] theorem chainEnd_cons (a : Pt α) (c : Cmd α) (cs : List (Cmd α)) :
    chainEnd a (c :: cs) = chainEnd c.endp cs := rfl

theorem chainEnd_append (a : Pt α) (xs ys : List (Cmd α)) :
    chainEnd a (xs ++ ys) = chainEnd (chainEnd a xs) ys := by
  induction xs generalizing a with
  | nil => rfl
  | cons c cs ih => simp [ih]

@[simp] theorem chainEnd_snoc (a : Pt α) (xs : List (Cmd α)) (y : Cmd α) :
    chainEnd a (xs ++ [y]) = y.endp := by
  simp [chainEnd_append]

@[simp] theorem revChain_nil (a : Pt α) : revChain a [] = [] := rfl
@[simp] theorem revChain_cons (a : Pt α) (c : Cmd α) (cs : List (Cmd α)) :
    revChain a (c :: cs) = revChain c.endp cs ++ [retarget c a] := rfl

theorem revChain_append (a : Pt α) (xs ys : List (Cmd α)) :
    revChain a (xs ++ ys) = revChain (chainEnd a xs) ys ++ revChain a xs := by
  induction xs generalizing a with
  | nil => simp
  | cons c cs ih => simp [ih]

theorem revChain_snoc (a : Pt α) (xs : List (Cmd α)) (y : Cmd α) :
    revChain a (xs ++ [y]) = retarget y (chainEnd a xs) :: revChain a xs := by
  simp [revChain_append]

theorem chainEnd_revChain (a b : Pt α) (cs : List (Cmd α)) (h : cs ≠ []) :
    chainEnd b (revChain a cs) = a := by
  cases cs with
  | nil => exact absurd rfl h
  | cons c cs => simp

theorem chainEnd_revChain_self (a : Pt α) (cs : List (Cmd α)) :
    chainEnd (chainEnd a cs) (revChain a cs) = a := by
  cases cs with
  | nil => rfl
  | cons c cs => simp

theorem revChain_revChain (a : Pt α) (cs : List (Cmd α)) :
    revChain (chainEnd a cs) (revChain a cs) = cs := by
  induction cs generalizing a with
  | nil => rfl
  | cons c cs ih =>
    simp only [chainEnd_cons, revChain_cons]
    rw [revChain_append, chainEnd_revChain_self, ih]
    simp

theorem revChain_all_draw (a : Pt α) (cs : List (Cmd α)) (h : cs.all Cmd.isDraw = true) :
    (revChain a cs).all Cmd.isDraw = true := by
  induction cs generalizing a with
  | nil => rfl
  | cons c cs ih =>
    simp only [List.all_cons, Bool.and_eq_true] at h
    simp [ih _ h.2, h.1]

theorem lastIsLine_cons (c : Cmd α) (cs : List (Cmd α)) (h : cs ≠ []) : lastIsLine (c :: cs) = lastIsLine cs := by
  cases cs with
  | nil => exact absurd rfl h
  | cons d ds => rfl

theorem lastIsLine_tail (c : Cmd α) (cs : List (Cmd α)) (h : lastIsLine (c :: cs) = false) : lastIsLine cs = false := by
  cases cs with
  | nil => rfl
  | cons d ds => rwa [lastIsLine_cons c _ (List.cons_ne_nil d ds)] at h

theorem lastIsLine_snoc (xs : List (Cmd α)) (y : Cmd α) : lastIsLine (xs ++ [y]) = isLine y := by
  induction xs with
  | nil => rfl
  | cons c cs ih => rw [List.cons_append, lastIsLine_cons c _ (by simp), ih]

theorem firstIsLine_revChain (a : Pt α) (cs : List (Cmd α)) :
    firstIsLine (revChain a cs) = lastIsLine cs := by
  induction cs using rev_ind with
  | nil => rfl
  | snoc xs y _ => rw [revChain_snoc, lastIsLine_snoc]; exact retarget_isLine y _

theorem lastIsLine_revChain (a : Pt α) (cs : List (Cmd α)) :
    lastIsLine (revChain a cs) = firstIsLine cs := by
  cases cs with
  | nil => rfl
  | cons c cs => simp [lastIsLine_snoc, firstIsLine]

theorem flatF_cons (s : SubPath α) (more : List (SubPath α)) :
    flatF (s :: more) =
      .move s.start :: ((s.segs ++ (if s.closed then [Cmd.close s.start] else [])) ++ flatF more) := by
  simp [flatF, SubPath.flat]

theorem flatF_append (xs ys : List (SubPath α)) : flatF (xs ++ ys) = flatF xs ++ flatF ys := by
  simp [flatF]

theorem flatF_head (subs : List (SubPath α)) : flatF subs = [] ∨ ∃ p r, flatF subs = Cmd.move p :: r := by
  cases subs with
  | nil => exact Or.inl rfl
  | cons s more => exact Or.inr ⟨_, _, flatF_cons s more⟩

theorem flat_body_no_move (s : SubPath α) (h : s.drawOnly = true) :
    (s.segs ++ (if s.closed then [Cmd.close s.start] else [])).all (fun c => !c.isMove) = true := by
  simp only [SubPath.drawOnly] at h
  simp only [List.all_append, Bool.and_eq_true]
  constructor
  · rw [List.all_eq_true] at h ⊢
    intro c hc
    simp [isDraw_not_move c (h c hc)]
  · cases s.closed <;> simp [Cmd.isMove]

end C09L
