import CanvasProofs.Lemmas.C07Basics
import Mathlib.Tactic.Linarith.Frontend
import Mathlib.Tactic.Positivity.Basic

/-! # C07 helper lemmas: quadratic forms of ellipses — push-forward, pull-back, and the soundness of the
executable arc verdict `arcOK` (CanvasModel/C07.lean), which `Drv/C07.lean` runs over exact rationals. -/
set_option linter.unusedSectionVars false
namespace C07
open Canvas Canvas.C07 GenK

variable {K : Type} [Field K] [LinearOrder K] [IsStrictOrderedRing K]

theorem pull_eval (g : Form K) (t00 t01 t10 t11 x y : K) :
    (g.pull t00 t01 t10 t11).eval x y = g.eval (t00 * x + t01 * y) (t10 * x + t11 * y) := by
  simp only [Form.pull, Form.eval]; ring

theorem push_disc {g : Form K} {ma mb md me : K} (hdet : ma * me - mb * md ≠ 0) :
    (g.push ma mb md me).a * (g.push ma mb md me).c - (g.push ma mb md me).b * (g.push ma mb md me).b =
      (g.a * g.c - g.b * g.b) / ((ma * me - mb * md) * (ma * me - mb * md)) := by
  simp only [Form.push]
  generalize hD : ma * me - mb * md = D at hdet ⊢
  field_simp
  rw [← hD]; ring

theorem eval_diag_nonneg {p q : K} (hp : 0 ≤ p) (hq : 0 ≤ q) (x y : K) : 0 ≤ (Form.mk p 0 q).eval x y := by
  simp only [Form.eval, zero_mul, add_zero, mul_assoc]
  exact add_nonneg (mul_nonneg hp (mul_self_nonneg x)) (mul_nonneg hq (mul_self_nonneg y))

/-- a positive diagonal form stays positive definite under push-forward -/
theorem push_diag_pos {p q ma mb md me : K} (hp : 0 < p) (hq : 0 < q) (hdet : ma * me - mb * md ≠ 0) :
    0 ≤ ((Form.mk p 0 q).push ma mb md me).a + ((Form.mk p 0 q).push ma mb md me).c ∧
    0 < ((Form.mk p 0 q).push ma mb md me).a * ((Form.mk p 0 q).push ma mb md me).c -
      ((Form.mk p 0 q).push ma mb md me).b * ((Form.mk p 0 q).push ma mb md me).b := by
  constructor
  · -- the diagonal entries of a push-forward are values of the form (on the columns of `M⁻¹`)
    exact add_nonneg (eval_diag_nonneg hp.le hq.le _ _) (eval_diag_nonneg hp.le hq.le _ _)
  · rw [push_disc hdet]
    have := mul_self_pos.mpr hdet
    simp only [mul_zero, sub_zero]
    positivity

theorem pull_comp (g : Form K) (t00 t01 t10 t11 s00 s01 s10 s11 : K) :
    g.pull (t00 * s00 + t01 * s10) (t00 * s01 + t01 * s11) (t10 * s00 + t11 * s10) (t10 * s01 + t11 * s11) =
      (g.pull t00 t01 t10 t11).pull s00 s01 s10 s11 := by
  simp only [Form.pull, Form.mk.injEq]
  refine ⟨?_, ?_, ?_⟩ <;> ring

theorem adj_mul {ma mb md me D : K} (hD : ma * me - mb * md = D) (hdet : D ≠ 0) :
    me / D * ma + -mb / D * md = 1 ∧ me / D * mb + -mb / D * me = 0 ∧
    -md / D * ma + ma / D * md = 0 ∧ -md / D * mb + ma / D * me = 1 := by
  refine ⟨?_, ?_, ?_, ?_⟩ <;> field_simp <;> rw [← hD] <;> ring

theorem push_eq_pull (q : Form K) (ma mb md me : K) :
    q.push ma mb md me = q.pull (me / (ma * me - mb * md)) (-mb / (ma * me - mb * md)) (-md / (ma * me - mb * md))
      (ma / (ma * me - mb * md)) := rfl

theorem pull_push {q : Form K} {ma mb md me : K} (hdet : ma * me - mb * md ≠ 0) :
    (q.push ma mb md me).pull ma mb md me = q := by
  obtain ⟨h1, h2, h3, h4⟩ := adj_mul rfl hdet
  rw [push_eq_pull, ← pull_comp, h1, h2, h3, h4]
  cases q
  simp [Form.pull]

theorem push_eval {q : Form K} {ma mb md me x y : K} (hdet : ma * me - mb * md ≠ 0) :
    (q.push ma mb md me).eval (ma * x + mb * y) (md * x + me * y) = q.eval x y := by
  rw [← pull_eval, pull_push hdet]

/-- in its own axes frame `R(c,s)·diag(rx, ry)` an ellipse is the unit circle -/
theorem ellipseForm_pull_axes {rx ry c s : K} (hcs : c * c + s * s = 1) (hrx : rx ≠ 0) (hry : ry ≠ 0) :
    (ellipseForm rx ry c s).pull (c * rx) (-(s * ry)) (s * rx) (c * ry) = ⟨1, 0, 1⟩ := by
  have hx : 1 / (rx * rx) * (rx * rx) = 1 := one_div_mul_cancel (mul_ne_zero hrx hrx)
  have hy : 1 / (ry * ry) * (ry * ry) = 1 := one_div_mul_cancel (mul_ne_zero hry hry)
  simp only [ellipseForm, Form.pull, Form.mk.injEq]
  refine ⟨?_, by ring, ?_⟩
  · linear_combination (c * c + s * s) * (c * c + s * s) * hx + (c * c + s * s + 1) * hcs
  · linear_combination (c * c + s * s) * (c * c + s * s) * hy + (c * c + s * s + 1) * hcs

theorem frame_eq (ma mb md me rx ry c s : K) :
    frame ma mb md me rx ry c s =
      (ma * (c * rx) + mb * (s * rx), ma * (-(s * ry)) + mb * (c * ry), md * (c * rx) + me * (s * rx), md * (-(s * ry)) + me * (c * ry)) := by
  simp only [frame, Prod.mk.injEq]
  refine ⟨?_, ?_, ?_, ?_⟩ <;> ring

theorem arcOK_of_image {ma mb md me rx ry c s rx' ry' c' s' : K} (hcs : c * c + s * s = 1) (hdet : ma * me - mb * md ≠ 0)
    (hrx : rx ≠ 0) (hry : ry ≠ 0) (himg : ellipseForm rx' ry' c' s' = (ellipseForm rx ry c s).push ma mb md me) :
    arcOK ma mb md me rx ry c s rx' ry' c' s' 0 = true := by
  simp only [arcOK, frame_eq]
  rw [himg, pull_comp, pull_push hdet, ellipseForm_pull_axes hcs hrx hry]
  simp [Form.nearId]

theorem nearId_iff (p : Form K) (rel : K) :
    p.nearId rel = true ↔ |p.a - 1| ≤ rel ∧ |p.b| ≤ rel ∧ |p.c - 1| ≤ rel := by
  simp only [Form.nearId, Bool.and_eq_true, decide_eq_true_iff, abs_le]
  constructor
  · rintro ⟨⟨⟨⟨⟨h1, h2⟩, h3⟩, h4⟩, h5⟩, h6⟩
    exact ⟨⟨by linarith, by linarith⟩, ⟨h3, h4⟩, ⟨by linarith, by linarith⟩⟩
  · rintro ⟨⟨h1, h2⟩, ⟨h3, h4⟩, ⟨h5, h6⟩⟩
    exact ⟨⟨⟨⟨⟨by linarith, by linarith⟩, h3⟩, h4⟩, by linarith⟩, by linarith⟩

/-- `r(x²+y²) ∓ 2βxy` is the combination `(r±β)/2 · (x∓y)² + (r∓β)/2 · (x±y)²` of squares -/
theorem form_bound {α β γ r : K} (hα : |α| ≤ r) (hβ : |β| ≤ r) (hγ : |γ| ≤ r) (x y : K) :
    |α * (x * x) + β * (2 * (x * y)) + γ * (y * y)| ≤ 2 * r * (x * x + y * y) := by
  rw [abs_le] at hα hβ hγ ⊢
  have sx := mul_self_nonneg x
  have sy := mul_self_nonneg y
  have sm := mul_self_nonneg (x - y)
  have sp := mul_self_nonneg (x + y)
  constructor
  · linarith [mul_nonneg (neg_le_iff_add_nonneg.mp hα.1) sx, mul_nonneg (neg_le_iff_add_nonneg.mp hγ.1) sy,
      mul_nonneg (sub_nonneg.mpr hβ.2) sm, mul_nonneg (neg_le_iff_add_nonneg.mp hβ.1) sp]
  · linarith [mul_nonneg (sub_nonneg.mpr hα.2) sx, mul_nonneg (sub_nonneg.mpr hγ.2) sy,
      mul_nonneg (neg_le_iff_add_nonneg.mp hβ.1) sm, mul_nonneg (sub_nonneg.mpr hβ.2) sp]

theorem nearId_eval {p : Form K} {rel x y : K} (h : p.nearId rel = true) (hxy : x * x + y * y = 1) :
    |p.eval x y - 1| ≤ 2 * rel := by
  obtain ⟨ha, hb, hc⟩ := (nearId_iff p rel).mp h
  have e : p.eval x y - 1 = (p.a - 1) * (x * x) + p.b * (2 * (x * y)) + (p.c - 1) * (y * y) := by
    simp only [Form.eval]; linear_combination hxy
  have := form_bound ha hb hc x y
  rwa [hxy, mul_one, ← e] at this
end C07
