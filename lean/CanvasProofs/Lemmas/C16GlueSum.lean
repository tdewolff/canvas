import CanvasModel.C16.Glue
import Mathlib.Tactic.Ring
/-! The glue adjustment distributes exactly the run advance of the line's total
stretch and shrink (`ratio · stretch`, resp. `ratio · shrink`) over the glyphs of the glue: a justified
line ends at the box width. Exact arithmetic (`inc a x = a·x`); the rounding of every adjusted advance
to whole font units is outside (oracle tolerance). -/
set_option linter.unusedSectionVars false
namespace Canvas.C16
variable {K : Type} [Field K] [LinearOrder K] [IsStrictOrderedRing K]

-- `y` = stretch, `z` = shrink of an item (the letters of Knuth–Plass and of text.Item); `idealInc`: the
-- increment before rounding; `noInf`: no glue is infinite
def idealInc (a x : K) : K := a * x
def noInf (_ : K) : Bool := false

def totSize (items : List (GItem K)) : Nat := (items.map (·.size)).sum
def glueY (items : List (GItem K)) : K := ((items.filter (fun it => it.ty == Ty.glue)).map (·.y)).sum
def glueZ (items : List (GItem K)) : K := ((items.filter (fun it => it.ty == Ty.glue)).map (·.z)).sum

/-- the glyphs of every glue item add up to the glue's (positive) width, those of penalties to 0 -/
def Fits : List (GItem K) → List K → Prop
  | [], _ => True
  | it :: r, gs =>
    (it.ty = Ty.glue → (gs.take it.size).sum = it.w ∧ 0 < it.w) ∧
    (it.ty = Ty.pen → (gs.take it.size).sum = 0) ∧ Fits r (gs.drop it.size)

theorem glueY_cons (it : GItem K) (r : List (GItem K)) :
    glueY (it :: r) = (if it.ty = .glue then it.y else 0) + glueY r := by
  cases h : it.ty <;> simp [glueY, h]

theorem glueZ_cons (it : GItem K) (r : List (GItem K)) :
    glueZ (it :: r) = (if it.ty = .glue then it.z else 0) + glueZ r := by
  cases h : it.ty <;> simp [glueZ, h]

/-! The loop invariant below needs one fact about `runAdv noInf ratio`: it is additive in (stretch, shrink). -/

theorem runAdv_noInf (ratio y z : K) :
    runAdv noInf ratio y z = if 0 < ratio then ratio * y else if ratio < 0 then ratio * z else 0 := by
  simp [runAdv, noInf]

theorem runAdv_add (ratio y z y' z' : K) :
    runAdv noInf ratio (y + y') (z + z') = runAdv noInf ratio y z + runAdv noInf ratio y' z' := by
  simp only [runAdv_noInf]
  split_ifs
  · exact mul_add ..
  · exact mul_add ..
  · exact (add_zero 0).symm

theorem runAdv_zero (ratio : K) : runAdv noInf ratio 0 0 = 0 := by
  simp [runAdv_noInf]

theorem map_inc_sum (c : K) (l : List K) : (l.map (fun xa => xa + idealInc c xa)).sum = l.sum + c * l.sum := by
  induction l with
  | nil => simp
  | cons a r ih =>
    rw [List.map_cons, List.sum_cons, ih, List.sum_cons]
    simp only [idealInc]; ring

theorem flush_sum {ratio w y z : K} (run : List K) (hs : run.sum = w) (hw : 0 ≤ w)
    (h0 : w = 0 → runAdv noInf ratio y z = 0) :
    (flushRun noInf idealInc ratio w y z run).sum = w + runAdv noInf ratio y z := by
  unfold flushRun
  split
  · rename_i hpos
    rw [map_inc_sum, hs, div_mul_cancel₀ _ hpos.ne']
  · rw [hs, h0 (le_antisymm (not_lt.mp ‹_›) hw), add_zero]

/-- the loop invariant: `run` holds the glyphs of the open run, `w y z` its width, stretch and shrink -/
theorem adjustGo_sum (ratio : K) (items : List (GItem K)) :
    ∀ (gs run : List K) (w y z : K), Fits items gs → run.sum = w → 0 ≤ w → (w = 0 → runAdv noInf ratio y z = 0) →
    (adjustGo noInf idealInc ratio items gs run w y z).sum
      = w + (gs.take (totSize items)).sum + runAdv noInf ratio (y + glueY items) (z + glueZ items) := by
  induction items with
  | nil =>
    intro gs run w y z _ hs hw h0
    rw [adjustGo, flush_sum run.reverse (by rwa [List.sum_reverse]) hw h0]
    simp [totSize, glueY, glueZ]
  | cons it r ih =>
    intro gs run w y z ⟨hg, hp, hrest⟩ hs hw h0
    have htot : totSize (it :: r) = it.size + totSize r := by simp [totSize]
    rw [htot, List.take_add, List.sum_append, glueY_cons, glueZ_cons, adjustGo]
    cases hty : it.ty with
    | box =>
      have hflush := flush_sum run.reverse (by rwa [List.sum_reverse]) hw h0
      have step := ih _ [] 0 0 0 hrest rfl le_rfl (fun _ => runAdv_zero ratio)
      simp only [List.sum_append, hflush, step, reduceCtorEq, if_false, zero_add, runAdv_add ratio y z]
      ring
    | glue =>
      obtain ⟨hm, hpos⟩ := hg hty
      have hr : ((gs.take it.size).reverse ++ run).sum = w + it.w := by
        rw [List.sum_append, List.sum_reverse, hm, hs, add_comm]
      have step := ih _ _ (w + it.w) (y + it.y) (z + it.z) hrest hr (add_nonneg hw hpos.le)
        (fun h => absurd h (add_pos_of_nonneg_of_pos hw hpos).ne')
      simp only [step, if_true, hm, add_assoc]
    | pen =>
      have hm := hp hty
      have hr : ((gs.take it.size).reverse ++ run).sum = w := by
        rw [List.sum_append, List.sum_reverse, hm, hs, zero_add]
      have step := ih _ _ w y z hrest hr hw h0
      simp only [step, reduceCtorEq, if_false, zero_add, hm]

theorem adjustLine_sum (ratio : K) (items : List (GItem K)) (gs : List K) (hf : Fits items gs) :
    (adjustLine noInf idealInc (fun r => decide (r = 0)) ratio items gs).sum
      = (gs.take (totSize items)).sum + runAdv noInf ratio (glueY items) (glueZ items) := by
  unfold adjustLine
  split
  · rename_i h
    rw [of_decide_eq_true h, runAdv_noInf, if_neg (lt_irrefl _), if_neg (lt_irrefl _), add_zero]
    rfl
  · rw [adjustGo_sum ratio items gs [] 0 0 0 hf rfl le_rfl (fun _ => runAdv_zero ratio), zero_add,
      zero_add, zero_add]

end Canvas.C16
