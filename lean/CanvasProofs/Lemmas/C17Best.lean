import CanvasProofs.Lemmas.C17WF
/-! C17: the exhaustive specification `bestFrom` is the minimum of `seqCost` over all legal breakings that skip no
forced break (well-formed paragraphs); the direct-sum step of the specification is the running-sum step of the code. -/
set_option linter.unusedSectionVars false
namespace Canvas.C17

section field
variable {K : Type} [Field K] [LinearOrder K] [IsStrictOrderedRing K]
variable (P : Params K) (items : List (Item K)) (lineW : K)

theorem optMin_some_left (x : K) (o : Option K) : ∃ d, optMin (some x) o = some d ∧ d ≤ x := by
  cases o with
  | none => exact ⟨x, rfl, le_refl _⟩
  | some y =>
    simp only [optMin]
    split
    · rename_i h; exact ⟨y, rfl, le_of_lt h⟩
    · exact ⟨x, rfl, le_refl _⟩

theorem optMin_some_right (o : Option K) (y : K) : ∃ d, optMin o (some y) = some d ∧ d ≤ y := by
  cases o with
  | none => exact ⟨y, rfl, le_refl _⟩
  | some x =>
    simp only [optMin]
    split
    · exact ⟨y, rfl, le_refl _⟩
    · rename_i h; exact ⟨x, rfl, not_lt.mp h⟩

theorem optMin_cases (x y : Option K) (d : K) (h : optMin x y = some d) : x = some d ∨ y = some d := by
  cases x with
  | none => right; simpa [optMin] using h
  | some a =>
    cases y with
    | none => left; simpa [optMin] using h
    | some b =>
      simp only [optMin] at h
      split at h
      · right; exact h
      · left; exact h

/-- cost and class of the line `prev → b` according to the specification (direct sums) -/
def specStep (P : Params K) (items : List (Item K)) (lineW tol : K) (prev : Option Nat) (fit : Nat) (b : Nat) :
    Option (K × Nat) :=
  if legalAt P items b = true then
    match items[b]? with
    | none => none
    | some it =>
      match keepFeas tol (lineRatio P items lineW prev b) with
      | some r => some (lineDemerits P it r (flaggedAtOpt items prev) fit, fitClass r)
      | none => none
  else none

/-- cost and class of the line `prev → b` as the code measures it (running sums) -/
def codeStep (P : Params K) (items : List (Item K)) (lineW tol : K) (prev : Option Nat) (fit : Nat) (b : Nat) :
    Option (K × Nat) :=
  if legalAt P items b = true then
    match items[b]? with
    | none => none
    | some it =>
      match keepFeas tol (ratioAt P items lineW b it (afterSums P items prev)) with
      | some r => some (lineDemerits P it r (flaggedAtOpt items prev) fit, fitClass r)
      | none => none
  else none

theorem codeStep_legal {lineW tol : K} {prev : Option Nat} {fit b : Nat} {dc : K × Nat}
    (h : codeStep P items lineW tol prev fit b = some dc) : legalAt P items b = true := by
  unfold codeStep at h
  by_cases hl : legalAt P items b = true
  · exact hl
  · rw [if_neg hl] at h; cases h

theorem step_equiv (lineW tol : K) (hwf : WF P items lineW)
    (htol : tol < P.infinity) (prev : Option Nat) (fit b : Nat)
    (hprev : ∀ a, prev = some a → a < b ∧ legalAt P items a = true) :
    specStep P items lineW tol prev fit b = codeStep P items lineW tol prev fit b := by
  unfold specStep codeStep
  by_cases hleg : legalAt P items b = true
  · rw [if_pos hleg, if_pos hleg]
    cases hit : items[b]? with
    | none => rfl
    | some it =>
      simp only
      have : keepFeas tol (lineRatio P items lineW prev b) =
          keepFeas tol (ratioAt P items lineW b it (afterSums P items prev)) := by
        unfold lineRatio
        simp only
        rw [lineNat_eq P items prev b it hit (lineStart_le P items lineW hwf hprev hleg), ratioAt,
          hwf.snap prev b it hit (fun a ha => legalAt_lt (hprev a ha).2)]
        exact keepFeas_ratio P lineW tol hwf.inf htol hwf.lw
      rw [this]
  · rw [if_neg hleg, if_neg hleg]

/-- what `bestFrom` does with the line `prev → b` once its cost and class are known -/
def contOf (P : Params K) (items : List (Item K)) (lineW tol : K) (b : Nat) (bs : List Nat) :
    Option (K × Nat) → Option K
  | none => none
  | some (d, c) =>
    match bs with
    | [] => some d
    | _ :: _ =>
      match bestFrom P items lineW tol (some b) c bs with
      | some rest => some (d + rest)
      | none => none

theorem bestFrom_cons (lineW tol : K) (a : Option Nat) (fit b : Nat)
    (bs : List Nat) :
    bestFrom P items lineW tol a fit (b :: bs) =
      optMin (if forcedAt P items b = true then none else bestFrom P items lineW tol a fit bs)
        (contOf P items lineW tol b bs (specStep P items lineW tol a fit b)) := by
  simp only [bestFrom, specStep, keepFeas]
  congr 1
  by_cases hleg : legalAt P items b = true
  · simp only [hleg, if_true]
    cases hit : items[b]? with
    | none => simp [contOf]
    | some it =>
      cases hr : lineRatio P items lineW a b with
      | none => simp [contOf]
      | some r =>
        simp only
        have hfe : feasAt (some tol) r = (decide (-(k 1 : K) ≤ r) && decide (r ≤ tol)) := rfl
        rw [hfe]
        cases hf : (decide (-(k 1 : K) ≤ r) && decide (r ≤ tol)) with
        | false => simp [contOf]
        | true =>
          simp only [if_true, contOf]
          cases bs <;> rfl
  · simp [hleg, contOf]

theorem seqCost_cons_codeStep (lineW tol : K) (prev : Option Nat) (fit : Nat) (acc : K)
    (b : Nat) (rest : List Nat) :
    seqCost P items lineW (some tol) prev fit acc (b :: rest) =
      match codeStep P items lineW tol prev fit b with
      | some (d, c) => seqCost P items lineW (some tol) (some b) c (d + acc) rest
      | none => none := by
  simp only [seqCost, codeStep, keepFeas, ratioAt]
  cases hit : items[b]? with
  | none => simp
  | some it =>
    simp only
    by_cases hleg : legalAt P items b = true
    · simp only [hleg, if_true]
      cases hr : adjRatio P lineW it (pre items b).1 (pre items b).2.1 (pre items b).2.2
          (afterSums P items prev).1 (afterSums P items prev).2.1 (afterSums P items prev).2.2 with
      | none => rfl
      | some r =>
        simp only
        cases hf : feasAt (some tol) r <;> simp
    · simp [hleg]

theorem contOf_some {lineW tol : K} {b : Nat} {bs : List Nat} {c : Nat} {d' : K} (d : K)
    (h : bestFrom P items lineW tol (some b) c bs = some d') :
    contOf P items lineW tol b bs (some (d, c)) = some (d + d') := by
  cases bs with
  | nil => simp [bestFrom] at h
  | cons x xs => simp only [contOf, h]

theorem contOf_cases {lineW tol : K} {b : Nat} {bs : List Nat} {c : Nat} {d1 d : K}
    (h : contOf P items lineW tol b bs (some (d1, c)) = some d) :
    (bs = [] ∧ d = d1) ∨ ∃ d', bestFrom P items lineW tol (some b) c bs = some d' ∧ d = d1 + d' := by
  cases bs with
  | nil => exact Or.inl ⟨rfl, (Option.some.inj h).symm⟩
  | cons x xs =>
    simp only [contOf] at h
    cases hb : bestFrom P items lineW tol (some b) c (x :: xs) with
    | none => rw [hb] at h; cases h
    | some d' => rw [hb] at h; exact Or.inr ⟨d', rfl, (Option.some.inj h).symm⟩

theorem bestFrom_attained (lineW tol : K) (hwf : WF P items lineW) (htol : tol < P.infinity) (hi : Nat) :
    ∀ (len lo : Nat) (a : Option Nat) (fit : Nat) (d : K), lo + len = hi + 1 →
      (∀ x, a = some x → x < lo ∧ legalAt P items x = true) →
      (∀ f, (∀ x, a = some x → x < f) → f < lo → forcedAt P items f = false) →
      bestFrom P items lineW tol a fit (List.range' lo len) = some d →
      ∃ seq, (∀ x, x ∈ seq → lo ≤ x) ∧ seq.Pairwise (· < ·) ∧ NoSkip P items a seq ∧ seq.getLast? = some hi ∧
        ∀ acc, seqCost P items lineW (some tol) a fit acc seq = some (acc + d) := by
  intro len
  induction len with
  | zero => intro lo a fit d _ _ _ h; simp [bestFrom] at h
  | succ len ih =>
    intro lo a fit d hk ha hU h
    rw [List.range'_succ, bestFrom_cons] at h
    rcases optMin_cases _ _ d h with h1 | h1
    · by_cases hfo : forcedAt P items lo = true
      · rw [if_pos hfo] at h1; cases h1
      · rw [if_neg hfo] at h1
        have hfo' : forcedAt P items lo = false := by simpa using hfo
        obtain ⟨seq, s1, s2, s3, s4, s6⟩ := ih (lo + 1) a fit d (by omega)
          (fun x hx => ⟨Nat.lt_succ_of_lt (ha x hx).1, (ha x hx).2⟩)
          (fun f hf1 hf2 => by
            rcases Nat.lt_succ_iff_lt_or_eq.mp hf2 with h | h
            · exact hU f hf1 h
            · rw [h]; exact hfo') h1
        exact ⟨seq, fun x hx => Nat.le_of_succ_le (s1 x hx), s2, s3, s4, s6⟩
    · rw [step_equiv P items lineW tol hwf htol a fit lo ha] at h1
      cases hst : codeStep P items lineW tol a fit lo with
      | none => rw [hst] at h1; simp [contOf] at h1
      | some dc =>
        obtain ⟨d1, c⟩ := dc
        rw [hst] at h1
        rcases contOf_cases P items h1 with ⟨hnil, rfl⟩ | ⟨d', hb, rfl⟩
        · have hlo : lo = hi := by have := List.range'_eq_nil_iff.mp hnil; omega
          refine ⟨[lo], by simp, by simp, ⟨hU, True.intro⟩, by rw [hlo]; rfl, ?_⟩
          intro acc
          rw [seqCost_cons_codeStep, hst]
          simp only [seqCost]
          rw [add_comm]
        · obtain ⟨seq, s1, s2, s3, s4, s6⟩ := ih (lo + 1) (some lo) c d' (by omega)
            (fun x hx => by cases hx; exact ⟨Nat.lt_succ_self _, codeStep_legal P items hst⟩)
            (fun f hf1 hf2 => by have := hf1 lo rfl; omega) hb
          refine ⟨lo :: seq, ?_, List.pairwise_cons.mpr ⟨s1, s2⟩, ⟨hU, s3⟩, ?_, ?_⟩
          · intro x hx
            rcases List.mem_cons.mp hx with rfl | hx
            · exact Nat.le_refl _
            · exact Nat.le_of_succ_le (s1 x hx)
          · cases seq with
            | nil => cases s4
            | cons y ys => rw [List.getLast?_cons_cons, s4]
          · intro acc
            rw [seqCost_cons_codeStep, hst]
            simp only
            rw [s6 (d1 + acc), add_comm d1 acc, add_assoc]

theorem bestFrom_le (lineW tol : K) (hwf : WF P items lineW) (htol : tol < P.infinity) (hi : Nat) :
    ∀ (len lo : Nat) (a : Option Nat) (fit : Nat) (seq : List Nat) (acc c : K), lo + len = hi + 1 →
      (∀ x, a = some x → x < lo ∧ legalAt P items x = true) →
      (∀ x, x ∈ seq → lo ≤ x) → seq.Pairwise (· < ·) → NoSkip P items a seq → seq.getLast? = some hi →
      seqCost P items lineW (some tol) a fit acc seq = some c →
      ∃ d, bestFrom P items lineW tol a fit (List.range' lo len) = some d ∧ acc + d ≤ c := by
  intro len
  induction len with
  | zero =>
    intro lo a fit seq acc c hk _ hr _ _ hl _
    have := hr hi (List.mem_of_getLast? hl)
    omega
  | succ len ih =>
    intro lo a fit seq acc c hk ha hr hpw hns hl hc
    cases seq with
    | nil => cases hl
    | cons x rest =>
      rw [List.range'_succ, bestFrom_cons]
      have hp := List.pairwise_cons.mp hpw
      rcases Nat.eq_or_lt_of_le (hr x List.mem_cons_self) with hxl | hxl
      · -- the breaking breaks at `lo`: the take branch is at most its cost
        subst hxl
        rw [seqCost_cons_codeStep] at hc
        rw [step_equiv P items lineW tol hwf htol a fit lo ha]
        cases hst : codeStep P items lineW tol a fit lo with
        | none => rw [hst] at hc; cases hc
        | some dc =>
          obtain ⟨d1, c1⟩ := dc
          rw [hst] at hc
          simp only at hc
          have htake : ∃ d', contOf P items lineW tol lo (List.range' (lo + 1) len) (some (d1, c1)) = some d' ∧
              acc + d' ≤ c := by
            cases rest with
            | nil =>
              simp only [List.getLast?_singleton, Option.some.injEq] at hl
              obtain rfl : len = 0 := by omega
              simp only [seqCost, Option.some.injEq] at hc
              exact ⟨d1, rfl, by rw [← hc, add_comm]⟩
            | cons y ys =>
              obtain ⟨d', hd', hle'⟩ := ih (lo + 1) (some lo) c1 (y :: ys) (d1 + acc) c (by omega)
                (fun z hz => by cases hz; exact ⟨Nat.lt_succ_self _, codeStep_legal P items hst⟩)
                hp.1 hp.2 hns.2 (by rwa [List.getLast?_cons_cons] at hl) hc
              exact ⟨d1 + d', contOf_some P items d1 hd', by rw [← add_assoc, add_comm acc d1]; exact hle'⟩
          obtain ⟨d', hd', hle'⟩ := htake
          rw [hd']
          obtain ⟨d, hd, hle⟩ := optMin_some_right
            (if forcedAt P items lo = true then none else bestFrom P items lineW tol a fit (List.range' (lo + 1) len)) d'
          exact ⟨d, hd, le_trans (add_le_add_right hle acc) hle'⟩
      · -- it does not: `lo` is not forced, and the skip branch is at most its cost
        have hfo : forcedAt P items lo = false := hns.1 lo (fun z hz => (ha z hz).1) hxl
        rw [hfo]
        simp only [Bool.false_eq_true, if_false]
        obtain ⟨d0, hd0, hle0⟩ := ih (lo + 1) a fit (x :: rest) acc c (by omega)
          (fun z hz => ⟨Nat.lt_succ_of_lt (ha z hz).1, (ha z hz).2⟩)
          (fun z hz => by
            rcases List.mem_cons.mp hz with rfl | hz
            · exact hxl
            · exact Nat.lt_trans hxl (hp.1 z hz))
          hpw hns hl hc
        rw [hd0]
        obtain ⟨d, hd, hle⟩ := optMin_some_left d0
          (contOf P items lineW tol lo (List.range' (lo + 1) len) (specStep P items lineW tol a fit lo))
        exact ⟨d, hd, le_trans (add_le_add_right hle acc) hle0⟩

end field
end Canvas.C17
