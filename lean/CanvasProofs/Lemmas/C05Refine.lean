import CanvasProofs.Lemmas.C05

/-! Refinement of the per-subpath part of `Dash` to the pattern semantics: the pieces cut at the
position list are pieces of the walk, and `assemble` returns exactly the kept ones. -/
set_option linter.unusedSectionVars false
namespace C05L
open Canvas.C05
variable {K : Type} [Field K] [LinearOrder K] [IsStrictOrderedRing K]

/-- discrete intermediate value -/
theorem exists_step (c : Nat → K) (x : K) (h0 : c 0 ≤ x) :
    ∀ m, x < c (m + 1) → ∃ w ≤ m, c w ≤ x ∧ x < c (w + 1) := by
  intro m
  induction m with
  | zero => intro h; exact ⟨0, le_refl _, h0, h⟩
  | succ m ih =>
    intro h
    by_cases hx : x < c (m + 1)
    · obtain ⟨w, hw, e⟩ := ih hx
      exact ⟨w, Nat.le_succ_of_le hw, e⟩
    · exact ⟨m + 1, le_refl _, not_lt.mp hx, h⟩

theorem bounds_zero (t : List K) (length : K) : (bounds t length 0).1 = 0 := rfl

theorem bounds_last (t : List K) (length : K) : (bounds t length t.length).2 = length := by
  unfold bounds; exact if_neg (lt_irrefl _)

/-- a non-empty piece does not run through the start point -/
theorem covers_iff_of_lt {length : K} {ab : K × K} {x : K} (h : ab.1 < ab.2) :
    Covers length ab x ↔ ab.1 ≤ x ∧ x < ab.2 := by
  unfold Covers
  rw [or_iff_left (fun h' => lt_asymm h h'.1), and_iff_right h]

section run
variable (c : Nat → K) (length : K) (t : List K)

/-- what the position loop with `Epsilon = 0` returns when it drops no position (`Run.of_loop`): `t`
holds the positions `c 1, c 2, …` below `length` of an increasing walk `c` with `c 0 ≤ 0 < c 1` -/
structure Run : Prop where
  mono : StrictMono c
  start_le : c 0 ≤ 0
  first_pos : 0 < c 1
  getD_eq : ∀ j < t.length, t.getD j 0 = c (j + 1)
  lt_length : ∀ k < t.length, c (k + 1) < length
  length_le : length ≤ c (t.length + 1)

variable {c length t}

theorem Run.of_loop {d : List K} {J0 : Nat} {pos0 : K} (hne : d ≠ []) (hpos : ∀ x ∈ d, 0 < x)
    (hp0 : pos0 ≤ 0) (h1 : 0 < pos0 + cyc d J0) {fuel iEnd : Nat}
    (h : positionsLoop 0 d length fuel (J0 % d.length) pos0 [] = some (t, iEnd)) :
    iEnd = (J0 + t.length) % d.length ∧ Run (cpos d J0 pos0) length t := by
  have hmono := cpos_strictMono d hne hpos J0 pos0
  rw [← cpos_one] at h1
  obtain ⟨m, e1, e2, e3, e4⟩ := positionsLoop_spec hne h
  simp only [add_zero] at e3 e4
  rw [List.nil_append, List.filter_eq_self.mpr fun a ha => by
    obtain ⟨k, _, rfl⟩ := List.mem_map.mp ha
    exact decide_eq_true (lt_of_lt_of_le h1 (hmono.monotone (Nat.succ_le_succ (Nat.zero_le k))))] at e2
  have hlen : t.length = m := by rw [e2, List.length_map, List.length_range]
  rw [hlen]
  refine ⟨e1, hmono, le_of_eq_of_le (cpos_zero d J0 pos0) hp0, h1, fun j hj => ?_, hlen ▸ e3,
    hlen ▸ not_lt.mp e4⟩
  rw [e2, List.getD_eq_getElem?_getD, List.getElem?_map, List.getElem?_range (hlen ▸ hj)]
  rfl

theorem Run.lo (R : Run c length t) {k : Nat} (hk : 0 < k) (hkn : k ≤ t.length) :
    (bounds t length k).1 = c k := by
  unfold bounds
  rw [if_neg (Nat.ne_of_gt hk), R.getD_eq (k - 1) (Nat.lt_of_lt_of_le (Nat.sub_lt hk Nat.one_pos) hkn),
    Nat.sub_add_cancel hk]

theorem Run.hi (R : Run c length t) {k : Nat} (hkn : k < t.length) :
    (bounds t length k).2 = c (k + 1) := by
  unfold bounds
  rw [if_pos hkn, R.getD_eq k hkn]

theorem Run.lo_lt_hi (R : Run c length t) (hlen : 0 < length) (k : Nat) (hk : k ≤ t.length) :
    (bounds t length k).1 < (bounds t length k).2 := by
  rcases Nat.lt_or_eq_of_le hk with hlt | rfl
  · rw [R.hi hlt]
    rcases Nat.eq_zero_or_pos k with rfl | hp
    · exact R.first_pos
    · rw [R.lo hp hk]; exact R.mono (Nat.lt_succ_self _)
  · rw [bounds_last]
    rcases Nat.eq_zero_or_pos t.length with h0 | hp
    · rw [h0, bounds_zero]; exact hlen
    · rw [R.lo hp (le_refl _), ← Nat.sub_add_cancel hp]
      exact R.lt_length _ (Nat.sub_lt hp Nat.one_pos)

theorem Run.first_lt_last (R : Run c length t) (h2 : 2 ≤ t.length) :
    (bounds t length 0).2 < (bounds t length t.length).1 := by
  have h0 : 0 < t.length := Nat.lt_of_lt_of_le Nat.zero_lt_two h2
  rw [R.hi h0, R.lo h0 (le_refl _)]
  exact R.mono h2

/-- Inside `[0, length)`, piece `k` is walk piece `k`; the first and the last piece are their walk
pieces cut off at `0` and at `length`. -/
theorem Run.covers_iff (R : Run c length t) {k : Nat} (hk : k ≤ t.length) {x : K}
    (hx0 : 0 ≤ x) (hxl : x < length) :
    Covers length (bounds t length k) x ↔ c k ≤ x ∧ x < c (k + 1) := by
  rw [covers_iff_of_lt (R.lo_lt_hi (lt_of_le_of_lt hx0 hxl) k hk)]
  refine and_congr ?_ ?_
  · rcases Nat.eq_zero_or_pos k with rfl | hp
    · rw [bounds_zero]; exact iff_of_true hx0 (le_trans R.start_le hx0)
    · rw [R.lo hp hk]
  · rcases Nat.lt_or_eq_of_le hk with hlt | rfl
    · rw [R.hi hlt]
    · rw [bounds_last]
      exact iff_of_true hxl (lt_of_lt_of_le hxl R.length_le)

theorem Run.exists_piece (R : Run c length t) {x : K} (hx0 : 0 ≤ x) (hxl : x < length) :
    ∃ k, k ≤ t.length ∧ Covers length (bounds t length k) x := by
  obtain ⟨w, hw2, hw⟩ := exists_step c x (le_trans R.start_le hx0) t.length
    (lt_of_lt_of_le hxl R.length_le)
  exact ⟨w, hw2, (R.covers_iff hw2 hx0 hxl).mpr hw⟩

end run

theorem drawnBy_cons (length : K) (a : K × K) (l : List (K × K)) (x : K) :
    DrawnBy length (a :: l) x ↔ Covers length a x ∨ DrawnBy length l x := by
  simp only [DrawnBy, List.mem_cons, exists_eq_or_imp]

theorem drawnBy_nil (length : K) (x : K) : DrawnBy length ([] : List (K × K)) x ↔ False := by
  unfold DrawnBy; simp

theorem drawnBy_append (length : K) (l l' : List (K × K)) (x : K) :
    DrawnBy length (l ++ l') x ↔ DrawnBy length l x ∨ DrawnBy length l' x := by
  unfold DrawnBy; simp only [List.mem_append, or_and_right, exists_or]

theorem drawnBy_map (length : K) (f : Nat → K × K) (l : List Nat) (x : K) :
    DrawnBy length (l.map f) x ↔ ∃ k ∈ l, Covers length (f k) x := by
  simp only [DrawnBy, List.mem_map, exists_exists_and_eq_and]

theorem join_covers {t : List K} {length : K} {x : K}
    (h0 : (bounds t length 0).1 < (bounds t length 0).2)
    (hn : (bounds t length t.length).1 < (bounds t length t.length).2)
    (hlt : (bounds t length 0).2 < (bounds t length t.length).1) :
    Covers length ((bounds t length t.length).1, (bounds t length 0).2) x ↔
      Covers length (bounds t length t.length) x ∨ Covers length (bounds t length 0) x := by
  rw [covers_iff_of_lt h0, covers_iff_of_lt hn]
  unfold Covers
  rw [bounds_zero, bounds_last, or_iff_right (fun h' => lt_asymm hlt h'.1), and_iff_right hlt]

theorem assemble_covers {t : List K} {iEnd : Nat} {length : K} {closed : Bool} {x : K}
    (h0 : (bounds t length 0).1 < (bounds t length 0).2)
    (hn : (bounds t length t.length).1 < (bounds t length t.length).2)
    (hJ : 2 ≤ t.length → (bounds t length 0).2 < (bounds t length t.length).1) :
    DrawnBy length (assemble t iEnd length closed) x ↔
      ∃ k, kept t.length iEnd k = true ∧ Covers length (bounds t length k) x := by
  rw [exists_kept_iff, ← drawnBy_map]
  unfold assemble
  simp only [Nat.add_sub_cancel]
  -- every branch lists the kept pieces: the middle ones, and the last one (if kept) behind them
  -- (open), or in front of them or joined with piece 0 (closed)
  by_cases he : endsInDash iEnd = true
  · rw [if_pos he, and_iff_right he]
    cases closed with
    | false => rw [if_neg Bool.false_ne_true, drawnBy_append, drawnBy_cons, drawnBy_nil, or_false]
    | true =>
      rw [if_pos rfl]
      split
      · next hnt =>
        have hk0 : keptMiddle t.length iEnd = [] := by rw [hnt]; rfl
        rw [hk0, List.map_nil, drawnBy_cons, or_comm]
      · split
        · next hnt hj =>
          -- piece 0 is kept and joined with the last one; `j0 = 0` with a dash at the end means
          -- that `nt` is even, so there are at least two cuts
          have hnt2 : 2 ≤ t.length := (Nat.two_le_iff _).mpr ⟨hnt, fun h1 => by
            rw [j0_eq, h1, Nat.add_mod, endsInDash_iff.mp he] at hj; exact absurd hj (by decide)⟩
          have hkm : keptMiddle t.length iEnd = 0 :: stepTwo t.length t.length 2 := by
            unfold keptMiddle; rw [hj, stepTwo, if_pos (Nat.pos_of_ne_zero hnt)]
          rw [hkm, List.map_cons, drawnBy_cons, drawnBy_cons, join_covers h0 hn (hJ hnt2)]
          exact or_assoc.trans or_comm
        · rw [drawnBy_cons, or_comm]
  · rw [if_neg he]
    exact (or_iff_left fun h => he h.1).symm

end C05L
