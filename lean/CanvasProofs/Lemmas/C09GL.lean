import CanvasGen.GaussLegendreC09
/-!
C09 helper definitions: accuracy predicates for the Gauss–Legendre tables extracted from util.go
(`GenC09.gl3/5/7`, regenerated on every check) and 16-digit reference tables.  Everything is exact
rational arithmetic, so that `C09.gl_tables` and `C09.gl_tables_pinned` are kernel evaluations over the
complete finite tables.
-/
namespace C09L

abbrev Tbl := List (Rat × Rat)

def absR (x : Rat) : Rat := if x < 0 then -x else x

def glSum (t : Tbl) : Rat := t.foldl (fun acc p => acc + p.2) 0

def glMoment (t : Tbl) (k : Nat) : Rat := t.foldl (fun acc p => acc + p.2 * p.1 ^ k) 0

/-- ∫₋₁¹ xᵏ dx -/
def exactMoment (k : Nat) : Rat := if k % 2 = 0 then (2 : Rat) / ((k + 1 : Nat) : Rat) else 0

def glSymmetric (t : Tbl) : Bool := (t.map fun p => (-p.1, p.2)).reverse == t

def momentsWithin (n : Nat) (t : Tbl) (tol : Rat) : Bool :=
  (List.range (2 * n)).all fun k => decide (absR (glMoment t k - exactMoment k) < tol)

/-- the accuracy statement of the property for an n-point table -/
def glAccurate (n : Nat) (t : Tbl) : Bool :=
  t.length == n && decide (absR (glSum t - 2) < 2 / 1000000) && glSymmetric t && momentsWithin n t (1 / 100000)

def closeTo (t ref : Tbl) (dx dw : Rat) : Bool :=
  t.length == ref.length &&
    (t.zip ref).all fun pr => decide (absR (pr.1.1 - pr.2.1) < dx) && decide (absR (pr.1.2 - pr.2.2) < dw)


/-- reference Gauss–Legendre rules, 16 significant digits (Abramowitz & Stegun table 25.4) -/
def ref3 : Tbl :=
  [(-(7745966692414834 : Rat) / 10000000000000000, (5 : Rat) / 9), (0, (8 : Rat) / 9),
   ((7745966692414834 : Rat) / 10000000000000000, (5 : Rat) / 9)]

def ref5 : Tbl :=
  [(-(9061798459386640 : Rat) / 10000000000000000, (2369268850561891 : Rat) / 10000000000000000),
   (-(5384693101056831 : Rat) / 10000000000000000, (4786286704993665 : Rat) / 10000000000000000),
   (0, (128 : Rat) / 225),
   ((5384693101056831 : Rat) / 10000000000000000, (4786286704993665 : Rat) / 10000000000000000),
   ((9061798459386640 : Rat) / 10000000000000000, (2369268850561891 : Rat) / 10000000000000000)]

def ref7 : Tbl :=
  [(-(9491079123427585 : Rat) / 10000000000000000, (1294849661688697 : Rat) / 10000000000000000),
   (-(7415311855993945 : Rat) / 10000000000000000, (2797053914892766 : Rat) / 10000000000000000),
   (-(4058451513773972 : Rat) / 10000000000000000, (3818300505051189 : Rat) / 10000000000000000),
   (0, (512 : Rat) / 1225),
   ((4058451513773972 : Rat) / 10000000000000000, (3818300505051189 : Rat) / 10000000000000000),
   ((7415311855993945 : Rat) / 10000000000000000, (2797053914892766 : Rat) / 10000000000000000),
   ((9491079123427585 : Rat) / 10000000000000000, (1294849661688697 : Rat) / 10000000000000000)]

end C09L
