import CanvasProofs.Lemmas.C13Core

namespace C13L
open Canvas.C13

theorem run_cons {env : Env} {s s' : St} {op : Op} {ops : List Op} (h : run env s (op :: ops) = some s') :
    ∃ s1, step env s op = some s1 ∧ run env s1 ops = some s' := by
  rw [run] at h
  split at h
  · cases h
  · next s1 h1 => exact ⟨s1, h1, h⟩

def isNewPage : Op → Bool
  | .newPage .. => true
  | _ => false

def pagesSoFar (s : St) : Nat := s.pages.length + (if s.page.isSome then 1 else 0)

theorem flushPage_pages (env : Env) (s : St) :
    (flushPage env s).pages.length = pagesSoFar s ∧ (flushPage env s).page = none := by
  unfold flushPage pagesSoFar
  cases hp : s.page with
  | none => simp [hp]
  | some p => simp

/-- the discipline the content stream must obey: BT/ET alternate, text-state operators only inside -/
def textOK : Bool → List Op → Bool
  | _, [] => true
  | inT, .startText :: r => !inT && textOK true r
  | inT, .endText :: r => inT && textOK false r
  | inT, .setFont .. :: r => inT && textOK inT r
  | inT, .setRenderMode .. :: r => inT && textOK inT r
  | _, .newPage .. :: r => textOK false r
  | inT, _ :: r => textOK inT r

def inText (s : St) : Bool := match s.page with
  | none => false
  | some p => p.inText

theorem getFont_page (s : St) (id : Nat) (vert : Bool) : (getFont s id vert).1.page = s.page := by
  obtain ⟨c, H, V, e, _⟩ := getFont_frame s id vert
  rw [e]

theorem mem_infoEntry (s : St) (k : Nat) (key key' : Bytes) (v : Val) :
    (key', v) ∈ infoEntry s k key ↔ (metaGet s k ≠ [] ∧ key' = key ∧ v = .str (encodeText (metaGet s k))) := by
  unfold infoEntry
  split
  · next h => simp at h; simp [h]
  · next h => simp at h; simp [h]

end C13L
