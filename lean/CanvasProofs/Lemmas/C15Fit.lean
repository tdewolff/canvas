import CanvasProofs.Lemmas.C15Ops
import CanvasProofs.Lemmas.C15Mat
import Mathlib.Tactic.Linarith.Frontend
/-! # C15 — the model over `opsK`; `Canvas.Fit`

The projections of `opsK` onto the generated definitions (`C15Ops` holds definitions only) and, with them,
the flip of `DrawImage` (`imageFlip_dot`).  `Canvas.Fit`: after fitting with margin `μ`, every
(non-degenerate) layer lies inside `[μ, W-μ] × [μ, H-μ]` (invariant `Good` of the fold `fitRect`, then
`margin_shift` per axis); `within_reach` is the one-dimensional fact behind `stroke_reach_in_bounds`. -/
set_option linter.unusedSectionVars false
namespace C15
open Canvas Canvas.C15 GenK
variable {K : Type} [Field K] [LinearOrder K] [IsStrictOrderedRing K] [Env K]
variable (tr : K → K) (cd : K → List K → K → List K × Bool)

@[simp] theorem opsK_rectTransform : (opsK tr cd).rectTransform = Rect.Transform := rfl
@[simp] theorem opsK_rectAdd : (opsK tr cd).rectAdd = Rect.Add := rfl
@[simp] theorem opsK_mmul : (opsK tr cd).mmul = Matrix.Mul := rfl
@[simp] theorem opsK_translate : (opsK tr cd).translate = Matrix.Translate := rfl
@[simp] theorem opsK_ident : (opsK tr cd).ident = (⟨1, 0, 0, 0, 1, 0⟩ : Mat K) := rfl
@[simp] theorem opsK_zero : (opsK tr cd).zero = (0 : K) := rfl
@[simp] theorem opsK_neg (a : K) : (opsK tr cd).neg a = -a := rfl
@[simp] theorem opsK_add (a b : K) : (opsK tr cd).add a b = a + b := rfl
@[simp] theorem opsK_sub (a b : K) : (opsK tr cd).sub a b = a - b := rfl
@[simp] theorem opsK_div_two (a : K) : (opsK tr cd).div a (opsK tr cd).two = a / 2 := rfl
@[simp] theorem opsK_scale : (opsK tr cd).scale = Matrix.Scale := rfl
@[simp] theorem opsK_shear : (opsK tr cd).shear = Matrix.Shear := rfl
@[simp] theorem opsK_reflectX : (opsK tr cd).reflectX = Matrix.ReflectX := rfl
@[simp] theorem opsK_reflectY : (opsK tr cd).reflectY = Matrix.ReflectY := rfl
@[simp] theorem opsK_scaleAbout : (opsK tr cd).scaleAbout = Matrix.ScaleAbout := rfl
@[simp] theorem opsK_shearAbout : (opsK tr cd).shearAbout = Matrix.ShearAbout := rfl
@[simp] theorem opsK_reflectXAbout : (opsK tr cd).reflectXAbout = Matrix.ReflectXAbout := rfl
@[simp] theorem opsK_reflectYAbout : (opsK tr cd).reflectYAbout = Matrix.ReflectYAbout := rfl

/-- the image-origin compensation of `DrawImage` mirrors the image rectangle `[0,w]×[0,h]` in
itself on the axes the coordinate system flips -/
theorem imageFlip_dot (cs : CoordSys) (m : Mat K) (w h : K) (p : Pt K) :
    Matrix.Dot (imageFlip (opsK tr cd) cs m w h) p =
      Matrix.Dot m ⟨if cs.flipX then w - p.x else p.x, if cs.flipY then h - p.y else p.y⟩ := by
  cases cs <;>
    simp only [imageFlip, CoordSys.flipX, CoordSys.flipY, if_true, if_false, Bool.false_eq_true, opsK_div_two,
      opsK_reflectXAbout, opsK_reflectYAbout, C15M.reflectXAbout_half_dot, C15M.reflectYAbout_half_dot]

theorem rectEmpty_opsK (r : Rct K) :
    rectEmpty (opsK tr cd) r = (Equal (r.x1 - r.x0) 0 || Equal (r.y1 - r.y0) 0) := rfl

def RWF (r : Rct K) : Prop := r.x0 ≤ r.x1 ∧ r.y0 ≤ r.y1

def Sub (q r : Rct K) : Prop := r.x0 ≤ q.x0 ∧ q.x1 ≤ r.x1 ∧ r.y0 ≤ q.y0 ∧ q.y1 ≤ r.y1

theorem Sub.refl (r : Rct K) : Sub r r := ⟨le_rfl, le_rfl, le_rfl, le_rfl⟩

theorem Sub.trans {p q r : Rct K} (h1 : Sub p q) (h2 : Sub q r) : Sub p r :=
  ⟨h2.1.trans h1.1, h1.2.1.trans h2.2.1, h2.2.2.1.trans h1.2.2.1, h1.2.2.2.trans h2.2.2.2⟩

theorem equal_zero_false_iff {a : K} (h : 0 ≤ a) :
    Equal a 0 = false ↔ (Env.epsilon : K) < a := by
  unfold Equal
  rw [if_neg (not_lt.mpr h)]
  simp

theorem rectEmpty_false_iff {r : Rct K} (h : RWF r) :
    rectEmpty (opsK tr cd) r = false ↔
      (Env.epsilon : K) < r.x1 - r.x0 ∧ (Env.epsilon : K) < r.y1 - r.y0 := by
  rw [rectEmpty_opsK, Bool.or_eq_false_iff,
    equal_zero_false_iff (sub_nonneg.mpr h.1), equal_zero_false_iff (sub_nonneg.mpr h.2)]

theorem transform_wf (r : Rct K) (m : Mat K) : RWF (Rect.Transform r m) := by
  simp only [Rect.Transform, RWF]
  exact ⟨(min_le_left _ _).trans (le_max_left _ _), (min_le_left _ _).trans (le_max_left _ _)⟩

theorem add_wf_left {r : Rct K} (q : Rct K) (h : RWF r) : RWF (Rect.Add r q) := by
  simp only [Rect.Add, RWF]
  exact ⟨(min_le_left _ _).trans (h.1.trans (le_max_left _ _)),
    (min_le_left _ _).trans (h.2.trans (le_max_left _ _))⟩

theorem sub_add_left (r q : Rct K) : Sub r (Rect.Add r q) := by
  simp only [Rect.Add, Sub]
  exact ⟨min_le_left _ _, le_max_left _ _, min_le_left _ _, le_max_left _ _⟩

theorem sub_add_right (r q : Rct K) : Sub q (Rect.Add r q) := by
  simp only [Rect.Add, Sub]
  exact ⟨min_le_right _ _, le_max_right _ _, min_le_right _ _, le_max_right _ _⟩

theorem nonempty_of_sub {q r : Rct K} (hq : RWF q) (hr : RWF r) (hs : Sub q r)
    (hne : rectEmpty (opsK tr cd) q = false) : rectEmpty (opsK tr cd) r = false := by
  rw [rectEmpty_false_iff tr cd hq] at hne
  rw [rectEmpty_false_iff tr cd hr]
  obtain ⟨h1, h2, h3, h4⟩ := hs
  exact ⟨lt_of_lt_of_le hne.1 (sub_le_sub h2 h1), lt_of_lt_of_le hne.2 (sub_le_sub h4 h3)⟩

/-- the layer's bounds are not (Epsilon-)empty: the layer takes part in `Fit` -/
def NE (c : Call K) : Prop := rectEmpty (opsK tr cd) (itemBounds (opsK tr cd) c.item) = false

def tb (c : Call K) : Rct K := Rect.Transform (itemBounds (opsK tr cd) c.item) c.m

/-- loop invariant: `r` is the running rectangle, `S` the layers processed so far; `r` contains the transformed
bounds of every layer that has taken part -/
structure Good (r : Rct K) (S : List (Call K)) : Prop where
  wf : RWF r
  cover : ∀ c ∈ S, NE tr cd c → Sub (tb tr cd c) r

theorem fitStep_good {r : Rct K} {S : List (Call K)} (c : Call K) (hg : Good tr cd r S)
    (hS : ∀ c ∈ S, NE tr cd c → rectEmpty (opsK tr cd) (tb tr cd c) = false) :
    Good tr cd (fitStep (opsK tr cd) r c) (S ++ [c]) := by
  unfold fitStep
  by_cases hb : rectEmpty (opsK tr cd) (itemBounds (opsK tr cd) c.item) = true
  · rw [if_pos hb]
    refine ⟨hg.wf, fun c' hc' hne => ?_⟩
    rcases List.mem_append.mp hc' with h | h
    · exact hg.cover c' h hne
    · rw [List.mem_singleton.mp h, NE, hb] at hne; cases hne
  · rw [if_neg hb]
    by_cases hr : rectEmpty (opsK tr cd) r = true
    · rw [if_pos hr]
      refine ⟨transform_wf _ _, fun c' hc' hne => ?_⟩
      rcases List.mem_append.mp hc' with h | h
      · -- `r` is empty only as long as no layer has taken part: it contains the bounds of each that has
        have := nonempty_of_sub tr cd (transform_wf _ _) hg.wf (hg.cover c' h hne) (hS c' h hne)
        rw [hr] at this; cases this
      · rw [List.mem_singleton.mp h]; exact Sub.refl _
    · rw [if_neg hr]
      refine ⟨add_wf_left (tb tr cd c) hg.wf, fun c' hc' hne => ?_⟩
      rcases List.mem_append.mp hc' with h | h
      · exact (hg.cover c' h hne).trans (sub_add_left _ _)
      · rw [List.mem_singleton.mp h]; exact sub_add_right _ _

theorem foldl_fitStep_good (l : List (Call K)) :
    ∀ {r : Rct K} {S : List (Call K)}, Good tr cd r S →
      (∀ c ∈ S ++ l, NE tr cd c → rectEmpty (opsK tr cd) (tb tr cd c) = false) →
      Good tr cd (l.foldl (fitStep (opsK tr cd)) r) (S ++ l) := by
  induction l with
  | nil => intro r S hg _; simpa using hg
  | cons c l ih =>
    intro r S hg hl
    have h1 := fitStep_good tr cd c hg (fun c' h => hl c' (List.mem_append_left _ h))
    rw [List.append_cons] at hl ⊢
    exact ih h1 hl

/-- every layer whose bounds are not (Epsilon-)empty has transformed bounds that are not
(Epsilon-)empty: `NE c → rectEmpty (tb c) = false`, with `NE` and `tb` written out -/
def NonDegenerate (cv : Canvas K) : Prop :=
  ∀ kl ∈ cv.layers, ∀ c ∈ kl.2,
    rectEmpty (opsK tr cd) (itemBounds (opsK tr cd) c.item) = false →
      rectEmpty (opsK tr cd) (Rect.Transform (itemBounds (opsK tr cd) c.item) c.m) = false

/-- `Fit` folds `fitStep` over all layers, key after key -/
theorem fitRect_good (cv : Canvas K) (hnd : NonDegenerate tr cd cv) :
    Good tr cd (fitRect (opsK tr cd) cv.layers) (cv.layers.flatMap (·.2)) := by
  rw [fitRect, ← List.foldl_flatMap]
  refine foldl_fitStep_good tr cd _ ⟨⟨le_rfl, le_rfl⟩, fun _ h => absurd h List.not_mem_nil⟩ fun c hc => ?_
  obtain ⟨kl, hkl, hc⟩ := List.mem_flatMap.mp hc
  exact hnd kl hkl c hc

theorem fitRect_wf (cv : Canvas K) (hnd : NonDegenerate tr cd cv) :
    RWF (fitRect (opsK tr cd) cv.layers) :=
  (fitRect_good tr cd cv hnd).wf

theorem pre_translate_dot (x y : K) (c : Call K) (p : Pt K) :
    Matrix.Dot (Call.pre (opsK tr cd) (Matrix.Translate ⟨1, 0, 0, 0, 1, 0⟩ x y) c).m p =
      ⟨(Matrix.Dot c.m p).x + x, (Matrix.Dot c.m p).y + y⟩ := by
  show Matrix.Dot (Matrix.Mul (Matrix.Translate ⟨1, 0, 0, 0, 1, 0⟩ x y) c.m) p = _
  rw [Aff.dot_mul, Aff.translate_dot]
  simp [Matrix.Dot]

theorem within_reach {a b q t e : K} (hq : a ≤ q ∧ q ≤ b) (h : |t - q| ≤ e) : a - e ≤ t ∧ t ≤ b + e := by
  obtain ⟨h0, h1⟩ := abs_le.mp h
  exact ⟨(sub_le_sub_right hq.1 e).trans (sub_le_iff_le_add.mpr (neg_le_sub_iff_le_add.mp h0)),
    (sub_le_iff_le_add'.mp h1).trans (add_le_add hq.2 le_rfl)⟩

/-- moving `[lo, hi]` to `[μ, hi - lo + μ]` inside a canvas of size `hi - lo + 2μ` -/
theorem margin_shift {lo a t b hi : K} (μ : K) (h1 : lo ≤ a) (h2 : a ≤ t) (h3 : t ≤ b) (h4 : b ≤ hi) :
    μ ≤ t + -(lo - μ) ∧ t + -(lo - μ) ≤ (hi + μ) - (lo - μ) - μ := by
  constructor <;> linarith

end C15
