import CanvasProofs.Lemmas.C17Result
/-! C17: the relaxation loop terminates (the tolerance strictly increases through a finite set of ratios); no
out-of-range read when every glue item has a successor. -/
set_option linter.unusedSectionVars false
namespace Canvas.C17

section
variable {α : Type} [Add α] [Sub α] [Mul α] [Div α] [Neg α] [LT α] [LE α] [BEq α]
  [DecidableLT α] [DecidableLE α] [NatCast α]
variable (P : Params α) (items : List (Item α)) (lineW : α)

/-- the finitely many sum triples a node can carry (`IsT`), and the ratios they give (`InS`), as lists -/
def Tlist (P : Params α) (items : List (Item α)) : List (α × α × α) :=
  (k 0, k 0, k 0) :: (List.range items.length).flatMap (fun a => [sumsAfter P items a, pre items (a + 1)])

def Slist (P : Params α) (items : List (Item α)) (lineW : α) : List α :=
  (List.range items.length).flatMap (fun b =>
    match items[b]? with
    | some it => (Tlist P items).filterMap (ratioAt P items lineW b it)
    | none => [])

theorem Tlist_length : (Tlist P items).length ≤ 2 * items.length + 1 := by
  unfold Tlist
  have := length_flatMap_le (fun a => [sumsAfter P items a, pre items (a + 1)]) 2 (fun _ => Nat.le_refl _)
    (List.range items.length)
  simp only [List.length_cons, List.length_range] at this ⊢
  omega

theorem Slist_length :
    (Slist P items lineW).length ≤ (2 * items.length + 1) * items.length := by
  unfold Slist
  refine Nat.le_trans (length_flatMap_le _ (2 * items.length + 1) (fun b => ?_) _) (by simp [Nat.mul_comm])
  split
  · exact Nat.le_trans (List.length_filterMap_le _ _) (Tlist_length P items)
  · simp

theorem isT_mem {t : α × α × α} (h : IsT P items t) : t ∈ Tlist P items := by
  unfold Tlist
  rcases h with rfl | ⟨a, ha, h⟩
  · exact List.mem_cons_self
  · refine List.mem_cons_of_mem _ (List.mem_flatMap.mpr ⟨a, List.mem_range.mpr ha, ?_⟩)
    rcases h with rfl | rfl <;> simp

theorem inS_mem {r : α} (h : InS P items lineW r) : r ∈ Slist P items lineW := by
  obtain ⟨b, it, t, hit, ht, hr⟩ := h
  unfold Slist
  refine List.mem_flatMap.mpr ⟨b, List.mem_range.mpr (List.getElem?_eq_some_iff.mp hit).1, ?_⟩
  rw [hit]
  exact List.mem_filterMap.mpr ⟨t, isT_mem P items ht, hr⟩

/-- number of restarts still possible from tolerance `tol` -/
def mu (S : List α) : Option α → Nat
  | none => 0
  | some t => 1 + S.countP (fun s => decide (t < s))

theorem mu_decreases (hirr : ∀ a : α, ¬ a < a) (htr : ∀ a b c : α, a < b → b < c → a < c)
    {P : Params α} {items : List (Item α)} {lineW : α} {tol nt : Option α} (h1 : tolEq tol nt = false)
    (h2 : nt = none ∨ ∃ r, nt = some r ∧ ltTol tol r = true ∧ InS P items lineW r) :
    mu (Slist P items lineW) nt < mu (Slist P items lineW) tol := by
  rcases h2 with rfl | ⟨r, rfl, hlt, hin⟩
  · cases tol with
    | none => simp [tolEq] at h1
    | some t => simp only [mu]; omega
  · cases tol with
    | none => simp [ltTol] at hlt
    | some t =>
      simp only [ltTol, decide_eq_true_eq] at hlt
      simp only [mu]
      have := countP_lt_of (fun s => decide (r < s)) (fun s => decide (t < s))
        (fun x hx => by
          simp only [decide_eq_true_eq] at hx ⊢
          exact htr t r x hlt hx) r (Slist P items lineW) (inS_mem P items lineW hin)
        (by simpa using hlt) (by simpa using hirr r)
      omega

theorem linebreakFuel_ne_fuelOut (hrefl : ∀ a : α, (a == a) = true) (hirr : ∀ a : α, ¬ a < a)
    (htr : ∀ a b c : α, a < b → b < c → a < c) (P : Params α) (items : List (Item α)) (lineW : α) (loose : Int) :
    ∀ (fuel : Nat) (tol : Option α) (ovf : Bool), mu (Slist P items lineW) tol < fuel →
      linebreakFuel P items lineW loose fuel tol ovf ≠ Outcome.fuelOut := by
  intro fuel
  induction fuel with
  | zero => intro tol ovf h; omega
  | succ f ih =>
    intro tol ovf hmu
    simp only [linebreakFuel]
    have hs := run_sound hrefl (run_start P items lineW tol (initLB ovf)) (inv_init P items lineW tol ovf)
    cases hp : passLoop P items lineW tol 0 none items (initLB ovf) with
    | panic => simp
    | done lb =>
      obtain ⟨_, h⟩ := finish_ok P items.length loose lb
      simp [h]
    | restart nt ovf' =>
      rw [hp] at hs
      have := mu_decreases hirr htr hs.1 hs.2
      exact ih nt ovf' (by omega)

theorem mu_le (S : List α) (tol : Option α) : mu S tol ≤ 1 + S.length := by
  cases tol with
  | none => simp [mu]
  | some t => simp only [mu]; have := List.countP_le_length (p := fun s => decide (t < s)) (l := S); omega

theorem linebreakFuel_ne_panic (loose : Int)
    (hnp : ∀ b it, items[b]? = some it → it.ty = Ty.glue → b + 1 < items.length) :
    ∀ (fuel : Nat) (tol : Option α) (ovf : Bool),
      linebreakFuel P items lineW loose fuel tol ovf ≠ Outcome.panic := by
  intro fuel
  induction fuel with
  | zero => intro tol ovf; simp [linebreakFuel]
  | succ f ih =>
    intro tol ovf
    simp only [linebreakFuel]
    cases hp : passLoop P items lineW tol 0 none items (initLB ovf) with
    | panic => exact absurd hp (run_ne_panic hnp (run_start P items lineW tol (initLB ovf)))
    | done lb =>
      obtain ⟨_, h⟩ := finish_ok P items.length loose lb
      simp [h]
    | restart nt ovf' => exact ih nt ovf'

end
end Canvas.C17
