import CanvasProofs.Lemmas.C13Res

/-! C13: every indirect reference the writer itself generates (page tree kids, page contents, font
and image resources, catalog, trailer) is the number of an entry of the final object table — and
what else holds of a reachable state: one invariant, kept by each primitive of the writer. -/
namespace C13L
open Canvas.C13
open Canvas (forall_mem_snoc mem_map_append mem_map_last)

def PRefs (p : Page) (len : Nat) : Prop := (∀ e ∈ p.fonts, InR len e.2) ∧ (∀ e ∈ p.xobjs, InR len e.2)

theorem PRefs.mono {p : Page} {len len' : Nat} (h : PRefs p len) (hl : len ≤ len') : PRefs p len' :=
  ⟨fun e he => (h.1 e he).mono hl, fun e he => (h.2 e he).mono hl⟩

theorem PRefs.of_eq {p p' : Page} {len : Nat} (h : PRefs p len) (hf : p'.fonts = p.fonts) (hx : p'.xobjs = p.xobjs) :
    PRefs p' len := by unfold PRefs; rw [hf, hx]; exact h

structure RefInv (s : St) : Prop where
  sinv : SInv s
  pages : ∀ r ∈ s.pages, 2 ≤ r ∧ r ≤ s.core.offs.length
  images : ∀ e ∈ s.images, InR s.core.offs.length e.2
  cur : ∀ p, s.page = some p → PRefs p s.core.offs.length
  done : ∀ p ∈ s.done, PRefs p s.core.offs.length

/-- `n` = `NewPage` calls so far. -/
structure Reach (n : Nat) (s : St) : Prop where
  refs : RefInv s
  cur : ∀ p, s.page = some p → PageOK p
  done : ∀ p ∈ s.done, PageOK p
  len : s.done.length = s.pages.length
  count : pagesSoFar s = n

theorem reach_init : Reach 0 ({} : St) :=
  ⟨⟨sinv_init, fun _ h => (nomatch h), fun _ h => (nomatch h), fun _ h => (nomatch h), fun _ h => (nomatch h)⟩,
    fun _ h => (nomatch h), fun _ h => (nomatch h), rfl, rfl⟩

/-- Work behind the current page: the object table only grows, so every clause about references
only gets weaker. -/
theorem Reach.behind {n : Nat} {s t : St} (h : Reach n s) (ht : SInv t) (hl : s.core.offs.length ≤ t.core.offs.length)
    (e1 : t.pages = s.pages) (hi : ∀ e ∈ t.images, e ∈ s.images ∨ InR t.core.offs.length e.2)
    (e3 : t.page = s.page) (e4 : t.done = s.done) : Reach n t := by
  refine ⟨⟨ht, ?_, ?_, ?_, ?_⟩, ?_, ?_, ?_, ?_⟩
  · rw [e1]; exact fun r hr => ⟨(h.refs.pages r hr).1, Nat.le_trans (h.refs.pages r hr).2 hl⟩
  · exact fun e he => (hi e he).elim (fun he => (h.refs.images e he).mono hl) id
  · rw [e3]; exact fun p hp => (h.refs.cur p hp).mono hl
  · rw [e4]; exact fun p hp => (h.refs.done p hp).mono hl
  · rw [e3]; exact h.cur
  · rw [e4]; exact h.done
  · rw [e4, e1]; exact h.len
  · rw [← h.count, pagesSoFar, pagesSoFar, e1, e3]

theorem Reach.setPage {n : Nat} {s : St} {p p' : Page} (h : Reach n s) (hp : s.page = some p)
    (ok : PageOK p') (rf : PRefs p' s.core.offs.length) : Reach n { s with page := some p' } :=
  ⟨⟨h.refs.sinv, h.refs.pages, h.refs.images, fun _ e => Option.some.inj e ▸ rf, h.refs.done⟩,
    fun _ e => Option.some.inj e ▸ ok, h.done, h.len, by rw [← h.count, pagesSoFar, pagesSoFar, hp]; rfl⟩

theorem Reach.font {n : Nat} {s : St} (h : Reach n s) (id : Nat) (vert : Bool) :
    Reach n (getFont s id vert).1 ∧ (getFont s id vert).1.page = s.page
      ∧ InR (getFont s id vert).1.core.offs.length (getFont s id vert).2 := by
  obtain ⟨c, H, V, e, hl, hs⟩ := getFont_spec s id vert
  rw [e]
  exact ⟨h.behind (hs h.refs.sinv).1 hl rfl (fun _ he => Or.inl he) rfl rfl, rfl, (hs h.refs.sinv).2⟩

theorem Reach.image {n : Nat} {s : St} (h : Reach n s) (env : Env) (id : Nat) :
    Reach n (embedImage env s id).1 ∧ (embedImage env s id).1.page = s.page
      ∧ InR (embedImage env s id).1.core.offs.length (embedImage env s id).2 := by
  unfold embedImage
  split
  · next r heq =>
    obtain ⟨e, he, rfl⟩ := List.mem_map.mp (lookupFont_mem heq)
    exact ⟨h, rfl, h.refs.images e he⟩
  · have hl := foldl_writeObject_len (env.imageVals id) s.core
    have hr : InR ((env.imageVals id).foldl Core.writeObject s.core).offs.length
        ((env.imageVals id).foldl Core.writeObject s.core).offs.length :=
      ⟨by have := h.refs.sinv.inv.three; omega, Nat.le_refl _⟩
    exact ⟨h.behind (h.refs.sinv.grow (inv_foldl_writeObject _ h.refs.sinv.inv) hl) hl rfl
      (forall_mem_snoc (fun _ he => Or.inl he) (Or.inr hr)) rfl rfl, rfl, hr⟩

/-- `writePage` writes two objects; the second is the page. -/
theorem Reach.flush {n : Nat} {s : St} (h : Reach n s) (env : Env) : Reach n (flushPage env s) := by
  have hs := sinv_flushPage env h.refs.sinv
  have hc := (flushPage_pages env s).1.trans h.count
  unfold flushPage at hs hc ⊢
  cases hp : s.page with
  | none => exact h
  | some p =>
    simp only [hp] at hs hc
    have hlen : (writePage env s.compress s.core p).1.offs.length = s.core.offs.length + 2 := by
      simp only [writePage, writeObject_len]
    have hl : s.core.offs.length ≤ (writePage env s.compress s.core p).1.offs.length := by omega
    refine ⟨⟨hs, forall_mem_snoc (fun r hr => ⟨(h.refs.pages r hr).1, Nat.le_trans (h.refs.pages r hr).2 hl⟩)
          (show 2 ≤ (writePage env s.compress s.core p).1.offs.length ∧ _ from ⟨by omega, Nat.le_refl _⟩),
        fun e he => (h.refs.images e he).mono hl, fun q hq => (nomatch hq),
        forall_mem_snoc (fun q hq => (h.refs.done q hq).mono hl) ((h.refs.cur p hp).mono hl)⟩,
      fun q hq => (nomatch hq), forall_mem_snoc h.done (h.cur p hp), ?_, hc⟩
    · show (s.done ++ [p]).length = (s.pages ++ [_]).length
      rw [List.length_append, List.length_append, h.len]; rfl

theorem Reach.close {n : Nat} {s : St} (h : Reach n s) (env : Env) : Reach n (close env s).st := by
  obtain ⟨c, e, hl, hc⟩ := close_spec env s
  have hf := h.flush env
  have hi := inv_emit (tailBytes c.offs c.pos) (hc h.refs.sinv)
  rw [e]
  exact hf.behind (hf.refs.sinv.grow (hi.weaken fun _ => False.elim) hl) hl rfl (fun _ he => Or.inl he) rfl rfl

theorem Reach.newPage {n : Nat} {s : St} {p' : Page} (h : Reach n s) (hp : s.page = none)
    (hu : p'.uses = []) (hf : p'.fonts = []) (hx : p'.xobjs = []) : Reach (n + 1) { s with page := some p' } :=
  ⟨⟨h.refs.sinv, h.refs.pages, h.refs.images,
      fun _ e => Option.some.inj e ▸ ⟨hf ▸ fun _ h => (nomatch h), hx ▸ fun _ h => (nomatch h)⟩, h.refs.done⟩,
    fun _ e => Option.some.inj e ▸ (fun u hu' => (nomatch (hu ▸ hu'))), h.done, h.len,
    by rw [← h.count, pagesSoFar, pagesSoFar, hp]; rfl⟩

/-- An operation that does not panic keeps the invariant, and found and leaves the text state that
`textOK` prescribes. -/
theorem reach_step (env : Env) {n : Nat} {s s' : St} (op : Op) (h : Reach n s) (hs : step env s op = some s') :
    Reach (n + if isNewPage op then 1 else 0) s' ∧ ∀ r, textOK (inText s) (op :: r) = textOK (inText s') r := by
  have keep : ∀ {p p' : Page}, s.page = some p → p'.fonts = p.fonts → p'.xobjs = p.xobjs → PageOK p' →
      Reach n { s with page := some p' } :=
    fun hp e1 e2 ok => h.setPage hp ok ((h.refs.cur _ hp).of_eq e1 e2)
  cases op with
  | setCompress b | setMeta k rs =>
    cases hs
    exact ⟨h.behind h.refs.sinv (Nat.le_refl _) rfl (fun _ he => Or.inl he) rfl rfl, fun _ => rfl⟩
  | writeObj v =>
    cases hs
    exact ⟨h.behind (sinv_writeObject v h.refs.sinv) (writeObject_le _ v) rfl (fun _ he => Or.inl he) rfl rfl,
      fun _ => rfl⟩
  | getFont id vert => cases hs; exact ⟨(h.font id vert).1, fun _ => by simp only [textOK, inText, getFont_page]⟩
  | newPage w hh cm =>
    cases hs; exact ⟨(h.flush env).newPage (flushPage_pages env s).2 rfl rfl rfl, fun _ => rfl⟩
  | pageWrite bs =>
    obtain ⟨p, hp, rfl⟩ := Option.map_eq_some_iff.mp hs
    exact ⟨keep hp rfl rfl (ok_write bs (h.cur p hp)), fun _ => by simp only [textOK, inText, hp]; rfl⟩
  | setAlpha k pr =>
    obtain ⟨p, hp, rfl⟩ := Option.map_eq_some_iff.mp hs
    have a := paints_setAlpha p k pr
    exact ⟨keep hp a.fonts a.xobjs (a.ok (h.cur p hp)), fun _ => by simp only [textOK, inText, hp, a.inText]⟩
  | setGradient st k a1 =>
    obtain ⟨p, hp, rfl⟩ := Option.map_eq_some_iff.mp hs
    have a := paints_setGradient env p st k a1
    exact ⟨keep hp a.fonts a.xobjs (a.ok (h.cur p hp)), fun _ => by simp only [textOK, inText, hp, a.inText]⟩
  | addURI u a b c d =>
    obtain ⟨p, hp, rfl⟩ := Option.map_eq_some_iff.mp hs
    exact ⟨keep hp rfl rfl (ok_same (h.cur p hp) (.of_eq rfl rfl rfl rfl) rfl),
      fun _ => by simp only [textOK, inText, hp]⟩
  | startText | endText =>
    cases hp : s.page with
    | none => simp [step, hp] at hs
    | some p =>
      simp only [step, hp] at hs
      split at hs <;> cases hs
      -- `hin` is the branch of `step` that does not panic: `¬p.inText` for `startText`, `p.inText` for
      -- `endText`, each time the state that `textOK` asks for before it toggles
      next hin =>
      exact ⟨keep hp rfl rfl (ok_same (h.cur p hp) (.of_eq rfl rfl rfl rfl) rfl),
        fun _ => by simp [textOK, inText, hp, hin]⟩
  | setRenderMode m =>
    cases hp : s.page with
    | none => simp [step, hp] at hs
    | some p =>
      simp only [step, hp] at hs
      split at hs
      · cases hs
      · next hin =>
        have hin : p.inText = true := by simpa using hin
        split at hs <;> cases hs
        · exact ⟨h, fun _ => by simp [textOK, inText, hp, hin]⟩
        · exact ⟨keep hp rfl rfl (ok_same (h.cur p hp) (.of_eq rfl rfl rfl rfl) rfl),
            fun _ => by simp [textOK, inText, hp, hin, Page.write]⟩
  | setFont id k pr vert =>
    cases hp : s.page with
    | none => simp [step, hp] at hs
    | some p =>
      simp only [step, hp] at hs
      split at hs
      · cases hs
      · next hin =>
        have hin : p.inText = true := by simpa using hin
        split at hs <;> cases hs
        · exact ⟨h, fun _ => by simp [textOK, inText, hp, hin]⟩
        · refine ⟨?_, fun _ => by simp [textOK, inText, hp, hin, Page.write]⟩
          obtain ⟨hg, hp', hr⟩ := h.font id vert
          replace hp' := hp'.trans hp
          have hc := hg.refs.cur p hp'
          cases hf : p.fonts.find? (fun e => e.2 == (getFont s id vert).2) with
          | some e =>
            exact hg.setPage hp' (ok_write _ (ok_use (h.cur p hp) (.of_eq rfl rfl rfl rfl) 0 e.1 rfl
              (List.mem_map.mpr ⟨e, List.mem_of_find?_eq_some hf, rfl⟩))) hc
          | none =>
            exact hg.setPage hp' (ok_write _ (ok_use (h.cur p hp)
                ⟨mem_map_append, fun _ h => h, fun _ h => h, fun _ h => h⟩ 0 _ rfl
                mem_map_last))
              ⟨forall_mem_snoc hc.1 hr, hc.2⟩
  | drawImage id clip cm a1 =>
    cases hp : s.page with
    | none => simp [step, hp] at hs
    | some p =>
      simp only [step, hp] at hs
      cases hs
      obtain ⟨ht, hp', hr⟩ := h.image env id
      have a := paints_setAlpha p env.alpha1 a1
      have hc := (ht.refs.cur p (hp'.trans hp)).of_eq (p' := (p.setAlpha env.alpha1 a1).write clip) a.fonts a.xobjs
      exact ⟨ht.setPage (hp'.trans hp)
          (ok_write _ (ok_use (ok_write clip (a.ok (h.cur p hp))) ⟨fun _ h => h, fun _ h => h, mem_map_append, fun _ h => h⟩
            2 _ rfl mem_map_last))
          ⟨hc.1, forall_mem_snoc hc.2 hr⟩,
        fun _ => by simp only [textOK, inText, hp, drawImage, Page.write, a.inText]⟩

theorem reach_run (env : Env) : ∀ (ops : List Op) {n : Nat} {s s' : St}, Reach n s → run env s ops = some s' →
    Reach (n + ops.countP isNewPage) s' ∧ textOK (inText s) ops = true
  | [], _, _, _, h, hs => by cases hs; exact ⟨h, rfl⟩
  | op :: ops, n, _, _, h, hs => by
    obtain ⟨s1, h1, h2⟩ := run_cons hs
    obtain ⟨hr, ht⟩ := reach_step env op h h1
    have := reach_run env ops hr h2
    rwa [ht, List.countP_cons, Nat.add_comm (ops.countP isNewPage), ← Nat.add_assoc]

theorem reach_of_run {env : Env} {ops : List Op} {s : St} (h : run env {} ops = some s) :
    Reach (ops.countP isNewPage) s := by
  simpa using (reach_run env ops reach_init h).1

end C13L
