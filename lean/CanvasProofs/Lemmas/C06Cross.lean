import CanvasProofs.Lemmas.C06Path

/-! Crossings (13dd06a). The walk's state (overlapping section entered / left before being entered) and
the pending end hit carry weight that has not been turned into a count yet; with that potential
`2·count + potential ≡ Σ weights (mod 4)` holds after every segment of every chain off the query point.
Around a closed subpath the weights sum to twice the winding number, so the count has its parity. -/
namespace Canvas.C06
open Canvas.Wn

/-- `crossWalk` that also returns the pending end hit -/
def crossWalkP : Option Hit → List Hit → CSt → Int → Bool → Int × Bool × CSt × Option Hit
  | pe, [], st, n, b => (n, b, st, pe)
  | pe, z :: rest, st, n, b =>
    if z.t0zero then crossWalkP none rest st n true
    else if z.tb = .mid then crossWalkP none rest st (if z.same then n else n + 1) b
    else if z.tb = .one then crossWalkP (some z) rest st n b
    else match pe with
      | some e => let r := crossPair e z st n; crossWalkP none rest r.2 r.1 b
      | none => crossWalkP none rest st n b

theorem crossWalk_eq (l : List Hit) (pe : Option Hit) (st : CSt) (n : Int) (b : Bool) :
    crossWalk pe l st n b =
      ((crossWalkP pe l st n b).1, (crossWalkP pe l st n b).2.1, (crossWalkP pe l st n b).2.2.1) := by
  -- `zetaDelta` for the vertex step, where the induction hypothesis names `crossPair …` by a `let`
  fun_induction crossWalkP pe l st n b <;> simp +zetaDelta [crossWalk, *]

theorem crossWalkP_append (l1 l2 : List Hit) (pe : Option Hit) (st : CSt) (n : Int) (b : Bool) :
    crossWalkP pe (l1 ++ l2) st n b =
      crossWalkP (crossWalkP pe l1 st n b).2.2.2 l2 (crossWalkP pe l1 st n b).2.2.1
        (crossWalkP pe l1 st n b).1 (crossWalkP pe l1 st n b).2.1 := by
  fun_induction crossWalkP pe l1 st n b <;> simp +zetaDelta [crossWalkP, *]

theorem crossWalkP_pending {p a : IPt} {pe : Option Hit} (hp : PendOK p a pe) (pe0 : Option Hit)
    (st : CSt) (n : Int) (b : Bool) : crossWalkP pe0 pe.toList st n b = (n, b, st, pe.or pe0) := by
  by_cases h : fR p a = true
  · obtain ⟨e, rfl, h1, h2⟩ := hp.1 h
    simp [crossWalkP, h1, h2]
  · rw [hp.2 (by simpa using h)]; rfl

-- `dir` on the `into` flag alone
def dI (b : Bool) : Int := if b then -1 else 1

theorem dir_z (h : Hit) : dir h.z = dI h.into := rfl

/-- weight that the state still owes -/
def cphi (st : CSt) : Int :=
  (if st.entered then dI st.enteredInto else 0) + (if st.left then dI st.leftInto else 0)

def pw : Option Hit → Int
  | none => 0
  | some e => if e.same then 0 else dI e.into

-- the state says `entered` only while an overlapping end hit is pending; with such a hit pending and
-- nothing entered, nothing has been left either
def CInv (st : CSt) (pe : Option Hit) : Prop :=
  (st.entered = true → ∃ e, pe = some e ∧ e.same = true) ∧
  (∀ e, pe = some e → e.same = true → st.entered = false → st.left = false)

theorem dI_cases (b : Bool) : dI b = 1 ∨ dI b = -1 := by cases b <;> simp [dI]

theorem dI_add_mod4 (a b : Bool) : (dI a + dI b - 2 * (if a == b then 1 else 0)) % 4 = 0 := by
  cases a <;> cases b <;> decide

theorem entered_false_of_CInv {st : CSt} {pe : Option Hit} (hi : CInv st pe)
    (h : ∀ e, pe = some e → e.same = false) : st.entered = false := by
  cases hen : st.entered
  · rfl
  · obtain ⟨e, he, hs⟩ := hi.1 hen
    rw [h e he] at hs; exact absurd hs (by simp)

/-- A vertex on the ray (pending end hit `e`, start hit `z` of the next segment): the weights of the
two hits go into the count or into the state, modulo 4. -/
theorem crossPair_step (e z : Hit) (st : CSt) (n : Int) (hi : CInv st (some e)) :
    (2 * (crossPair e z st n).1 + cphi (crossPair e z st n).2 -
        (2 * n + cphi st + pw (some e) + (if z.same then 0 else dI z.into))) % 4 = 0 ∧
    (z.same = false → (crossPair e z st n).2.entered = false) ∧
    (z.same = true → (crossPair e z st n).2.entered = false → (crossPair e z st n).2.left = false) := by
  have h2 := hi.2 e rfl
  cases hes : e.same <;> cases hzs : z.same <;>
    simp only [crossPair, pw, hes, hzs, Bool.not_true, Bool.not_false, Bool.true_and, Bool.false_and,
      Bool.and_true, Bool.and_false, Bool.false_eq_true, if_false, if_true]
  case false.false =>
    -- an ordinary vertex
    have hen := entered_false_of_CInv hi (fun e' he' => by cases he'; exact hes)
    have := dI_add_mod4 e.into z.into
    refine ⟨?_, fun _ => ?_, fun h => absurd h (by simp)⟩
    · rcases Bool.eq_false_or_eq_true (e.into == z.into) with hq | hq <;>
        simp only [hq, if_true, if_false, Bool.false_eq_true] at this ⊢ <;> omega
    · split <;> exact hen
  case false.true =>
    -- `z` opens an overlapping section
    have hen := entered_false_of_CInv hi (fun e' he' => by cases he'; exact hes)
    refine ⟨?_, fun h => absurd h (by simp), fun _ h => absurd h (by simp)⟩
    simp only [cphi, hen, Bool.false_eq_true, if_false, if_true]
    omega
  case true.false =>
    -- `e` ends one
    refine ⟨?_, fun _ => ?_, fun h => absurd h (by simp)⟩
    · cases hen : st.entered
      · have hl := h2 hes hen
        simp only [Bool.not_false, if_true, cphi, hen, hl, Bool.false_eq_true, if_false]
        omega
      · have := dI_add_mod4 z.into st.enteredInto
        simp only [Bool.not_true, Bool.false_eq_true, if_false, cphi, hen, if_true]
        rcases Bool.eq_false_or_eq_true (z.into == st.enteredInto) with hq | hq <;>
          simp only [hq, if_true, if_false, Bool.false_eq_true] at this ⊢ <;> omega
    · split <;> rfl
  case true.true =>
    -- inside a section: nothing happens
    exact ⟨by omega, fun h => absurd h (by simp), fun _ => h2 hes⟩

theorem cinv_none {st : CSt} (h : st.entered = false) : CInv st none :=
  ⟨fun hh => absurd (h.symm.trans hh) Bool.false_ne_true, fun _ he => nomatch he⟩

theorem edge_cross (p a c : IPt) (pe : Option Hit) (st : CSt) (n : Int) (b : Bool)
    (hoff : ¬ onSeg p a c) (hp : PendOK p a pe) (hi : CInv st pe) :
    ∃ n1 st1 pe1, crossWalkP pe (edgeHits p a c) st n b = (n1, b, st1, pe1) ∧
      PendOK p c pe1 ∧ CInv st1 pe1 ∧
      (2 * n1 + cphi st1 + pw pe1 -
        (2 * n + cphi st + pw pe + W ((edgeHits p a c).map Hit.z))) % 4 = 0 := by
  by_cases hac : a = c
  · subst hac
    rw [edgeHits_self]
    exact ⟨n, st, pe, rfl, hp, hi, by simp [W]⟩
  cases edge_cases p a c hac hoff with
  | none h fa fb w =>
    obtain rfl : pe = none := hp.2 fa
    rw [h]
    exact ⟨n, st, none, rfl, pendOK_none fb, hi, by simp [W]⟩
  | mid g h tb t0 sm fa fb w =>
    -- one crossing, weight ±2
    obtain rfl : pe = none := hp.2 fa
    refine ⟨n + 1, st, none, by simp [h, crossWalkP, t0, tb, sm], pendOK_none fb, hi, ?_⟩
    have := dI_cases g.into
    simp only [h, List.map_cons, List.map_nil, W, weight_hit, dir_z, sm, tb, pw]
    simp; omega
  | start s h tb x t0 sm fa fb w =>
    -- the start hit forms a vertex with the pending end hit
    obtain ⟨e, rfl, etb, et0⟩ := hp.1 fa
    obtain ⟨hmod, hent, -⟩ := crossPair_step e s st n hi
    refine ⟨(crossPair e s st n).1, (crossPair e s st n).2, none, by simp [h, crossWalkP, t0, tb],
      pendOK_none fb, cinv_none (hent sm), ?_⟩
    simp only [h, List.map_cons, List.map_nil, W, weight_hit, dir_z, sm, tb, pw] at hmod ⊢
    simp at hmod ⊢; omega
  | fin e' h tb x t0 sm fa fb w =>
    -- the end hit becomes pending
    obtain rfl : pe = none := hp.2 fa
    have hent := entered_false_of_CInv hi (fun _ he => nomatch he)
    refine ⟨n, st, some e', by simp [h, crossWalkP, t0, tb], pendOK_some fb tb t0,
      ⟨fun hen => absurd (hent.symm.trans hen) Bool.false_ne_true,
        fun e2 he2 hs2 => ?_⟩, ?_⟩
    · cases he2; rw [sm] at hs2; exact absurd hs2 Bool.false_ne_true
    · simp only [h, List.map_cons, List.map_nil, W, weight_hit, dir_z, sm, tb, pw]
      simp
  | horiz s e' h tbs tbe xs xe t0s t0e sms sme fa fb w =>
    -- its start hit meets the pending one, its end hit is pending
    obtain ⟨e, rfl, etb, et0⟩ := hp.1 fa
    obtain ⟨hmod, -, hleft⟩ := crossPair_step e s st n hi
    refine ⟨(crossPair e s st n).1, (crossPair e s st n).2, some e',
      by simp [h, crossWalkP, t0s, tbs, t0e, tbe], pendOK_some fb tbe t0e,
      ⟨fun _ => ⟨e', rfl, sme⟩, fun e2 he2 _ => hleft sms⟩, ?_⟩
    simp only [h, List.map_cons, List.map_nil, W, weight_hit, sms, sme, pw] at hmod ⊢
    simp at hmod ⊢; omega

theorem chain_cross (p : IPt) (rest : List IPt) : ∀ a pe st n b, offChain p (a :: rest) →
    PendOK p a pe → CInv st pe →
    ∃ n' st' pe', crossWalkP pe (chainHits p (a :: rest)) st n b = (n', b, st', pe') ∧
      PendOK p ((a :: rest).getLast (by simp)) pe' ∧ CInv st' pe' ∧
      (2 * n' + cphi st' + pw pe' -
        (2 * n + cphi st + pw pe + W ((chainHits p (a :: rest)).map Hit.z))) % 4 = 0 := by
  induction rest with
  | nil =>
    intro a pe st n b _ hp hi
    exact ⟨n, st, pe, rfl, hp, hi, by simp [chainHits, W]⟩
  | cons c rest ih =>
    intro a pe st n b hoff hp hi
    obtain ⟨n1, st1, pe1, hk, hp1, hi1, he1⟩ := edge_cross p a c pe st n b hoff.1 hp hi
    obtain ⟨n', st', pe', h1, h2, h3, h4⟩ := ih c pe1 st1 n1 b hoff.2 hp1 hi1
    rw [List.getLast_cons (by simp), chainHits_cons, crossWalkP_append, List.map_append, W_append, hk]
    exact ⟨n', st', pe', h1, h2, h3, by omega⟩

theorem crossRot_id {l : List Hit} (h : ∀ h0 t, l = h0 :: t → h0.tb ≠ .zero) : crossRot l = l := by
  unfold crossRot
  split
  · rename_i h0 h1 tl
    split
    · have := h h0 (h1 :: tl) rfl
      simp [this]
    · rfl
  · rfl

/-- the final state owes ±2 exactly when a section was left at the beginning and entered at the end
in the same direction, and 0 or ±1 otherwise -/
theorem cphi_cases : ∀ en ei lf li : Bool,
    ((en && lf && ei == li) = true ∧ (cphi ⟨en, ei, lf, li⟩ = 2 ∨ cphi ⟨en, ei, lf, li⟩ = -2)) ∨
    ((en && lf && ei == li) = false ∧
      (cphi ⟨en, ei, lf, li⟩ = 0 ∨ cphi ⟨en, ei, lf, li⟩ = 1 ∨ cphi ⟨en, ei, lf, li⟩ = -1)) := by
  decide

theorem cross_finish {n wnv : Int} {st : CSt} (h : (2 * n + cphi st - 2 * wnv) % 4 = 0) :
    ((if st.entered && st.left && st.enteredInto == st.leftInto then n + 1 else n) - wnv) % 2 = 0 := by
  obtain ⟨en, ei, lf, li⟩ := st
  dsimp only
  rcases cphi_cases en ei lf li with ⟨hc, hv⟩ | ⟨hc, hv⟩ <;> rw [hc]
  · rw [if_pos rfl]; omega
  · rw [if_neg Bool.false_ne_true]; omega

theorem pw_weight (e : Hit) (h : e.tb = .one) : pw (some e) = weight e.z := by
  simp [pw, weight_hit, dir_z, h]

theorem crossingsSub_parity (p a : IPt) (r : List IPt) (b : Bool)
    (hoff : offChain p (subpathVerts true (a :: r))) :
    (crossingsSub true p (a :: r) b).2 = b ∧
    ((crossingsSub true p (a :: r) b).1 - wn1 p (a :: r)) % 2 = 0 := by
  rw [subpathVerts_closed] at hoff
  obtain ⟨hB, pe, hp, hconj⟩ := closed_conj p a r hoff
  -- the walk over the whole chain, begun with `pe` pending, finds `pe` pending again; read from the
  -- other side of `hconj` it is the walk of `Crossings`
  obtain ⟨n1, st1, pe1, hk, hp1, -, heq1⟩ := chain_cross p (r ++ [a]) a pe {} 0 b hoff hp
    ⟨fun hh => absurd hh Bool.false_ne_true, fun _ _ _ _ => rfl⟩
  rw [getLast_append_self] at hp1
  have hX := congrArg (fun l => crossWalkP none l {} 0 b) hconj
  simp only [crossWalkP_append, crossWalkP_pending hp, Option.or_none, hk, Prod.mk.injEq] at hX
  obtain ⟨h1, h2, h3, h4⟩ := hX
  have hpw : pw pe1 = pw pe := by
    by_cases h : fR p a = true
    · obtain ⟨e, rfl, -⟩ := hp.1 h
      rw [h4]; rfl
    · rw [hp.2 (by simpa using h), hp1.2 (by simpa using h)]
  rw [crossingsSub, crossRot_id hB.head_ne_zero]
  simp only [crossWalk_eq, ← h1, ← h2, ← h3]
  refine ⟨trivial, cross_finish ?_⟩
  have hc0 : cphi {} = 0 := rfl
  rw [W_closed p a r hoff, hpw, hc0] at heq1
  omega

theorem crossingsPathGo_parity (p : IPt) (subs : List Sub) (h : ∀ s ∈ subs, GoodSub p s) (n : Int)
    (b : Bool) :
    (crossingsPathGo p subs n b).2 = b ∧
    ((crossingsPathGo p subs n b).1 - (n + wn p (subs.map (·.2)))) % 2 = 0 := by
  induction subs generalizing n b with
  | nil => simp [crossingsPathGo, wn]
  | cons s rest ih =>
    obtain ⟨hc, a, r, hs, hoff⟩ := h s (by simp)
    have hpar := crossingsSub_parity p a r b hoff
    simp only [crossingsPathGo, List.map_cons, wn_cons]
    rw [hc, hs, hpar.1]
    obtain ⟨i1, i2⟩ := ih (fun s hs => h s (by simp [hs])) (n + (crossingsSub true p (a :: r) b).1) b
    have h1 := hpar.2
    exact ⟨i1, by omega⟩

end Canvas.C06
