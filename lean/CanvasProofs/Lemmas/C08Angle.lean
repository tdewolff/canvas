import CanvasProofs.Lemmas.C08

/-! # C08 — the angle-range membership logic of `angleNorm` / `angleBetween` (model = generic
definitions in CanvasModel/C08.lean, bit-exact against the library on `AN`/`AB` lines)

`math.Mod` is a parameter; all that is assumed of it is `FmodSpec`: `|x mod y| < y` and
`x − (x mod y)` is an integer multiple of `y`. -/
set_option linter.unusedSectionVars false
namespace C08
open Canvas Canvas.C08 GenK
variable {K : Type} [Field K] [LinearOrder K] [IsStrictOrderedRing K] [Env K] [ArcFns K]

def FmodSpec (K : Type) [Field K] [LinearOrder K] [IsStrictOrderedRing K] [ArcFns K] : Prop :=
  ∀ x y : K, 0 < y → |ArcFns.fmod x y| < y ∧ ∃ k : ℤ, x = ArcFns.fmod x y + k * y

@[simp] theorem ops_fmod (a b : K) : Ops.fmod a b = ArcFns.fmod a b := rfl
@[simp] theorem ops_pi : (Ops.pi : K) = Env.pi := rfl
@[simp] theorem ops_eps : (Ops.eps : K) = Env.epsilon := rfl
@[simp] theorem ops_le (a b : K) : Ops.le a b = decide (a ≤ b) := rfl

theorem rep_unique {T x n : K} (k : ℤ) (hT : 0 < T) (hx : x = n + k * T) (hn0 : 0 ≤ n) (hn1 : n < T)
    (hx0 : 0 ≤ x) (hx1 : x < T) : n = x := by
  rcases lt_trichotomy k 0 with h | h | h
  · -- k ≤ −1: x ≤ n − T < 0
    have h1 := mul_le_mul_of_nonneg_right (Int.cast_le_neg_one_of_neg (R := K) h) hT.le
    have : x < 0 := hx ▸ lt_of_le_of_lt (add_le_add_right h1 n) (by rw [neg_one_mul, ← sub_eq_add_neg, sub_neg]; exact hn1)
    exact absurd hx0 (not_le.2 this)
  · rw [h, Int.cast_zero, zero_mul, add_zero] at hx; exact hx.symm
  · -- 1 ≤ k: x ≥ n + T ≥ T
    have h1 := mul_le_mul_of_nonneg_right (Int.cast_one_le_of_pos (R := K) h) hT.le
    have : T ≤ x := hx ▸ le_trans (by rw [one_mul]; exact le_add_of_nonneg_left hn0) (add_le_add_right h1 n)
    exact absurd hx1 (not_lt.2 this)

theorem angleNorm_spec (hf : FmodSpec K) (hpi : 0 < (Env.pi : K)) (θ : K) :
    0 ≤ angleNorm θ ∧ angleNorm θ < 2 * Env.pi ∧ ∃ k : ℤ, θ = angleNorm θ + k * (2 * Env.pi) := by
  have hT : 0 < 2 * (Env.pi : K) := by linarith
  obtain ⟨hab, k, hk⟩ := hf θ (2 * Env.pi) hT
  rw [abs_lt] at hab
  simp only [angleNorm, ops_fmod, ops_pi]
  split
  · rename_i hneg
    refine ⟨by linarith, by linarith, k - 1, ?_⟩
    push_cast; linear_combination hk
  · rename_i hneg
    exact ⟨not_lt.1 hneg, hab.2, k, hk⟩

theorem angleNorm_of_rep (hf : FmodSpec K) (hpi : 0 < (Env.pi : K)) {θ n : K} (k : ℤ)
    (h : θ = n + k * (2 * Env.pi)) (hn0 : 0 ≤ n) (hn1 : n < 2 * Env.pi) : angleNorm θ = n := by
  obtain ⟨a0, a1, k', hk'⟩ := angleNorm_spec hf hpi θ
  have hT : 0 < 2 * (Env.pi : K) := by linarith
  refine rep_unique (k' - k) hT ?_ a0 a1 hn0 hn1
  push_cast; linear_combination hk' - h

theorem angleBetween_iff_le (hf : FmodSpec K) (hpi : 0 < (Env.pi : K)) (θ a b : K) (hab : a ≤ b)
    (hε : 0 ≤ (Env.epsilon : K)) (hw : b - a + 2 * Env.epsilon < 2 * Env.pi) :
    angleBetween θ a b = true ↔ ∃ k : ℤ, a - Env.epsilon ≤ θ + k * (2 * Env.pi) ∧ θ + k * (2 * Env.pi) ≤ b + Env.epsilon := by
  have up : angleNorm (b - a + 2 * Env.epsilon) = b - a + 2 * Env.epsilon :=
    angleNorm_of_rep hf hpi 0 (by simp) (by linarith) hw
  obtain ⟨n0, n1, k1, hk1⟩ := angleNorm_spec hf hpi (θ - a + Env.epsilon)
  simp only [angleBetween, ops_eps, ops_le, if_neg (not_lt.2 hab), decide_eq_true_eq, up]
  constructor
  · intro h
    refine ⟨-k1, ?_, ?_⟩ <;> push_cast <;> linarith
  · rintro ⟨k, h1, h2⟩
    have : angleNorm (θ - a + Env.epsilon) = θ + k * (2 * Env.pi) - a + Env.epsilon :=
      angleNorm_of_rep hf hpi (-k) (by push_cast; ring) (by linarith) (by linarith)
    rw [this]; linarith

theorem angleBetween_symm (θ a b : K) : angleBetween θ a b = angleBetween θ b a := by
  rcases lt_trichotomy a b with h | h | h
  · simp only [angleBetween, if_neg (not_lt.2 h.le), if_pos h]
  · subst h; rfl
  · simp only [angleBetween, if_pos h, if_neg (not_lt.2 h.le)]

end C08
