import CanvasModel.C09.Polish
import Mathlib.Tactic.Linarith.Frontend
/-!
C09 helper lemmas about the polish loop of `invSpeedApprox` over an ordered field with exact
operations: on exit either the residual is within the tolerance or all iterations were spent; `t` stays
between `lo` and `hi`, which stay between `tmin` and `tmax` (bracket invariant, by induction) - for any
`fLength`, any speed `fp`, any estimate inside the bracket, increasing or decreasing parameter.
-/
set_option linter.unusedSectionVars false
namespace C09L
open Canvas.C09
variable {K : Type} [Field K] [LinearOrder K] [IsStrictOrderedRing K]

/-- the operations of `P` are the exact field operations and order; `div` and `copysign`, which enter only
the Newton step, are not constrained -/
structure ExactPolish (P : PolishOps K) : Prop where
  zero : P.zero = 0
  add : ∀ a b, P.add a b = a + b
  sub : ∀ a b, P.sub a b = a - b
  mul : ∀ a b, P.mul a b = a * b
  abs : ∀ a, P.abs a = |a|
  le : ∀ a b, P.le a b = decide (a ≤ b)
  lt : ∀ a b, P.lt a b = decide (a < b)
  half : ∀ a, P.half a = a / 2

def Between (a b x : K) : Prop := min a b ≤ x ∧ x ≤ max a b

theorem between_of_mul_neg {a b x : K} (h : (x - a) * (x - b) < 0) : Between a b x := by
  rcases mul_neg_iff.mp h with ⟨h1, h2⟩ | ⟨h1, h2⟩
  · exact ⟨(min_le_left _ _).trans (sub_pos.mp h1).le, (sub_neg.mp h2).le.trans (le_max_right _ _)⟩
  · exact ⟨(min_le_right _ _).trans (sub_pos.mp h2).le, (sub_neg.mp h1).le.trans (le_max_left _ _)⟩

theorem between_mid (a b : K) : Between a b ((a + b) / 2) :=
  ⟨by linarith [min_le_left a b, min_le_right a b], by linarith [le_max_left a b, le_max_right a b]⟩

theorem between_left (a b : K) : Between a b a := ⟨min_le_left _ _, le_max_left _ _⟩
theorem between_right (a b : K) : Between a b b := ⟨min_le_right _ _, le_max_right _ _⟩

theorem between_trans {m M a b x : K} (ha : Between m M a) (hb : Between m M b) (hx : Between a b x) :
    Between m M x :=
  ⟨le_trans (le_min ha.1 hb.1) hx.1, le_trans hx.2 (max_le ha.2 hb.2)⟩

structure Bracket (tmin tmax : K) (s : PState K) : Prop where
  t : Between s.lo s.hi s.t
  lo : Between tmin tmax s.lo
  hi : Between tmin tmax s.hi

variable {P : PolishOps K} (hP : ExactPolish P) (fL fp : K → K) (h L tol : K)

include hP in
theorem polishStep_none (s : PState K) (hs : polishStep P fL fp h L tol s = none) : |fL s.t - L| ≤ tol := by
  unfold polishStep at hs
  simp only [hP.sub, hP.abs, hP.le] at hs
  by_cases hc : |fL s.t - L| ≤ tol
  · exact hc
  · simp [hc] at hs

include hP in
theorem polishStep_bracket (tmin tmax : K) (s s' : PState K) (hb : Bracket tmin tmax s)
    (hs : polishStep P fL fp h L tol s = some s') : Bracket tmin tmax s' := by
  unfold polishStep at hs
  dsimp only at hs
  split at hs
  · cases hs
  · cases hs
    have htin : Between tmin tmax s.t := between_trans hb.lo hb.hi hb.t
    -- the new `t`: the Newton step if it falls strictly between the new `lo`, `hi`, else their midpoint
    have key : ∀ lo hi t' : K, Between lo hi
        (if P.lt (P.mul (P.sub t' lo) (P.sub t' hi)) P.zero = true then t' else P.half (P.add lo hi)) := by
      intro lo hi t'
      rw [hP.lt, hP.mul, hP.sub, hP.sub, hP.zero, hP.half, hP.add]
      split
      · next hm => exact between_of_mul_neg (of_decide_eq_true hm)
      · exact between_mid _ _
    -- the new `lo`, `hi`: `t` replaces the one on its side of the root
    by_cases hd : P.lt (P.sub (fL s.t) L) P.zero = true
    · simp only [hd, if_true]; exact ⟨key _ _ _, htin, hb.hi⟩
    · simp only [hd]; exact ⟨key _ _ _, hb.lo, htin⟩

include hP in
theorem polishLoop_spec (tmin tmax : K) (n : Nat) : ∀ (s : PState K), Bracket tmin tmax s →
    let r := polishLoop P fL fp h L tol n s
    Bracket tmin tmax r.st ∧ (r.converged = true → |fL r.st.t - L| ≤ tol) ∧
      (r.converged = false → r.iters = n) ∧ r.iters ≤ n := by
  induction n with
  | zero => intro s hb; exact ⟨hb, by simp [polishLoop], by simp [polishLoop], by simp [polishLoop]⟩
  | succ n ih =>
    intro s hb
    simp only [polishLoop]
    cases hs : polishStep P fL fp h L tol s with
    | none =>
      exact ⟨hb, fun _ => polishStep_none hP fL fp h L tol s hs, by simp, by simp⟩
    | some s' =>
      obtain ⟨h1, h2, h3, h4⟩ := ih s' (polishStep_bracket hP fL fp h L tol tmin tmax s s' hb hs)
      exact ⟨h1, h2, fun hc => by simp [h3 hc], by simp; omega⟩

end C09L
