import CanvasModel.C10.Heap
namespace Canvas.Heap
variable {α : Type}

theorem store_outside {cells : Nat → α} {a : Nat} {vs : List α} {x : Nat} (h : x < a ∨ a + vs.length ≤ x) :
    store cells a vs x = cells x := by
  unfold store
  split
  · rename_i hh; omega
  · rfl

theorem store_inside (cells : Nat → α) (a : Nat) (vs : List α) (i : Nat) (h : i < vs.length) :
    store cells a vs (a + i) = vs[i] := by
  unfold store
  have : a ≤ a + i ∧ a + i < a + vs.length := by omega
  rw [dif_pos this]
  congr 1; omega

theorem read_congr {h h' : Heap α} {b n c : Nat}
    (hc : ∀ i, i < n → h'.cells (b + i) = h.cells (b + i)) : read h' ⟨b, n, c⟩ = read h ⟨b, n, c⟩ :=
  List.map_congr_left fun i hi => hc i (List.mem_range.1 hi)

theorem read_add {h : Heap α} {b m n c : Nat} : read h ⟨b, m + n, c⟩ = read h ⟨b, m, c⟩ ++ read h ⟨b + m, n, c⟩ := by
  simp [read, List.range_add, Nat.add_assoc]

theorem read_eq_of_below {h h' : Heap α} (hc : ∀ x, x < h.next → h'.cells x = h.cells x) {s : Slice}
    (hs : s.Allocated h) : read h' s = read h s :=
  read_congr fun i hi => hc _ (by obtain ⟨h1, h2⟩ := hs; omega)

theorem read_length (h : Heap α) (s : Slice) : (read h s).length = s.len := by simp [read]

theorem read_getElem (h : Heap α) (s : Slice) (i : Nat) (hi : i < (read h s).length) :
    (read h s)[i] = h.cells (s.base + i) := by
  simp [read]

theorem read_store {cells : Nat → α} {next a cap : Nat} {vs : List α} {n : Nat} (hn : vs.length = n) :
    read ⟨store cells a vs, next⟩ ⟨a, n, cap⟩ = vs := by
  subst hn
  apply List.ext_getElem
  · simp [read]
  · intro i h1 h2
    rw [read_getElem]
    exact store_inside cells a vs i h2

theorem append_realloc_cells (h : Heap α) (s : Slice) (vs : List α) (hfull : ¬ s.len + vs.length ≤ s.cap)
    (x : Nat) (hx : x < h.next) : (appendGo h s vs).1.cells x = h.cells x := by
  unfold appendGo
  rw [if_neg hfull]
  simp only
  rw [store_outside (Or.inl (by omega)), store_outside (Or.inl hx)]

theorem append_realloc_base (h : Heap α) (s : Slice) (vs : List α) (hfull : ¬ s.len + vs.length ≤ s.cap) :
    (appendGo h s vs).2.base = h.next := by
  unfold appendGo; rw [if_neg hfull]

/-- The result splits at `s.len`: above it `vs` as stored; below it cells that the store of `vs` does not reach, the
old ones in place, their copy after reallocation. -/
theorem append_read (h : Heap α) (s : Slice) (vs : List α) :
    read (appendGo h s vs).1 (appendGo h s vs).2 = read h s ++ vs := by
  unfold appendGo
  split
  · show read ⟨store h.cells (s.base + s.len) vs, h.next⟩ ⟨s.base, s.len + vs.length, s.cap⟩ = _
    rw [read_add, read_store rfl]
    exact congrArg (· ++ vs) (read_congr fun i hi => store_outside (Or.inl (by omega)))
  · show read ⟨store (store h.cells h.next (read h s)) (h.next + s.len) vs, _⟩ ⟨h.next, s.len + vs.length, _⟩ = _
    rw [read_add, read_store rfl]
    exact congrArg (· ++ vs) ((read_congr fun i hi => store_outside (Or.inl (by omega))).trans
      (read_store (next := 0) (read_length h s)))

theorem append_inplace_writes (h : Heap α) (s : Slice) (v : α) (vs : List α) (hfit : s.len + (v :: vs).length ≤ s.cap) :
    (appendGo h s (v :: vs)).1.cells (s.base + s.len) = v := by
  unfold appendGo
  rw [if_pos hfit]
  simp only
  have := store_inside h.cells (s.base + s.len) (v :: vs) 0 (by simp)
  simpa using this

theorem copy_cells (h : Heap α) (s : Slice) (x : Nat) (hx : x < h.next) : (copyGo h s).1.cells x = h.cells x := by
  unfold copyGo
  exact store_outside (Or.inl hx)

theorem copy_read (h : Heap α) (s : Slice) : read (copyGo h s).1 (copyGo h s).2 = read h s := by
  unfold copyGo
  exact read_store (read_length h s)

end Canvas.Heap
