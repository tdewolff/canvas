import CanvasModel.C18
namespace C18L
open Canvas.C18

theorem readLit_escByte (b : Nat) (acc tail : List Nat) :
    readLit ⟨.normal, 0, acc⟩ (escByte b ++ tail) = readLit ⟨.normal, 0, acc ++ [b]⟩ tail := by
  by_cases h : b = 10 ∨ b = 13 ∨ b = 9 ∨ b = 8 ∨ b = 12 ∨ b = 92 ∨ b = 40 ∨ b = 41
  · rcases h with rfl | rfl | rfl | rfl | rfl | rfl | rfl | rfl <;> rfl
  · simp only [not_or] at h
    simp [escByte, h, readLit, litStep, litNormal]

theorem readLit_escCodes (cs : List Nat) (acc tail : List Nat) :
    readLit ⟨.normal, 0, acc⟩ (escCodes cs ++ tail) = readLit ⟨.normal, 0, acc ++ allCodeBytes cs⟩ tail := by
  induction cs generalizing acc with
  | nil => simp [escCodes, allCodeBytes]
  | cons c cs ih =>
    simp only [escCodes, allCodeBytes, codeBytes, List.append_assoc]
    rw [readLit_escByte, readLit_escByte, ih]
    simp

theorem encodeCidMap_length (ids : List Nat) : (encodeCidMap ids).length = 2 * ids.length := by
  induction ids with
  | nil => simp [encodeCidMap]
  | cons g gs ih => simp [encodeCidMap, ih]; omega

end C18L
