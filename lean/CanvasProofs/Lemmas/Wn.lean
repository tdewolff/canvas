import CanvasModel.Wn
import Mathlib.Tactic.Ring
import Mathlib.Tactic.Positivity.Basic

/-! Laws of the exact winding-number specification `Canvas.Wn` (so that the oracle cannot be wrong
in the way the code is wrong): reversal negates, start vertex irrelevant, additivity over contours,
translation invariance, invariance under the positive dyadic rescaling used when decoding floats;
the distance tests are monotone in the tolerance. -/
namespace Canvas.Wn

theorem isLeft_swap (a b p : IPt) : isLeft b a p = - isLeft a b p := by
  simp only [isLeft]; ring

theorem edgeW_swap (p a b : IPt) : edgeW p b a = - edgeW p a b := by
  simp only [edgeW, isLeft_swap a b p]
  -- the two height windows exclude each other; inside one, the side test mirrors
  by_cases h1 : a.y ≤ p.y ∧ p.y < b.y
  · rw [if_neg (by omega), if_pos h1, if_pos h1]; split_ifs <;> omega
  · rw [if_neg h1]; split_ifs <;> omega

theorem edgeW_of_not_level (p a b : IPt) (h1 : ¬ (a.y ≤ p.y ∧ p.y < b.y))
    (h2 : ¬ (b.y ≤ p.y ∧ p.y < a.y)) : edgeW p a b = 0 := by
  rw [edgeW, if_neg h1, if_neg h2]

theorem edgeW_self (p a : IPt) : edgeW p a a = 0 :=
  edgeW_of_not_level p a a (by omega) (by omega)

/-- An edge does not wind around a point above, below or to the right of its bounding box. Only "to the
right" needs an argument: `isLeft a b p` is the cross product of `a − p` and `b − p`, and with both end
points to the left of `p` its sign is the edge's vertical direction. -/
theorem edgeW_of_outside {p a b : IPt}
    (h : p.y < a.y ∧ p.y < b.y ∨ a.y < p.y ∧ b.y < p.y ∨ a.x < p.x ∧ b.x < p.x) : edgeW p a b = 0 := by
  have e : isLeft a b p = (b.x - p.x) * (p.y - a.y) - (a.x - p.x) * (p.y - b.y) := by
    unfold isLeft; ring
  unfold edgeW
  split_ifs with h1 h2 h3 h4
  · have := Int.mul_nonpos_of_nonpos_of_nonneg (a := b.x - p.x) (b := p.y - a.y) (by omega) (by omega)
    have := Int.mul_pos_of_neg_of_neg (a := a.x - p.x) (b := p.y - b.y) (by omega) (by omega)
    omega
  · rfl
  · have := Int.mul_pos_of_neg_of_neg (a := b.x - p.x) (b := p.y - a.y) (by omega) (by omega)
    have := Int.mul_nonpos_of_nonpos_of_nonneg (a := a.x - p.x) (b := p.y - b.y) (by omega) (by omega)
    omega
  · rfl
  · rfl

theorem chainW_append_single (p : IPt) (l : List IPt) (a b : IPt) :
    chainW p (l ++ [a, b]) = chainW p (l ++ [a]) + edgeW p a b := by
  induction l with
  | nil => simp [chainW]
  | cons x xs ih =>
    cases xs with
    | nil => simp [chainW]
    | cons y ys =>
      simp only [List.cons_append, chainW] at ih ⊢
      omega

/-- traversing an open chain backwards negates its crossing sum -/
theorem chainW_reverse (p : IPt) (l : List IPt) : chainW p l.reverse = - chainW p l := by
  induction l with
  | nil => simp [chainW]
  | cons a t ih =>
    cases t with
    | nil => simp [chainW]
    | cons b t' =>
      rw [List.reverse_cons, List.reverse_cons, List.append_assoc, List.singleton_append,
        chainW_append_single, ← List.reverse_cons, ih, edgeW_swap]
      simp only [chainW]; omega

/-- Start vertex irrelevant: rotating the vertex list keeps the winding number. -/
theorem wn1_rotate (p : IPt) (a : IPt) (l : List IPt) : wn1 p (l ++ [a]) = wn1 p (a :: l) := by
  cases l with
  | nil => simp [wn1]
  | cons b t =>
    have h := chainW_append_single p (b :: t) a b
    simp only [wn1, List.cons_append, List.append_assoc, List.cons_append, List.nil_append, chainW] at h ⊢
    omega

/-- Reversing a contour negates its winding number around every point. -/
theorem wn1_reverse (p : IPt) (poly : List IPt) : wn1 p poly.reverse = - wn1 p poly := by
  cases poly with
  | nil => simp [wn1]
  | cons a t =>
    rw [List.reverse_cons, wn1_rotate]
    simp only [wn1]
    have : a :: t.reverse ++ [a] = (a :: t ++ [a]).reverse := by simp
    rw [this, chainW_reverse]

theorem foldl_add_acc (l : List Int) (acc : Int) : l.foldl (· + ·) acc = acc + l.foldl (· + ·) 0 := by
  induction l generalizing acc with
  | nil => simp
  | cons x xs ih => simp only [List.foldl_cons]; rw [ih, ih (0 + x)]; omega

/-- Winding numbers add over contours (so subpaths can be treated independently). -/
theorem wn_append (p : IPt) (a b : List (List IPt)) : wn p (a ++ b) = wn p a + wn p b := by
  simp only [wn, List.map_append, List.foldl_append]
  rw [foldl_add_acc]

theorem wn_cons (p : IPt) (c : List IPt) (cs : List (List IPt)) : wn p (c :: cs) = wn1 p c + wn p cs := by
  rw [← List.singleton_append, wn_append]; simp [wn]

/-- Reversing every contour negates the winding number of a multi-contour polygon. -/
theorem wn_reverse (p : IPt) (polys : List (List IPt)) :
    wn p (polys.map List.reverse) = - wn p polys := by
  induction polys with
  | nil => rfl
  | cons c cs ih =>
    have h := wn_append p [c.reverse] (cs.map List.reverse)
    have h' := wn_append p [c] cs
    simp only [List.singleton_append] at h h'
    rw [List.map_cons, h, h', ih]
    simp only [wn, List.map_cons, List.map_nil, List.foldl_cons, List.foldl_nil, wn1_reverse]
    omega

theorem fills_neg (w : Int) :
    Rule.nonZero.fills (-w) = Rule.nonZero.fills w ∧ Rule.evenOdd.fills (-w) = Rule.evenOdd.fills w ∧
      Rule.positive.fills (-w) = Rule.negative.fills w := by
  simp only [Rule.fills, Int.neg_ne_zero, Int.neg_emod_two, Int.neg_pos, and_self]

/-- Go's `%` truncates, Lean's `%` on `Int` does not: the even-odd rule reads the same with either. -/
theorem tmod_two_eq_zero (w : Int) : w.tmod 2 = 0 ↔ w % 2 = 0 := by
  rw [← Int.dvd_iff_tmod_eq_zero, Int.dvd_iff_emod_eq_zero]

/-! Maps of the plane that keep every edge weight keep the winding number: translations and
positive rescalings. -/

theorem chainW_map (f : IPt → IPt) (p : IPt) (h : ∀ a b, edgeW (f p) (f a) (f b) = edgeW p a b)
    (l : List IPt) : chainW (f p) (l.map f) = chainW p l := by
  induction l with
  | nil => rfl
  | cons a r ih =>
    cases r with
    | nil => rfl
    | cons b r' =>
      simp only [List.map_cons, chainW] at ih ⊢
      rw [h, ih]

theorem wn1_map (f : IPt → IPt) (p : IPt) (h : ∀ a b, edgeW (f p) (f a) (f b) = edgeW p a b)
    (poly : List IPt) : wn1 (f p) (poly.map f) = wn1 p poly := by
  cases poly with
  | nil => rfl
  | cons a r =>
    have := chainW_map f p h (a :: r ++ [a])
    simpa [wn1] using this

def IPt.add (a t : IPt) : IPt := ⟨a.x + t.x, a.y + t.y⟩
def IPt.smul (k : Int) (a : IPt) : IPt := ⟨k * a.x, k * a.y⟩

theorem isLeft_translate (a b p t : IPt) : isLeft (a.add t) (b.add t) (p.add t) = isLeft a b p := by
  simp only [isLeft, IPt.add]; ring

theorem edgeW_translate (p a b t : IPt) : edgeW (p.add t) (a.add t) (b.add t) = edgeW p a b := by
  simp only [edgeW, isLeft_translate]
  simp only [IPt.add, Int.add_le_add_iff_right, Int.add_lt_add_iff_right]

/-- The winding number is invariant under translation of polygon and query point. -/
theorem wn1_translate (p t : IPt) (poly : List IPt) : wn1 (p.add t) (poly.map (·.add t)) = wn1 p poly :=
  wn1_map (·.add t) p (fun a b => edgeW_translate p a b t) poly

theorem isLeft_smul (k : Int) (a b p : IPt) : isLeft (IPt.smul k a) (IPt.smul k b) (IPt.smul k p) = k * k * isLeft a b p := by
  simp only [isLeft, IPt.smul]; ring

theorem edgeW_smul (k : Int) (hk : 0 < k) (p a b : IPt) :
    edgeW (IPt.smul k p) (IPt.smul k a) (IPt.smul k b) = edgeW p a b := by
  have kk : 0 < k * k := Int.mul_pos hk hk
  have s1 : 0 < k * k * isLeft a b p ↔ 0 < isLeft a b p := mul_pos_iff_of_pos_left kk
  have s2 : k * k * isLeft a b p < 0 ↔ isLeft a b p < 0 := by
    simpa using mul_lt_mul_iff_of_pos_left (b := isLeft a b p) (c := 0) kk
  simp only [edgeW, isLeft_smul, s1, s2]
  simp only [IPt.smul, mul_le_mul_iff_of_pos_left hk, mul_lt_mul_iff_of_pos_left hk]

/-- Rescaling all coordinates by a positive integer (bringing dyadic rationals to one common
exponent) does not change the winding number: the integer decoding is faithful. -/
theorem wn1_smul (k : Int) (hk : 0 < k) (p : IPt) (poly : List IPt) :
    wn1 (IPt.smul k p) (poly.map (IPt.smul k)) = wn1 p poly :=
  wn1_map (IPt.smul k) p (edgeW_smul k hk p) poly

/-! The distance tests are monotone in the tolerance. -/

/-- which of the three distances `farFromSeg` compares with the tolerance does not depend on the
tolerance; the third is compared with `d · |ab|²`, and `|ab|² ≥ 0` -/
theorem farFromSeg_mono (p a b : IPt) (d d' : Int) (hd : d ≤ d') (h : farFromSeg p a b d' = true) :
    farFromSeg p a b d = true := by
  unfold farFromSeg at h ⊢
  simp only at h ⊢
  split
  · rw [if_pos ‹_›] at h
    exact decide_eq_true (Int.lt_of_le_of_lt hd (of_decide_eq_true h))
  · rw [if_neg ‹_›] at h
    split
    · rw [if_pos ‹_›] at h
      exact decide_eq_true (Int.lt_of_le_of_lt hd (of_decide_eq_true h))
    · rw [if_neg ‹_›] at h
      exact decide_eq_true (Int.lt_of_le_of_lt (Int.mul_le_mul_of_nonneg_right hd
        (Int.add_nonneg (mul_self_nonneg _) (mul_self_nonneg _))) (of_decide_eq_true h))

theorem farFromChain_mono (p : IPt) (d d' : Int) (hd : d ≤ d') (l : List IPt)
    (h : farFromChain p d' l = true) : farFromChain p d l = true := by
  induction l with
  | nil => rfl
  | cons a rest ih =>
    cases rest with
    | nil => rfl
    | cons b rest' =>
      simp only [farFromChain, Bool.and_eq_true] at h ⊢
      exact ⟨farFromSeg_mono p a b d d' hd h.1, ih h.2⟩

theorem farFromPoly_mono (p : IPt) (d d' : Int) (hd : d ≤ d') (poly : List IPt)
    (h : farFromPoly p d' poly = true) : farFromPoly p d poly = true := by
  unfold farFromPoly at h ⊢
  split at h
  · rfl
  · exact farFromSeg_mono _ _ _ _ _ hd h
  · exact farFromChain_mono p d d' hd _ h

theorem farFromAll_mono (p : IPt) (d d' : Int) (hd : d ≤ d') (polys : List (List IPt))
    (h : farFromAll p d' polys = true) : farFromAll p d polys = true := by
  unfold farFromAll at h ⊢
  rw [List.all_eq_true] at h ⊢
  exact fun x hx => farFromPoly_mono p d d' hd x (h x hx)

theorem wn1_singleton (q p : IPt) : wn1 q [p] = 0 := by
  have := wn1_reverse q [p]
  simp only [List.reverse_singleton] at this
  omega

theorem wn_list_reverse (q : IPt) (l : List (List IPt)) : wn q l.reverse = wn q l := by
  induction l with
  | nil => rfl
  | cons x xs ih =>
    rw [List.reverse_cons, wn_append, ih, wn_cons, wn_cons]
    simp only [wn, List.map_nil, List.foldl_nil]
    omega

theorem wn_map_neg (q : IPt) {β : Type} (f g : β → List IPt) (l : List β)
    (h : ∀ s ∈ l, wn1 q (f s) = - wn1 q (g s)) : wn q (l.map f) = - wn q (l.map g) := by
  induction l with
  | nil => rfl
  | cons x xs ih =>
    rw [List.map_cons, List.map_cons, wn_cons, wn_cons, ih fun s hs => h s (List.mem_cons_of_mem _ hs),
      h x List.mem_cons_self]
    omega

end Canvas.Wn
