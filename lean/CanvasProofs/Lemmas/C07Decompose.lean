import CanvasProofs.Lemmas.C07Basics

set_option linter.unusedSectionVars false
namespace C07
open Canvas Canvas.C07 GenK

variable {K : Type} [Field K] [LinearOrder K] [IsStrictOrderedRing K] [Env K]

/-- the matrix with polar data `(Q, a2)`, `(R, a1)`: its linear part is `Q·R(a2) + R·R(a1)·diag(1,−1)`, on the complex
plane `z ↦ Q·e^{i·a2}·z + R·e^{i·a1}·z̄` -/
def polarMat (Qv a2 Rv a1 tx ty : K) : Mat K :=
  ⟨Qv * Env.cos a2 + Rv * Env.cos a1, Rv * Env.sin a1 - Qv * Env.sin a2, tx,
    Rv * Env.sin a1 + Qv * Env.sin a2, Qv * Env.cos a2 - Rv * Env.cos a1, ty⟩

theorem polarMat_atan2 (L : Laws K) (E F G H tx ty : K) :
    polarMat (Env.sqrt (E * E + H * H)) (Env.atan2 H E) (Env.sqrt (F * F + G * G)) (Env.atan2 G F) tx ty =
      ⟨E + F, G - H, tx, G + H, E - F, ty⟩ := by
  simp only [polarMat, L.atan2_cos, L.atan2_sin]

theorem recompose_polar (L : Laws K) {Qv Rv tx ty phi theta a1 a2 : K}
    (hp : phi * Env.pi / 180 + theta * Env.pi / 180 = a2) (hm : phi * Env.pi / 180 - theta * Env.pi / 180 = a1) :
    recompose (tx, ty, phi, Qv + Rv, Qv - Rv, theta) = polarMat Qv a2 Rv a1 tx ty := by
  subst hp hm
  simp only [recompose, rotate, rotateSC_eq, ops_mscale, ops_mtranslate, ops_sin, ops_cos, ops_pi, identity, polarMat,
    Matrix.Translate, Matrix.Scale, Matrix.Mul, L.cos_add, L.sin_add, L.cos_sub, L.sin_sub]
  congr 1 <;> ring

def MatWithin (p q : Mat K) (δ : K) : Prop :=
  |p.a - q.a| ≤ δ ∧ |p.b - q.b| ≤ δ ∧ |p.c - q.c| ≤ δ ∧ |p.d - q.d| ≤ δ ∧ |p.e - q.e| ≤ δ ∧ |p.f - q.f| ≤ δ

theorem MatWithin.of_eq {p q : Mat K} {δ : K} (h : p = q) (hδ : 0 ≤ δ) : MatWithin p q δ := by
  subst h
  simp only [MatWithin, sub_self, abs_zero, hδ, and_self]

theorem MatWithin.eq {p q : Mat K} (h : MatWithin p q 0) : p = q := by
  obtain ⟨ha, hb, hc, hd, he, hf⟩ := h
  cases p; cases q
  simp only [abs_nonpos_iff, sub_eq_zero] at ha hb hc hd he hf
  simp only [ha, hb, hc, hd, he, hf]

theorem abs_sub_le_of_eq_mul {x y r u v ε : K} (hr : |r| ≤ ε) (hu : |u| ≤ 1) (hv : |v| ≤ 1) (h : x - y = r * (u - v)) :
    |x - y| ≤ 2 * ε := by
  rw [h, abs_mul, mul_comm 2]
  exact mul_le_mul hr ((abs_sub u v).trans (by linarith)) (abs_nonneg _) ((abs_nonneg r).trans hr)

theorem polarMat_within (L : Laws K) {Qv a2 Rv a1 a1' tx ty ε : K} (hR : |Rv| ≤ ε) :
    MatWithin (polarMat Qv a2 Rv a1' tx ty) (polarMat Qv a2 Rv a1 tx ty) (2 * ε) := by
  simp only [polarMat]
  have h2e : 0 ≤ 2 * ε := by linarith [(abs_nonneg Rv).trans hR]
  have c := L.abs_cos_le a1
  have c' := L.abs_cos_le a1'
  have s := L.abs_sin_le a1
  have s' := L.abs_sin_le a1'
  exact ⟨abs_sub_le_of_eq_mul hR c' c (by ring), abs_sub_le_of_eq_mul hR s' s (by ring), by simpa using h2e,
    abs_sub_le_of_eq_mul hR s' s (by ring), abs_sub_le_of_eq_mul hR c c' (by ring), by simpa using h2e⟩

/-- only the sum of the two angles matters when `R` is small: this covers the merged rotation (`phi = 0`,
`theta = theta + phi`) of `Decompose`, whose difference of angles is not `a1` -/
theorem recompose_polar_within (L : Laws K) {Qv Rv tx ty phi theta a1 a2 ε : K}
    (hp : phi * Env.pi / 180 + theta * Env.pi / 180 = a2) (hR : |Rv| ≤ ε) :
    MatWithin (recompose (tx, ty, phi, Qv + Rv, Qv - Rv, theta)) (polarMat Qv a2 Rv a1 tx ty) (2 * ε) := by
  rw [recompose_polar L hp rfl]
  exact polarMat_within L hR

theorem decompose_translation (m : Mat K) : (Matrix.Decompose m).1 = m.c ∧ (Matrix.Decompose m).2.1 = m.f := by
  unfold Matrix.Decompose
  simp

def optMat (c : Bool) (op : SvgOp K) : Mat K := if c then op.mat else identity

theorem optMat_of {c : Bool} {op : SvgOp K} (h : c = false → op.mat = identity) : optMat c op = op.mat := by
  cases c
  · simp [optMat, h rfl]
  · simp [optMat]

theorem mul_linear {m q : Mat K} (hm : m.c = 0 ∧ m.f = 0) (hq : q.c = 0 ∧ q.f = 0) :
    (Matrix.Mul m q).c = 0 ∧ (Matrix.Mul m q).f = 0 := by
  simp only [Matrix.Mul, hm.1, hm.2, hq.1, hq.2, mul_zero, add_zero, and_self]

theorem optMat_linear {c : Bool} {op : SvgOp K} (h : op.mat.c = 0 ∧ op.mat.f = 0) :
    (optMat c op).c = 0 ∧ (optMat c op).f = 0 := by
  cases c
  · exact ⟨rfl, rfl⟩
  · exact h

theorem svgInterp_opt (xs : List (SvgOp K)) (c : Bool) (op : SvgOp K) :
    svgInterp (xs ++ (if c then [op] else [])) = Matrix.Mul (svgInterp xs) (optMat c op) := by
  cases c <;> simp [svgInterp, optMat, identity, Aff.mul_one]

theorem svgInterp_parts (c1 c2 c3 c4 : Bool) (o1 o2 o3 o4 : SvgOp K) :
    svgInterp ((if c1 then [o1] else []) ++ (if c2 then [o2] else []) ++ (if c3 then [o3] else []) ++ (if c4 then [o4] else [])) =
      Matrix.Mul (Matrix.Mul (Matrix.Mul (optMat c1 o1) (optMat c2 o2)) (optMat c3 o3)) (optMat c4 o4) := by
  rw [svgInterp_opt, svgInterp_opt, svgInterp_opt]
  have : svgInterp (if c1 then [o1] else []) = optMat c1 o1 := by
    have := svgInterp_opt ([] : List (SvgOp K)) c1 o1
    simpa [svgInterp, identity, Aff.one_mul] using this
  rw [this]

/-- `G·m·G` for the y-flip `G = diag(1, -1)` -/
def flipY (m : Mat K) : Mat K := ⟨m.a, -m.b, m.c, -m.d, m.e, -m.f⟩

/-- `G·G = 1`: `T(0,h)·G·(m·q)·G = (T(0,h)·G·m·G)·(G·q·G)` -/
theorem svgTarget_mul (m q : Mat K) (h : K) : svgTarget (Matrix.Mul m q) h = Matrix.Mul (svgTarget m h) (flipY q) := by
  simp only [svgTarget, flipY, Matrix.Mul, Mat.mk.injEq]
  refine ⟨?_, ?_, ?_, ?_, ?_, ?_⟩ <;> ring

theorem flipY_rot (L : Laws K) (deg : K) :
    flipY (rotMat (Env.sin (deg * Env.pi / 180)) (Env.cos (deg * Env.pi / 180))) = (SvgOp.rotate (-deg)).mat := by
  have e : -deg * Env.pi / 180 = -(deg * Env.pi / 180) := by ring
  simp only [flipY, rotMat, SvgOp.mat, ops_sin, ops_cos, ops_pi, e, L.cos_neg, L.sin_neg, neg_zero]

theorem svgTarget_recompose (L : Laws K) (tx ty phi sx sy theta h : K) :
    Matrix.Mul (Matrix.Mul (Matrix.Mul (SvgOp.translate tx (h - ty)).mat (SvgOp.rotate (-phi)).mat) (SvgOp.scale sx sy).mat)
      (SvgOp.rotate (-theta)).mat = svgTarget (recompose (tx, ty, phi, sx, sy, theta)) h := by
  -- `recompose` is a product of four factors; the target goes through it factor by factor
  simp only [recompose, rotate, rotateSC, ops_mscale, ops_mtranslate, ops_mmul, ops_sin, ops_cos, ops_pi,
    Matrix.Scale, Matrix.Translate, svgTarget_mul, flipY_rot L]
  congr 3
  · simp only [svgTarget, flipY, identity, SvgOp.mat, Matrix.Mul, one_mul, zero_mul, mul_zero, mul_one, add_zero, zero_add,
      neg_zero, sub_eq_neg_add]
  · simp only [flipY, SvgOp.mat, neg_zero]

end C07
