import CanvasProofs.Lemmas.Mat
/-! What the C15 theorems use of the generated (`GenK`) matrices beyond the shared laws
(CanvasProofs/Lemmas/Mat.lean): the flips of `DrawText` and `DrawImage`.  `mul_assoc`, `dot_mul`,
`translate_dot` and `rect_transform_contains` (`Rect.Transform` bounds the image of a rectangle) are the
shared laws themselves, under a name in this namespace; the proofs cite them as `Aff.…` like the other shared laws. -/
set_option linter.unusedSectionVars false
namespace C15M
open Canvas GenK
variable {K : Type} [Field K] [LinearOrder K] [IsStrictOrderedRing K] [Env K]

def ident : Mat K := Mat.mk 1 0 0 0 1 0

theorem mul_assoc (m q r : Mat K) : Matrix.Mul (Matrix.Mul m q) r = Matrix.Mul m (Matrix.Mul q r) :=
  Aff.mul_assoc m q r

theorem dot_mul (m q : Mat K) (p : Pt K) : Matrix.Dot (Matrix.Mul m q) p = Matrix.Dot m (Matrix.Dot q p) :=
  Aff.dot_mul m q p

theorem translate_dot (m : Mat K) (x y : K) (p : Pt K) :
    Matrix.Dot (Matrix.Translate m x y) p = Matrix.Dot m (Pt.mk (p.x + x) (p.y + y)) :=
  Aff.translate_dot m x y p

theorem reflectXAbout_half_dot (m : Mat K) (w : K) (p : Pt K) :
    Matrix.Dot (Matrix.ReflectXAbout m (w / 2)) p = Matrix.Dot m ⟨w - p.x, p.y⟩ :=
  (Aff.reflectXAbout_dot m _ p).trans (Aff.dot_congr m (by ring) rfl)

theorem reflectYAbout_half_dot (m : Mat K) (h : K) (p : Pt K) :
    Matrix.Dot (Matrix.ReflectYAbout m (h / 2)) p = Matrix.Dot m ⟨p.x, h - p.y⟩ :=
  (Aff.reflectYAbout_dot m _ p).trans (Aff.dot_congr m rfl (by ring))

/-- `DrawText` applies `ReflectX`/`ReflectY` on the axes the coordinate system flips -/
theorem textFlip_dot (bx by' : Bool) (m : Mat K) (p : Pt K) :
    Matrix.Dot ((fun m => if bx then Matrix.ReflectX m else m) ((fun m => if by' then Matrix.ReflectY m else m) m)) p =
      Matrix.Dot m ⟨(if bx then -1 else 1) * p.x, (if by' then -1 else 1) * p.y⟩ := by
  cases bx <;> cases by' <;>
    simp only [if_true, if_false, Bool.false_eq_true, Aff.reflectX_dot, Aff.reflectY_dot, one_mul, neg_one_mul]

/-- mirrored in `[0, s]` and scaled by `1/r`, a coordinate is its offset from the near edge over `r`, with the flip's sign -/
theorem flip_scale (b : Bool) (s x r : K) :
    1 / r * (if b then s - x else x) = (if b then -1 else 1) * (x - if b then s else 0) / r := by
  cases b <;> simp only [if_true, if_false, Bool.false_eq_true] <;> ring

/-- a vector whose flipped components are `a` is, after the translation by `t`, mapped `a` beyond the image of the origin -/
theorem flip_anchor (b : Bool) (s t a : K) :
    (if b then s - ((if b then -1 else 1) * a + t) else (if b then -1 else 1) * a + t) =
      (if b then s - (0 + t) else 0 + t) + a := by
  cases b <;> simp only [if_true, if_false, Bool.false_eq_true] <;> ring

theorem rect_transform_contains (m : Mat K) (r : Rct K) (p : Pt K)
    (hx : r.x0 ≤ p.x ∧ p.x ≤ r.x1) (hy : r.y0 ≤ p.y ∧ p.y ≤ r.y1) :
    (Rect.Transform r m).x0 ≤ (Matrix.Dot m p).x ∧ (Matrix.Dot m p).x ≤ (Rect.Transform r m).x1 ∧
    (Rect.Transform r m).y0 ≤ (Matrix.Dot m p).y ∧ (Matrix.Dot m p).y ≤ (Rect.Transform r m).y1 :=
  Aff.rect_transform_contains m r p hx hy

end C15M
