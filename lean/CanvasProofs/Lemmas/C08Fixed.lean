import CanvasProofs.Lemmas.C08
import Mathlib.Tactic.NormNum

/-! # C08 — `fastBoundsFixed`, FastBounds with `math.Max(cp1, math.Max(cp2, end))` in the upper bounds
of the CubeTo case

Since the fix of finding `fastbounds-cubic-minmax` in /repo the model's `fastStep` is that formula too:
`fastBounds` and `fastBoundsFixed` are both `run (fastStepG Ops.mx)`, and the FastBounds theorems of
`CanvasProofs/C08.lean` are about either. -/
namespace C08
open Canvas Canvas.C08

@[instance_reducible] def envQF : Env ℚ := ⟨0, 0, 0, id, id, id, fun _ _ => 0, id, fun _ _ => 0, id, id, fun _ _ => 0, fun _ => false⟩
@[instance_reducible] def arcQF : ArcFns ℚ := ⟨fun _ _ => 0⟩
attribute [local instance] envQF arcQF

/-- the corrected formula on the witness path `M0 0 C0 1 10 0 0 2`: (0,0)-(10,2) -/
example : fastBoundsFixed ([.M ⟨0, 0⟩, .C ⟨0, 1⟩ ⟨10, 0⟩ ⟨0, 2⟩] : List (Cmd ℚ)) = (⟨0, 0, 10, 2⟩ : Rct ℚ) := by
  simp [fastBoundsFixed, run, fastStepFixed, fastStepG, St.init, St.rect, Cmd.firstPt]

end C08
