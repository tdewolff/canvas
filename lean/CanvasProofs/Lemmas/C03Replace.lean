import CanvasModel.C03
/-! C03 helper lemmas: the `replace` driver model keeps the subpath structure (core Lean only). -/
namespace C03L
open Canvas Canvas.C03

theorem advance_advance {α : Type} (st : Option (SubSig α)) (v p : Pt α) :
    advance (advance st v) p = advance st p := by
  cases st <;> rfl

theorem sigGo_lines {α κ : Type} (vs : List (Pt α)) (p : Pt α) (tl : List (Cmd α κ)) :
    ∀ st : Option (SubSig α), sigGo st (vs.map Cmd.L ++ Cmd.L p :: tl) = sigGo (advance st p) tl := by
  induction vs with
  | nil => intro st; simp [sigGo]
  | cons v vs ih => intro st; simp only [List.map_cons, List.cons_append, sigGo]; rw [ih, advance_advance]

theorem sigGo_flatten {α κ : Type} (f : Pt α → κ → Pt α → List (Pt α)) (cs : List (Cmd α κ)) :
    ∀ (st : Option (SubSig α)) (cur : Pt α), sigGo st (flattenCmds f cur cs) = sigGo st cs := by
  induction cs with
  | nil => intro st cur; simp [flattenCmds]
  | cons c rest ih =>
    intro st cur
    cases c with
    | Curve k p => simp only [flattenCmds, sigGo]; rw [sigGo_lines, ih]
    | _ => simp only [flattenCmds, sigGo, Cmd.endp]; rw [ih]

theorem flatten_isFlat {α κ : Type} (f : Pt α → κ → Pt α → List (Pt α)) (cs : List (Cmd α κ)) :
    ∀ (cur : Pt α) (c : Cmd α κ), c ∈ flattenCmds f cur cs → c.isFlat = true := by
  induction cs with
  | nil => intro cur c h; simp [flattenCmds] at h
  | cons c0 rest ih =>
    intro cur c h
    cases c0 with
    | Curve k p =>
      simp only [flattenCmds, List.mem_append, List.mem_map, List.mem_cons] at h
      rcases h with ⟨v, _, rfl⟩ | rfl | h
      · rfl
      · rfl
      · exact ih _ _ h
    | _ =>
      simp only [flattenCmds, List.mem_cons] at h
      rcases h with rfl | h
      · rfl
      · exact ih _ _ h

theorem flatten_flat_id {α κ : Type} (f : Pt α → κ → Pt α → List (Pt α)) (cs : List (Cmd α κ)) :
    (∀ c ∈ cs, c.isFlat = true) → ∀ cur : Pt α, flattenCmds f cur cs = cs := by
  induction cs with
  | nil => intro _ cur; simp [flattenCmds]
  | cons c0 rest ih =>
    intro h cur
    have hr := ih (fun c hc => h c (List.mem_cons_of_mem _ hc))
    cases c0 with
    | Curve k p => exact absurd (h _ List.mem_cons_self) Bool.false_ne_true
    | _ => simp only [flattenCmds, hr]

theorem countP_map_L {α κ : Type} (vs : List (Pt α)) :
    (vs.map (Cmd.L : Pt α → Cmd α κ)).countP Cmd.isMove = 0 := by
  induction vs with
  | nil => rfl
  | cons v vs ih => simp [Cmd.isMove, ih]

/-- The bridging rule: when the `LineTo(end)` is skipped only in situations in which `Join` regards
the two points as coincident (`skip a b → eq a b`; in the library both are `Point.Equals`), and `eq`
is reflexive, the rest of the path always continues the current subpath: no MoveTo is introduced. -/
theorem replaceCmds_count {α κ : Type} (skip eq : Pt α → Pt α → Bool) (f : Pt α → κ → Pt α → List (Pt α))
    (hse : ∀ a b, skip a b = true → eq a b = true) (hrefl : ∀ a, eq a a = true) (cs : List (Cmd α κ)) :
    ∀ cur : Pt α, subpathCount (replaceCmds skip eq f cur cs) = subpathCount cs := by
  induction cs with
  | nil => intro cur; simp [replaceCmds, subpathCount]
  | cons c rest ih =>
    intro cur
    cases c with
    | Curve k p =>
      simp only [replaceCmds, subpathCount, List.countP_cons, List.countP_append, Cmd.isMove] at *
      rw [countP_map_L]
      by_cases hs : skip ((f cur k p).getLast?.getD cur) p = true
      · have he := hse _ _ hs
        simp only [hs, if_true, he, List.countP_nil]
        rw [ih]; simp
      · have hs' : skip ((f cur k p).getLast?.getD cur) p = false := by simpa using hs
        simp only [hs', Bool.false_eq_true, if_false, List.getLast?_append, List.getLast?_singleton,
          Option.some_or, Option.getD_some, hrefl, if_true, List.countP_nil]
        rw [ih]; simp
    | _ => simp only [replaceCmds, subpathCount, List.countP_cons, Cmd.endp] at *; rw [ih]

end C03L
