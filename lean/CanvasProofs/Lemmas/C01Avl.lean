import CanvasModel.C01Avl
/-! Lemmas about the functional model of the `SweepStatus` AVL tree: rotations and the loop body of
`rebalance` preserve the in-order sequence; the AVL invariant is preserved by `InsertAfter` and
`Remove`; hence by induction over arbitrary operation histories the "Tree too far out of shape!"
panic is unreachable. Core Lean only. -/
namespace Canvas.C01Avl
open Tree

/-- stored heights are the true heights and every node is AVL balanced -/
def Good : Tree → Prop
  | .nil => True
  | .node l _ h r => Good l ∧ Good r ∧ h = max l.ht r.ht + 1 ∧ l.ht ≤ r.ht + 1 ∧ r.ht ≤ l.ht + 1

/-- the invariant of the status tree: as `Good`, except that the ROOT's own stored height is
unconstrained (the code leaves it stale after hanging a child under a leaf root) -/
def Inv : Tree → Prop
  | .nil => True
  | .node l _ _ r => Good l ∧ Good r ∧ l.ht ≤ r.ht + 1 ∧ r.ht ≤ l.ht + 1

def realHt : Tree → Nat
  | .nil => 0
  | .node l _ _ r => max (realHt l) (realHt r) + 1

def Balanced : Tree → Prop
  | .nil => True
  | .node l _ _ r => Balanced l ∧ Balanced r ∧ realHt l ≤ realHt r + 1 ∧ realHt r ≤ realHt l + 1

theorem Good.ht_eq {l r : Tree} {x h : Nat} (g : Good (.node l x h r)) : h = max l.ht r.ht + 1 :=
  g.2.2.1

theorem Good.toInv {t : Tree} (g : Good t) : Inv t := by
  cases t with
  | nil => trivial
  | node l x h r => exact ⟨g.1, g.2.1, g.2.2.2.1, g.2.2.2.2⟩

theorem good_ht_real {t : Tree} (g : Good t) : t.ht = realHt t := by
  induction t with
  | nil => rfl
  | node l x h r ihl ihr =>
    obtain ⟨gl, gr, hh, _, _⟩ := g
    simp only [ht, realHt, ← ihl gl, ← ihr gr, hh]

theorem good_ht_zero {t : Tree} (g : Good t) (h0 : t.ht = 0) : t = .nil := by
  cases t with
  | nil => rfl
  | node l x h r => obtain ⟨_, _, hh, _, _⟩ := g; simp only [ht] at h0; omega

theorem isNil_false_of_ht {t : Tree} (h : 0 < t.ht) : t.isNil = false := by
  cases t <;> simp_all [ht, isNil]

theorem good_leaf (x : Nat) : Good (leaf x) := by simp [leaf, Good, ht]

def Keeps (f : Tree → Option Tree) : Prop := ∀ ⦃t t' : Tree⦄, f t = some t' → t'.toList = t.toList

theorem Keeps.bind {f g : Tree → Option Tree} (hf : Keeps f) (hg : Keeps g) :
    Keeps fun t => (f t).bind g := by
  intro t t' h
  obtain ⟨m, h1, h2⟩ := Option.bind_eq_some_iff.1 h
  rw [hg h2, hf h1]

theorem Keeps.ite {f : Tree → Option Tree} (c : Tree → Prop) [DecidablePred c] (hf : Keeps f) :
    Keeps fun t => if c t then f t else some t := by
  intro t t' (h : (if c t then f t else some t) = some t')
  split at h
  · exact hf h
  · cases h; rfl

theorem rotL_toList : Keeps rotL := by
  intro t t' h
  unfold rotL at h
  split at h
  · cases h; simp [toList]
  · cases h

theorem rotR_toList : Keeps rotR := by
  intro t t' h
  unfold rotR at h
  split at h
  · cases h; simp [toList]
  · cases h

theorem upd_toList : Keeps upd := by
  intro t t' h
  cases t with
  | nil => cases h
  | node l x hh r => cases h; rfl

theorem updLeft_toList : Keeps updLeft := by
  intro t t' h
  cases t with
  | nil => cases h
  | node l x hh r =>
    obtain ⟨l', hl, rfl⟩ := Option.map_eq_some_iff.1 h
    rw [toList, upd_toList hl, toList]

theorem updRight_toList : Keeps updRight := by
  intro t t' h
  cases t with
  | nil => cases h
  | node l x hh r =>
    obtain ⟨r', hr, rfl⟩ := Option.map_eq_some_iff.1 h
    rw [toList, upd_toList hr, toList]

theorem step_toList : Keeps step := by
  intro t t' h
  cases t with
  | nil => cases h
  | node l x hh r =>
    simp only [step] at h
    split at h
    · obtain ⟨r1, h1, h2⟩ := Option.bind_eq_some_iff.1 h
      rw [(rotL_toList.bind (updLeft_toList.bind upd_toList)) h2, toList, toList,
        (rotR_toList.bind updRight_toList).ite (fun r => r.isNil = false ∧ balance r < 0) h1]
    · split at h
      · obtain ⟨l1, h1, h2⟩ := Option.bind_eq_some_iff.1 h
        rw [(rotR_toList.bind (updRight_toList.bind upd_toList)) h2, toList, toList,
          (rotL_toList.bind updLeft_toList).ite (fun l => l.isNil = false ∧ 0 < balance l) h1]
      · split at h
        · cases h
        · exact upd_toList h

theorem ht_nil : Tree.nil.ht = 0 := rfl
theorem ht_node (l r : Tree) (x h : Nat) : (Tree.node l x h r).ht = h := rfl
theorem balance_node (l r : Tree) (x h : Nat) :
    balance (.node l x h r) = (r.ht : Int) - (l.ht : Int) := rfl

/-- the node `updateHeight` leaves (`upd_node`) -/
def mk (l : Tree) (x : Nat) (r : Tree) : Tree := .node l x (max l.ht r.ht + 1) r

theorem upd_node (l r : Tree) (x h : Nat) : upd (.node l x h r) = some (mk l x r) := rfl

theorem ht_mk (l r : Tree) (x : Nat) : (mk l x r).ht = max l.ht r.ht + 1 := rfl

theorem ht_mk_of_le {l r : Tree} {x : Nat} (h : l.ht ≤ r.ht) : (mk l x r).ht = r.ht + 1 := by
  rw [ht_mk, Nat.max_eq_right h]

theorem ht_mk_of_ge {l r : Tree} {x : Nat} (h : r.ht ≤ l.ht) : (mk l x r).ht = l.ht + 1 := by
  rw [ht_mk, Nat.max_eq_left h]

theorem good_mk {l r : Tree} {x : Nat} (gl : Good l) (gr : Good r)
    (h1 : l.ht ≤ r.ht + 1) (h2 : r.ht ≤ l.ht + 1) : Good (mk l x r) :=
  ⟨gl, gr, rfl, h1, h2⟩

/-- the shape both double rotations produce -/
theorem good_mk_mk {A B C D : Tree} (x z y : Nat) (gA : Good A) (gB : Good B) (gC : Good C)
    (gD : Good D) (hD : D.ht = A.ht) (hB : B.ht ≤ A.ht) (hB' : A.ht ≤ B.ht + 1) (hC : C.ht ≤ A.ht)
    (hC' : A.ht ≤ C.ht + 1) :
    Good (mk (mk A x B) z (mk C y D)) ∧ (mk (mk A x B) z (mk C y D)).ht = A.ht + 2 := by
  have a1 : (mk A x B).ht = A.ht + 1 := ht_mk_of_ge hB
  have a2 : (mk C y D).ht = A.ht + 1 := by rw [ht_mk_of_le (hD ▸ hC), hD]
  refine ⟨good_mk (good_mk gA gB hB' (Nat.le_succ_of_le hB))
    (good_mk gC gD (hD ▸ Nat.le_succ_of_le hC) (hD ▸ hC')) ?_ ?_, ?_⟩
  · rw [a1, a2]; exact Nat.le_succ _
  · rw [a1, a2]; exact Nat.le_succ _
  · rw [ht_mk_of_ge (by rw [a1, a2]; exact Nat.le_refl _), a1]

/-! In each case of `step`, once the two tests are decided the rotations and height updates compute
on the constructors (`rfl`). For the heights every `max` is resolved before `omega` is asked: it is
slow on several of them. -/

theorem step_balanced (l r : Tree) (x h : Nat) (h1 : l.ht ≤ r.ht + 1) (h2 : r.ht ≤ l.ht + 1) :
    step (.node l x h r) = some (mk l x r) := by
  have e1 : ¬ balance (.node l x h r) = 2 := by simp only [balance_node]; omega
  have e2 : ¬ balance (.node l x h r) = -2 := by simp only [balance_node]; omega
  have e3 : ¬ (balance (.node l x h r) < -2 ∨ 2 < balance (.node l x h r)) := by
    simp only [balance_node]; omega
  simp only [step, if_neg e1, if_neg e2, if_neg e3, upd_node]

/-- a second application of the loop body to a good node is the identity: this is why Go's
`for ancestor … { s.rebalance(ancestor) }` (whose calls overlap) equals one pass up the spine -/
theorem step_noop_on_good (l r : Tree) (x h : Nat) (g : Good (.node l x h r)) :
    step (.node l x h r) = some (.node l x h r) := by
  obtain ⟨_, _, hh, b1, b2⟩ := g
  rw [step_balanced l r x h b1 b2, hh, mk]

/-- `hc`: stored height of the heavier child -/
def RotSpec (t : Tree) (hc : Nat) : Prop :=
  ∃ t', step t = some t' ∧ Good t' ∧ (t'.ht = hc + 1 ∨ t'.ht = hc)

theorem step_right_heavy {l r : Tree} (x h : Nat) (gl : Good l) (gr : Good r)
    (e : r.ht = l.ht + 2) : RotSpec (.node l x h r) r.ht := by
  cases r with
  | nil => exact absurd e (by simp [ht_nil])
  | node rl y hr rr =>
    obtain ⟨grl, grr, hhr, b1, b2⟩ := gr
    simp only [ht_node] at e ⊢
    have e1 : balance (.node l x h (.node rl y hr rr)) = 2 := by
      simp only [balance_node, ht_node]; omega
    by_cases hc : rl.ht ≤ rr.ht
    · have c : rr.ht = l.ht + 1 ∧ l.ht ≤ rl.ht ∧ rl.ht ≤ l.ht + 1 := by omega
      clear hhr
      have a1 : (mk l x rl).ht = rl.ht + 1 := ht_mk_of_le c.2.1
      have a2 : (mk (mk l x rl) y rr).ht = rl.ht + 2 := by rw [ht_mk_of_ge (by omega), a1]
      exact ⟨_, by rw [step, if_pos e1, if_neg (by simp only [balance_node]; omega)]; rfl,
        good_mk (good_mk gl grl (by omega) c.2.2) grr (by omega) (by omega), by omega⟩
    · cases rl with
      | nil => exact absurd (Nat.zero_le _) hc
      | node rll z hrl rlr =>
        obtain ⟨grll, grlr, hhrl, b3, b4⟩ := grl
        simp only [ht_node] at hc hhr b1 b2
        obtain ⟨c1, c2, c3, c4, c5⟩ : rr.ht = l.ht ∧ rll.ht ≤ l.ht ∧ l.ht ≤ rll.ht + 1 ∧
            rlr.ht ≤ l.ht ∧ l.ht ≤ rlr.ht + 1 := by omega
        obtain ⟨g, hg⟩ := good_mk_mk x z y gl grll grlr grr c1 c2 c3 c4 c5
        exact ⟨_, by rw [step, if_pos e1,
          if_pos ⟨rfl, by simp only [balance_node, ht_node]; omega⟩]; rfl, g, .inr (hg.trans e.symm)⟩

theorem step_left_heavy {l r : Tree} (x h : Nat) (gl : Good l) (gr : Good r)
    (e : l.ht = r.ht + 2) : RotSpec (.node l x h r) l.ht := by
  cases l with
  | nil => exact absurd e (by simp [ht_nil])
  | node ll y hl lr =>
    obtain ⟨gll, glr, hhl, b1, b2⟩ := gl
    simp only [ht_node] at e ⊢
    have e0 : ¬ balance (.node (.node ll y hl lr) x h r) = 2 := by
      simp only [balance_node, ht_node]; omega
    have e1 : balance (.node (.node ll y hl lr) x h r) = -2 := by
      simp only [balance_node, ht_node]; omega
    by_cases hc : lr.ht ≤ ll.ht
    · have c : ll.ht = r.ht + 1 ∧ r.ht ≤ lr.ht ∧ lr.ht ≤ r.ht + 1 := by omega
      clear hhl
      have a1 : (mk lr x r).ht = lr.ht + 1 := ht_mk_of_ge c.2.1
      have a2 : (mk ll y (mk lr x r)).ht = lr.ht + 2 := by rw [ht_mk_of_le (by omega), a1]
      exact ⟨_, by rw [step, if_neg e0, if_pos e1, if_neg (by simp only [balance_node]; omega)]; rfl,
        good_mk gll (good_mk glr gr c.2.2 (by omega)) (by omega) (by omega), by omega⟩
    · cases lr with
      | nil => exact absurd (Nat.zero_le _) hc
      | node lrl z hlr lrr =>
        obtain ⟨glrl, glrr, hhlr, b3, b4⟩ := glr
        simp only [ht_node] at hc hhl b1 b2
        obtain ⟨c1, c2, c3, c4, c5⟩ : r.ht = ll.ht ∧ lrl.ht ≤ ll.ht ∧ ll.ht ≤ lrl.ht + 1 ∧
            lrr.ht ≤ ll.ht ∧ ll.ht ≤ lrr.ht + 1 := by omega
        obtain ⟨g, hg⟩ := good_mk_mk y z x gll glrl glrr gr c1 c2 c3 c4 c5
        exact ⟨_, by rw [step, if_neg e0, if_pos e1,
          if_pos ⟨rfl, by simp only [balance_node, ht_node]; omega⟩]; rfl, g,
          .inr (by rw [hg, e, c1])⟩

theorem step_spec (l r : Tree) (x h : Nat) (gl : Good l) (gr : Good r)
    (h1 : l.ht ≤ r.ht + 2) (h2 : r.ht ≤ l.ht + 2) :
    ∃ t', step (.node l x h r) = some t' ∧ Good t' ∧
      (t'.ht = max l.ht r.ht + 1 ∨
        (t'.ht = max l.ht r.ht ∧ (l.ht = r.ht + 2 ∨ r.ht = l.ht + 2))) := by
  by_cases hR : r.ht = l.ht + 2
  · obtain ⟨t', e, g, ht'⟩ := step_right_heavy x h gl gr hR
    rw [Nat.max_eq_right (by omega)]
    exact ⟨t', e, g, ht'.imp_right fun h => ⟨h, .inr hR⟩⟩
  · by_cases hL : l.ht = r.ht + 2
    · obtain ⟨t', e, g, ht'⟩ := step_left_heavy x h gl gr hL
      rw [Nat.max_eq_left (by omega)]
      exact ⟨t', e, g, ht'.imp_right fun h => ⟨h, .inl hL⟩⟩
    · have b1 : l.ht ≤ r.ht + 1 := by omega
      have b2 : r.ht ≤ l.ht + 1 := by omega
      exact ⟨_, step_balanced l r x h b1 b2, good_mk gl gr b1 b2, Or.inl rfl⟩

theorem size_eq_length (t : Tree) : t.size = t.toList.length := by
  induction t with
  | nil => rfl
  | node l x h r ihl ihr => simp [size, toList, ihl, ihr]; omega

theorem isNil_eq (t : Tree) (h : t.isNil = true) : t = .nil := by
  cases t <;> simp_all [isNil]

theorem insert_left {L R : List Nat} {x y k : Nat} (hk : k ≤ L.length) :
    (L ++ y :: R).take k ++ x :: (L ++ y :: R).drop k = (L.take k ++ x :: L.drop k) ++ y :: R := by
  rw [List.take_append_of_le_length hk, List.drop_append_of_le_length hk]; simp

theorem insert_right {L R : List Nat} {x y k : Nat} (hk : L.length < k) :
    (L ++ y :: R).take k ++ x :: (L ++ y :: R).drop k
      = L ++ y :: (R.take (k - L.length - 1) ++ x :: R.drop (k - L.length - 1)) := by
  have : k - L.length = (k - L.length - 1) + 1 := by omega
  rw [List.take_append, List.drop_append, List.take_of_length_le (by omega),
    List.drop_of_length_le (by omega), this]
  simp

theorem erase_mid (L R : List Nat) (y : Nat) : (L ++ y :: R).eraseIdx L.length = L ++ R := by
  rw [List.eraseIdx_append_of_length_le (Nat.le_refl _), Nat.sub_self]; rfl

theorem erase_right {L R : List Nat} {y k : Nat} (hk : L.length < k) :
    (L ++ y :: R).eraseIdx k = L ++ y :: R.eraseIdx (k - L.length - 1) := by
  have : k - L.length = (k - L.length - 1) + 1 := by omega
  rw [List.eraseIdx_append_of_length_le (by omega), this, List.eraseIdx_cons_succ]
  simp

/-- Back at a node one of whose subtrees has been replaced: `l`, `r` are the old subtrees, `g` says
that the new ones are one higher in total. -/
theorem climb_spec {l r : Tree} (l' r' : Tree) (y h : Nat) (g : Bool) (gl' : Good l') (gr' : Good r')
    (b1 : l.ht ≤ r.ht + 1) (b2 : r.ht ≤ l.ht + 1) (hl : l.ht ≤ l'.ht) (hr : r.ht ≤ r'.ht)
    (hg : l'.ht + r'.ht = l.ht + r.ht + g.toNat) :
    ∃ t' g', (if g then stepF (.node l' y h r') else some (.node l' y h r', false)) = some (t', g') ∧
      Inv t' ∧ t'.toList = l'.toList ++ y :: r'.toList ∧
      (Good (.node l y h r) → Good t' ∧ t'.ht = h + g'.toNat) := by
  cases g with
  | false =>
    have e : l'.ht = l.ht ∧ r'.ht = r.ht := by simp only [Bool.toNat_false] at hg; omega
    refine ⟨_, _, rfl, ⟨gl', gr', by omega, by omega⟩, rfl,
      fun gt => ⟨⟨gl', gr', ?_, by omega, by omega⟩, rfl⟩⟩
    rw [e.1, e.2]; exact gt.ht_eq
  | true =>
    simp only [Bool.toNat_true] at hg
    obtain ⟨t2, hs, gt2, hb⟩ := step_spec l' r' y h gl' gr' (by omega) (by omega)
    refine ⟨t2, h != t2.ht, by simp only [if_true, stepF, hs, Option.map_some, ht_node],
      gt2.toInv, step_toList hs, fun gt => ⟨gt2, ?_⟩⟩
    have : t2.ht = h ∨ t2.ht = h + 1 := by have := gt.ht_eq; omega
    rcases this with e | e
    · rw [e, bne_self_eq_false]; rfl
    · rw [e, bne_iff_ne.2 (Nat.ne_of_lt (Nat.lt_succ_self h))]; rfl

/-- A node one of whose children is a new leaf (height 1) and the other is `c`, its only child before,
of height at most 1 — that is all `e` says of `l`, `r`, so that both sides are instances. The code
bumps the stored height exactly if there was no child at all. -/
theorem hang_spec {l r : Tree} (c : Tree) (y h : Nat) (gl : Good l) (gr : Good r) (gc : Good c)
    (b : c.ht ≤ 1) (e : max l.ht r.ht = max 1 c.ht) :
    Inv (.node l y (if c.isNil then h + 1 else h) r) ∧
      (h = c.ht + 1 → Good (.node l y (if c.isNil then h + 1 else h) r) ∧
        (if c.isNil then h + 1 else h) = h + c.isNil.toNat) := by
  have k : c.isNil.toNat + c.ht = 1 := by
    cases c with
    | nil => rfl
    | node cl z hc cr => have := gc.ht_eq; show 0 + hc = 1; simp only [ht_node] at b; omega
  have e' : (if c.isNil then h + 1 else h) = h + c.isNil.toNat := by cases c.isNil <;> rfl
  have m : max l.ht r.ht = 1 := e.trans (Nat.max_eq_left b)
  have b1 : l.ht ≤ r.ht + 1 := Nat.le_add_left_of_le (m ▸ Nat.le_max_left l.ht r.ht)
  have b2 : r.ht ≤ l.ht + 1 := Nat.le_add_left_of_le (m ▸ Nat.le_max_right l.ht r.ht)
  exact ⟨⟨gl, gr, b1, b2⟩, fun hh => ⟨⟨gl, gr, by rw [m, e']; omega, b1, b2⟩, e'⟩⟩

/-- the flag says whether the stored height went up (by one); no bound on `k` is needed: beyond the
end `ins` attaches at the right-most place and `take`/`drop` saturate -/
theorem ins_spec (t : Tree) (k x : Nat) (i : Inv t) :
    ∃ t' g, ins t k x = some (t', g) ∧ Inv t' ∧
      t'.toList = t.toList.take k ++ x :: t.toList.drop k ∧
      (Good t → Good t' ∧ t'.ht = t.ht + g.toNat) := by
  induction t generalizing k with
  | nil => exact ⟨leaf x, true, rfl, (good_leaf x).toInv, by simp [leaf, toList],
      fun _ => ⟨good_leaf x, rfl⟩⟩
  | node l y h r ihl ihr =>
    obtain ⟨gl, gr, b1, b2⟩ := i
    simp only [ins, toList]
    by_cases hkl : k ≤ l.size
    · rw [if_pos hkl, insert_left (by rw [← size_eq_length]; exact hkl)]
      by_cases hn : l.isNil = true
      · rw [if_pos hn]
        have := isNil_eq l hn; subst this
        obtain rfl : k = 0 := Nat.le_zero.mp hkl
        obtain ⟨i', hg⟩ := hang_spec r y h (good_leaf x) gr gr b2 rfl
        exact ⟨_, _, rfl, i', rfl, fun gt => hg (by rw [gt.ht_eq, ht_nil, Nat.zero_max])⟩
      · rw [if_neg hn]
        obtain ⟨l', g, e, _, el, hgood⟩ := ihl k gl.toInv
        obtain ⟨gl', hl'⟩ := hgood gl
        rw [e, Option.bind_some, ← el]
        exact climb_spec l' r y h g gl' gr b1 b2 (by omega) (Nat.le_refl _) (by omega)
    · rw [if_neg hkl, insert_right (by rw [← size_eq_length]; omega), ← size_eq_length]
      by_cases hn : r.isNil = true
      · rw [if_pos hn]
        have := isNil_eq r hn; subst this
        obtain ⟨i', hg⟩ := hang_spec l y h gl (good_leaf x) gl b1 (Nat.max_comm _ _)
        exact ⟨_, _, rfl, i', by simp [toList, leaf],
          fun gt => hg (by rw [gt.ht_eq, ht_nil, Nat.max_zero])⟩
      · rw [if_neg hn]
        obtain ⟨r', g, e, _, er, hgood⟩ := ihr (k - l.size - 1) gr.toInv
        obtain ⟨gr', hr'⟩ := hgood gr
        rw [e, Option.bind_some, ← er]
        exact climb_spec l r' y h g gl gr' b1 b2 (Nat.le_refl _) (by omega) (by omega)

theorem insertAt_spec (t : Tree) (k x : Nat) (i : Inv t) :
    ∃ t', insertAt t k x = some t' ∧ Inv t' ∧
      t'.toList = t.toList.take k ++ x :: t.toList.drop k := by
  unfold insertAt
  split
  · refine ⟨_, rfl, (good_leaf x).toInv, ?_⟩
    simp [toList, leaf]
  · rename_i y h
    cases k with
    | zero =>
      refine ⟨.node (leaf x) y h .nil, by simp, ⟨good_leaf x, trivial, ?_, ?_⟩, ?_⟩ <;>
        simp [leaf, ht_node, ht_nil, toList]
    | succ k =>
      refine ⟨.node .nil y h (leaf x), by simp, ⟨trivial, good_leaf x, ?_, ?_⟩, ?_⟩ <;>
        simp [leaf, ht_node, ht_nil, toList]
  · obtain ⟨t', g, e, it', el, _⟩ := ins_spec t k x i
    exact ⟨t', by simp [e], it', el⟩

/-- Back at a node one of whose subtrees has lost at most one level: `l`, `r` are the old subtrees,
`y0`, `h0` the old node's payload and height (`rem` puts the successor's in their place). -/
theorem shrink_spec {l r : Tree} {y0 h0 : Nat} (l' r' : Tree) (y h : Nat) (gl' : Good l')
    (gr' : Good r') (b1 : l.ht ≤ r.ht + 1) (b2 : r.ht ≤ l.ht + 1) (hl : l'.ht ≤ l.ht)
    (hr : r'.ht ≤ r.ht) (hg : l.ht + r.ht ≤ l'.ht + r'.ht + 1) :
    ∃ t', step (.node l' y h r') = some t' ∧ Inv t' ∧ t'.toList = l'.toList ++ y :: r'.toList ∧
      (Good (.node l y0 h0 r) → Good t' ∧ t'.ht ≤ h0 ∧ h0 ≤ t'.ht + 1) := by
  obtain ⟨t', hs, gt', hb⟩ := step_spec l' r' y h gl' gr' (by omega) (by omega)
  exact ⟨t', hs, gt'.toInv, step_toList hs, fun gt => ⟨gt', by have := gt.ht_eq; omega⟩⟩

theorem remMin_spec (t : Tree) (g : Good t) (hne : ¬ t.isNil = true) :
    ∃ m hm t', remMin t = some (m, hm, t') ∧ (Good t' ∧ t'.ht ≤ t.ht ∧ t.ht ≤ t'.ht + 1) ∧
      t.toList = m :: t'.toList := by
  induction t with
  | nil => exact absurd rfl hne
  | node l y h r ihl _ =>
    have ⟨gl, gr, hh, b1, b2⟩ := g
    simp only [remMin]
    by_cases hn : l.isNil = true
    · rw [if_pos hn]
      have := isNil_eq l hn; subst this
      rw [ht_nil, Nat.zero_max] at hh
      exact ⟨y, h, r, rfl, ⟨gr, by rw [ht_node, hh]; exact Nat.le_succ _,
        by rw [ht_node, hh]; exact Nat.le_refl _⟩, rfl⟩
    · rw [if_neg hn]
      obtain ⟨m, hm, l', e, ⟨gl', c1, c2⟩, el⟩ := ihl gl hn
      obtain ⟨t2, hs, -, et, hb⟩ := shrink_spec (y0 := y) (h0 := h) l' r y h gl' gr b1 b2 c1
        (Nat.le_refl _) (by omega)
      rw [e]
      simp only [Option.bind_some, hs, Option.map_some]
      exact ⟨m, hm, t2, rfl, hb g, by rw [et, toList, el]; rfl⟩

theorem rem_spec (t : Tree) (k : Nat) (hk : k < t.size) (i : Inv t) :
    ∃ t', rem t k = some t' ∧ Inv t' ∧ t'.toList = t.toList.eraseIdx k ∧
      (Good t → Good t' ∧ t'.ht ≤ t.ht ∧ t.ht ≤ t'.ht + 1) := by
  induction t generalizing k with
  | nil => simp [size] at hk
  | node l y h r ihl ihr =>
    obtain ⟨gl, gr, b1, b2⟩ := i
    simp only [size] at hk
    simp only [rem, toList]
    by_cases h1 : k < l.size
    · rw [if_pos h1]
      obtain ⟨l', e, _, el, hg⟩ := ihl k h1 gl.toInv
      obtain ⟨gl', c1, c2⟩ := hg gl
      rw [e, List.eraseIdx_append_of_lt_length (by rw [← size_eq_length]; exact h1), ← el]
      exact shrink_spec l' r y h gl' gr b1 b2 c1 (Nat.le_refl _) (by omega)
    · rw [if_neg h1]
      by_cases h2 : k = l.size
      · rw [if_pos h2]
        subst h2
        rw [size_eq_length, erase_mid]
        by_cases hn : l.isNil = true
        · rw [if_pos hn]
          have := isNil_eq l hn; subst this
          refine ⟨r, rfl, gr.toInv, rfl, fun g => ⟨gr, ?_⟩⟩
          rw [ht_node, g.ht_eq, ht_nil, Nat.zero_max]
          exact ⟨Nat.le_succ _, Nat.le_refl _⟩
        · rw [if_neg hn]
          by_cases hn2 : r.isNil = true
          · rw [if_pos hn2]
            have := isNil_eq r hn2; subst this
            refine ⟨l, rfl, gl.toInv, by simp [toList], fun g => ⟨gl, ?_⟩⟩
            rw [ht_node, g.ht_eq, ht_nil, Nat.max_zero]
            exact ⟨Nat.le_succ _, Nat.le_refl _⟩
          · rw [if_neg hn2]
            obtain ⟨m, hm, r', e, ⟨gr', c1, c2⟩, er⟩ := remMin_spec r gr hn2
            rw [e, er]
            exact shrink_spec l r' m hm gl gr' b1 b2 (Nat.le_refl _) c1 (by omega)
      · rw [if_neg h2]
        obtain ⟨r', e, _, er, hg⟩ := ihr (k - l.size - 1) (by omega) gr.toInv
        obtain ⟨gr', c1, c2⟩ := hg gr
        rw [e, erase_right (by rw [← size_eq_length]; omega), ← size_eq_length, ← er]
        exact shrink_spec l r' y h gl gr' b1 b2 (Nat.le_refl _) c1 (by omega)

theorem first_spec (t : Tree) : first t = t.toList.head? := by
  induction t with
  | nil => rfl
  | node l x h r ihl _ =>
    simp only [first, toList, ihl]
    cases hl : l.toList <;> simp

theorem last_spec (t : Tree) : last t = t.toList.getLast? := by
  induction t with
  | nil => rfl
  | node l x h r _ ihr =>
    rw [last, toList, ihr, List.getLast?_append, List.getLast?_cons, Option.some_or]
    cases r.toList.getLast? <;> rfl

theorem nextIn_eq_head_drop (t : Tree) (k : Nat) : nextIn t k = (t.toList.drop (k + 1)).head? := by
  induction t generalizing k with
  | nil => rfl
  | node l y h r ihl ihr =>
    rw [nextIn, toList]
    by_cases h1 : k < l.size
    · rw [if_pos h1, ihl, List.drop_append_of_le_length (by rw [← size_eq_length]; exact h1),
        List.head?_append]
      cases (l.toList.drop (k + 1)).head? <;> rfl
    · rw [if_neg h1]
      by_cases h2 : k = l.size
      · rw [if_pos h2, first_spec, h2, size_eq_length, List.drop_length_add_append]; rfl
      · have e : k + 1 = l.toList.length + (k - l.size - 1 + 1 + 1) := by
          rw [← size_eq_length]; omega
        rw [if_neg h2, ihr, e, List.drop_length_add_append]; rfl

theorem prevIn_eq_getLast_take (t : Tree) (k : Nat) : prevIn t k = (t.toList.take k).getLast? := by
  induction t generalizing k with
  | nil => rw [toList, List.take_nil]; rfl
  | node l y h r ihl ihr =>
    rw [prevIn, toList]
    by_cases h1 : k < l.size
    · rw [if_pos h1, ihl,
        List.take_append_of_le_length (by rw [← size_eq_length]; exact Nat.le_of_lt h1)]
    · rw [if_neg h1]
      by_cases h2 : k = l.size
      · rw [if_pos h2, last_spec, h2, size_eq_length, List.take_left' rfl]
      · have e : k = l.toList.length + (k - l.size - 1 + 1) := by rw [← size_eq_length]; omega
        rw [if_neg h2, ihr]
        conv => rhs; rw [e, List.take_length_add_append, List.take_succ_cons,
          List.getLast?_append, List.getLast?_cons, Option.some_or]
        cases (r.toList.take (k - l.size - 1)).getLast? <;> rfl

theorem applyOp_spec (t : Tree) (op : Op) (i : Inv t) :
    ∃ t', applyOp t op = some t' ∧ Inv t' ∧ t'.toList = applySpec t.toList op := by
  cases op with
  | ins k x =>
    obtain ⟨t', e, it', el⟩ := insertAt_spec t (k % (t.size + 1)) x i
    exact ⟨t', e, it', by rw [el]; simp [applySpec, size_eq_length]⟩
  | del k =>
    simp only [applyOp, applySpec, ← size_eq_length]
    by_cases h0 : t.size = 0
    · simp only [h0, if_true]; exact ⟨t, rfl, i, rfl⟩
    · rw [if_neg h0, if_neg h0]
      obtain ⟨t', e, it', el, _⟩ := rem_spec t (k % t.size) (Nat.mod_lt _ (by omega)) i
      exact ⟨t', e, it', el⟩

theorem run_spec (ops : List Op) (t : Tree) (i : Inv t) :
    ∃ t', run t ops = some t' ∧ Inv t' ∧ t'.toList = runSpec t.toList ops := by
  induction ops generalizing t with
  | nil => exact ⟨t, rfl, i, rfl⟩
  | cons op ops ih =>
    obtain ⟨t1, e, i1, el⟩ := applyOp_spec t op i
    obtain ⟨t2, e2, i2, el2⟩ := ih t1 i1
    exact ⟨t2, by simp [run, e, e2], i2, by rw [el2, el]; rfl⟩

end Canvas.C01Avl
