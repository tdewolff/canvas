import CanvasModel.C18
/-! The error of `int(x/(2u) + 1/2)` with Go's truncating `int()`, by which the TJ adjustments and the W widths
are rounded; the TJ array of `WriteText` read back (§9.4.3). -/
namespace C18L
open Canvas.C18

/-- the error in units of `1/(2u)`; the remainder has the sign of the dividend, hence the two cases below -/
theorem round_err (x u : Int) : 2 * u * (x + u).tdiv (2 * u) - x = u - (x + u).tmod (2 * u) := by
  have := Int.mul_tdiv_add_tmod (x + u) (2 * u)
  omega

theorem round_err_nonneg (x u : Int) (hu : 0 < u) (h : 0 ≤ x + u) :
    -u < 2 * u * (x + u).tdiv (2 * u) - x ∧ 2 * u * (x + u).tdiv (2 * u) - x ≤ u := by
  have h2 := Int.tmod_nonneg (2 * u) h
  have h3 := Int.tmod_lt_of_pos (x + u) (show 0 < 2 * u by omega)
  rw [round_err]
  omega

theorem round_err_neg (x u : Int) (hu : 0 < u) (h : x + u < 0) :
    u ≤ 2 * u * (x + u).tdiv (2 * u) - x ∧ 2 * u * (x + u).tdiv (2 * u) - x < 3 * u := by
  have h2 : 0 ≤ (-(x + u)).tmod (2 * u) := Int.tmod_nonneg (2 * u) (by omega)
  have h3 := Int.tmod_lt_of_pos (-(x + u)) (show 0 < 2 * u by omega)
  rw [Int.neg_tmod] at h2 h3
  rw [round_err]
  omega

theorem tjAttach_snoc (p : List Nat) (c : Nat) (a : Int) :
    tjAttach (p ++ [c]) a = p.map (fun x => (x, (0 : Int))) ++ [(c, a)] := by
  induction p with
  | nil => rfl
  | cons x p ih =>
    cases p with
    | nil => rfl
    | cons y p => exact congrArg ((x, 0) :: ·) ih

theorem tjAttach_zero (p : List Nat) : tjAttach p 0 = p.map (fun x => (x, (0 : Int))) := by
  rcases List.eq_nil_or_concat p with rfl | ⟨q, c, rfl⟩
  · rfl
  · rw [List.concat_eq_append, tjAttach_snoc, List.map_append]
    rfl

theorem tjRead_go (upm : Int) (p : List Nat) (gs : List (Nat × Int)) :
    tjRead (tjGo upm p gs) = (0, p.map (fun x => (x, (0 : Int))) ++ gs.map (tjSpec upm)) := by
  induction gs generalizing p with
  | nil =>
    simp only [tjGo, tjRead, tjAttach_zero, List.map_nil, List.append_nil]
    split
    · next hp => rw [hp]; rfl
    · rfl
  | cons g gs ih =>
    obtain ⟨c, dx⟩ := g
    simp only [tjGo, tjSpec, List.map_cons]
    by_cases hdx : dx = 0
    · rw [if_neg (not_not_intro hdx), if_pos hdx, ih, List.map_append, List.append_assoc]
      rfl
    · rw [if_pos hdx, if_neg hdx]
      simp only [tjRead, ih, List.append_ne_nil_of_right_ne_nil p (List.cons_ne_nil c []), if_false,
        tjAttach_snoc, Int.add_zero, List.append_assoc]
      rfl

end C18L
