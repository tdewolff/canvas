import CanvasProofs.Lemmas.C06Edge

/-! Induction along the vertex chain. In path order the hits come in `Blocks`: the end hit of one segment
and the start hit of the next are adjacent and have the same position, so the stable sort keeps them
together (`Blocks.wp_isort`); and the weights add up to twice the specification's crossing sum plus a
telescoping term. With `go_weight`: `windings(RayIntersections)` = winding number. -/
namespace Canvas.C06
open Canvas.Wn

def offChain (p : IPt) : List IPt → Prop
  | a :: b :: rest => ¬ onSeg p a b ∧ offChain p (b :: rest)
  | _ => True

instance offChain.decidable (p : IPt) : ∀ l, Decidable (offChain p l)
  | [] | [_] => instDecidableTrue
  | _ :: b :: rest => @instDecidableAnd _ _ _ (offChain.decidable p (b :: rest))

theorem chainHits_cons (p a b : IPt) (rest : List IPt) :
    chainHits p (a :: b :: rest) = edgeHits p a b ++ chainHits p (b :: rest) := rfl

inductive Blocks : List Hit → Prop
  | nil : Blocks []
  | mid {g : Hit} {l : List Hit} (tb : g.tb = .mid) (h : Blocks l) : Blocks (g :: l)
  | pair {e s : Hit} {l : List Hit} (tbe : e.tb = .one) (tbs : s.tb = .zero) (x : s.x = e.x)
      (h : Blocks l) : Blocks (e :: s :: l)

theorem Blocks.append {l1 l2 : List Hit} (h1 : Blocks l1) (h2 : Blocks l2) : Blocks (l1 ++ l2) := by
  induction h1 with
  | nil => exact h2
  | mid tb _ ih => exact .mid tb ih
  | pair tbe tbs x _ ih => exact .pair tbe tbs x ih

theorem Blocks.wp_isort {l : List Hit} (h : Blocks l) : WP (isort l) = true := by
  induction h with
  | nil => rfl
  | mid tb _ ih => exact WP_ins_mid tb ih
  | pair tbe tbs x _ ih => exact WP_ins_pair (by simp [tbe]) (by simp [tbs]) x ih

theorem Blocks.head_ne_zero {l : List Hit} (h : Blocks l) (h0 : Hit) (t : List Hit)
    (heq : l = h0 :: t) : h0.tb ≠ .zero := by
  cases h with
  | nil => cases heq
  | mid tb _ => cases heq; simp [tb]
  | pair tbe _ _ _ => cases heq; simp [tbe]

/-- `l` holds the hits up to vertex `v`: whole blocks, then the end hit at `v`, waiting for the start
hit of the next segment, exactly when `v` lies on the ray -/
def Upto (p v : IPt) (l : List Hit) : Prop :=
  (fR p v = true →
    ∃ body e, l = body ++ [e] ∧ e.tb = .one ∧ e.x = (v.x : Rat) ∧ e.t0zero = false ∧ Blocks body) ∧
  (fR p v = false → Blocks l)

theorem upto_off {p v : IPt} (h : fR p v = false) {l : List Hit} (hb : Blocks l) : Upto p v l :=
  ⟨fun hh => absurd (h.symm.trans hh) Bool.false_ne_true, fun _ => hb⟩

theorem upto_on {p v : IPt} (h : fR p v = true) {body : List Hit} {e : Hit} (tb : e.tb = .one)
    (x : e.x = (v.x : Rat)) (t0 : e.t0zero = false) (hb : Blocks body) : Upto p v (body ++ [e]) :=
  ⟨fun _ => ⟨body, e, rfl, tb, x, t0, hb⟩, fun hh => absurd (hh.symm.trans h) Bool.false_ne_true⟩

theorem edge_upto (p a b : IPt) (hoff : ¬ onSeg p a b) (l : List Hit) (h : Upto p a l) :
    Upto p b (l ++ edgeHits p a b) := by
  by_cases hab : a = b
  · subst hab; rwa [edgeHits_self, List.append_nil]
  cases edge_cases p a b hab hoff with
  | none hh fa fb w =>
    rw [hh, List.append_nil]
    exact upto_off fb (h.2 fa)
  | mid g hh tb t0 sm fa fb w =>
    rw [hh]
    exact upto_off fb ((h.2 fa).append (.mid tb .nil))
  | start s hh tb x t0 sm fa fb w =>
    obtain ⟨body, e, rfl, he, hx, -, hb⟩ := h.1 fa
    rw [hh, List.append_assoc]
    exact upto_off fb (hb.append (.pair he tb (x.trans hx.symm) .nil))
  | fin e' hh tb x t0 sm fa fb w =>
    rw [hh]
    exact upto_on fb tb x t0 (h.2 fa)
  | horiz s e' hh tbs tbe xs xe t0s t0e sms sme fa fb w =>
    obtain ⟨body, e, rfl, he, hx, -, hb⟩ := h.1 fa
    rw [hh, show body ++ [e] ++ [s, e'] = body ++ [e, s] ++ [e'] by simp]
    exact upto_on fb tbe xe t0e (hb.append (.pair he tbs (xs.trans hx.symm) .nil))

theorem chain_upto (p : IPt) (rest : List IPt) : ∀ a l, offChain p (a :: rest) → Upto p a l →
    Upto p ((a :: rest).getLast (by simp)) (l ++ chainHits p (a :: rest)) := by
  induction rest with
  | nil => intro a l _ h; simpa [chainHits] using h
  | cons b rest ih =>
    intro a l hoff h
    rw [List.getLast_cons (by simp), chainHits_cons, ← List.append_assoc]
    exact ih b _ hoff.2 (edge_upto p a b hoff.1 l h)

/-- the same fact in the walk of `Crossings`: its pending register holds an end hit exactly at a vertex
on the ray -/
def PendOK (p a : IPt) (pe : Option Hit) : Prop :=
  (fR p a = true → ∃ e, pe = some e ∧ e.tb = .one ∧ e.t0zero = false) ∧ (fR p a = false → pe = none)

theorem pendOK_none {p v : IPt} (h : fR p v = false) : PendOK p v none :=
  ⟨fun hh => absurd (h.symm.trans hh) Bool.false_ne_true, fun _ => rfl⟩

theorem pendOK_some {p v : IPt} (h : fR p v = true) {e : Hit} (tb : e.tb = .one)
    (t0 : e.t0zero = false) : PendOK p v (some e) :=
  ⟨fun _ => ⟨e, rfl, tb, t0⟩, fun hh => absurd (hh.symm.trans h) Bool.false_ne_true⟩

theorem sums_single {g : Hit} (t0 : g.t0zero = false) (sm : g.same = false) {v : Int}
    (hw : weight g.z = v) :
    W ([g].map Hit.z) = v ∧ nsame ([g].map Hit.z) % 2 = 0 ∧ Clean ([g].map Hit.z) :=
  ⟨by simp [W, hw], by simp [nsame, Hit.z, sm], by simp [Clean, Hit.z, t0, sm]⟩

theorem edge_sums (p a b : IPt) (hoff : ¬ onSeg p a b) :
    W ((edgeHits p a b).map Hit.z) = 2 * edgeW p a b + fI p b - fI p a ∧
    nsame ((edgeHits p a b).map Hit.z) % 2 = 0 ∧ Clean ((edgeHits p a b).map Hit.z) := by
  by_cases hab : a = b
  · subst hab
    rw [edgeHits_self, edgeW_self]
    exact ⟨by simp [W], rfl, nofun⟩
  cases edge_cases p a b hab hoff with
  | none h fa fb w =>
    rw [h]
    exact ⟨by simp [W, fI, fa, fb, w], rfl, nofun⟩
  | mid g h tb t0 sm fa fb w | start g h tb x t0 sm fa fb w | fin g h tb x t0 sm fa fb w =>
    rw [h]
    exact sums_single t0 sm (by simp [weight_hit, sm, tb, w, fI, fa, fb])
  | horiz s e h tbs tbe xs xe t0s t0e sms sme fa fb w =>
    rw [h]
    refine ⟨?_, by simp [nsame, Hit.z, sms, sme], by simp [Clean, Hit.z, t0s, t0e, tbs, tbe]⟩
    simp [W, weight_hit, sms, sme, fI, fa, fb, w]

theorem chain_sums (p : IPt) (rest : List IPt) : ∀ a, offChain p (a :: rest) →
    W ((chainHits p (a :: rest)).map Hit.z) =
      2 * chainW p (a :: rest) + fI p ((a :: rest).getLast (by simp)) - fI p a ∧
    nsame ((chainHits p (a :: rest)).map Hit.z) % 2 = 0 ∧
    Clean ((chainHits p (a :: rest)).map Hit.z) := by
  induction rest with
  | nil => intro a _; exact ⟨by simp [chainHits, W, chainW], rfl, nofun⟩
  | cons b rest ih =>
    intro a hoff
    obtain ⟨e1, e2, e3⟩ := edge_sums p a b hoff.1
    obtain ⟨i1, i2, i3⟩ := ih b hoff.2
    rw [List.getLast_cons (by simp), chainHits_cons, List.map_append, W_append, nsame_append, chainW,
      e1, i1, Nat.add_mod, e2, i2]
    exact ⟨by omega, rfl, fun z hz => (List.mem_append.mp hz).elim (e3 z) (i3 z)⟩

end Canvas.C06
