import CanvasProofs.Lemmas.C16Tiles
/-!
reorderSpans (every run of spans at a level or deeper is mirrored within its own
extent, for every level that starts at a span) re-tiles the interval of the line for ALL embedding
levels. Model: `extent`, `mir`, `mirror`, `fixGo`, `reorder` in CanvasModel/C16.lean.

A run is laid out monotonically all the way: left to right (`Contig`) or right to left (`Contig` of
the reversed list). Its extent is then the interval it fills, and mirroring within the extent flips the direction.
-/
namespace Canvas.C16.Fix
open Canvas.C16

abbrev S := Span Int

def Mono (a : Int) (l : List S) : Prop := (Contig a l ∨ Contig a l.reverse) ∧ ∀ t ∈ l, 0 ≤ t.w

theorem sumw_reverse (l : List S) : sumw l.reverse = sumw l := sumw_perm (List.reverse_perm l)

theorem mono_tiles {a : Int} {l : List S} (h : Mono a l) : Tiles a l :=
  h.1.elim (fun h => ⟨l, List.Perm.refl _, h⟩) (fun h => ⟨l.reverse, List.reverse_perm l, h⟩)

def widen (lh : Int × Int) (t : S) : Int × Int :=
  (if t.x < lh.1 then t.x else lh.1, if lh.2 < t.x + t.w then t.x + t.w else lh.2)

theorem extent_eq_foldl (s : S) (r : List S) : extent s r = r.foldl widen (s.x, s.x + s.w) := rfl

theorem extent_fold_contig (r : List S) : ∀ lo hi : Int, lo ≤ hi → Contig hi r → (∀ t ∈ r, 0 ≤ t.w) →
    r.foldl widen (lo, hi) = (lo, hi + sumw r) := by
  induction r with
  | nil => intro lo hi _ _ _; simp [sumw]
  | cons t r ih =>
    intro lo hi hle ⟨hx, hr⟩ hw
    obtain ⟨ht, hw⟩ := List.forall_mem_cons.mp hw
    have e1 : (if t.x < lo then t.x else lo) = lo := if_neg (by omega)
    have e2 : (if hi < t.x + t.w then t.x + t.w else hi) = hi + t.w := by split <;> omega
    simp only [List.foldl_cons, widen, e1, e2, sumw_cons]
    rw [ih lo (hi + t.w) (by omega) hr hw, Int.add_assoc]

theorem extent_fold_rev (r : List S) : ∀ lo hi c : Int, lo ≤ hi → Contig c r.reverse → lo = c + sumw r → (∀ t ∈ r, 0 ≤ t.w) →
    r.foldl widen (lo, hi) = (c, hi) := by
  induction r with
  | nil => intro lo hi c _ _ hs _; simpa [sumw] using hs
  | cons t r ih =>
    intro lo hi c hle hc hs hw
    obtain ⟨ht, hw⟩ := List.forall_mem_cons.mp hw
    rw [List.reverse_cons, contig_append, sumw_reverse] at hc
    obtain ⟨hr, hx, -⟩ := hc
    rw [sumw_cons] at hs
    have e1 : (if t.x < lo then t.x else lo) = t.x := by split <;> omega
    have e2 : (if hi < t.x + t.w then t.x + t.w else hi) = hi := if_neg (by omega)
    simp only [List.foldl_cons, widen, e1, e2]
    exact ih t.x hi c (by omega) hr hx hw

theorem extent_mono {a : Int} {s : S} {r : List S} (h : Mono a (s :: r)) :
    extent s r = (a, a + sumw (s :: r)) := by
  obtain ⟨hs, hw⟩ := List.forall_mem_cons.mp h.2
  rcases h.1 with ⟨hx, hr⟩ | h
  · rw [extent_eq_foldl, hx, extent_fold_contig r a (a + s.w) (by omega) hr hw, sumw_cons, Int.add_assoc]
  · rw [List.reverse_cons, contig_append, sumw_reverse] at h
    obtain ⟨hr, hx, -⟩ := h
    rw [extent_eq_foldl, extent_fold_rev r s.x _ a (by omega) hr hx hw, hx, sumw_cons, Int.add_assoc, Int.add_comm s.w]

theorem sumw_map_mir (lo hi : Int) (l : List S) : sumw (l.map (mir lo hi)) = sumw l :=
  congrArg List.sum (List.map_map ..)

/-- mirroring within `[lo, hi]` flips the direction: the image starts at `c'`, as far from `lo` as the run from
`c` ends before `hi` -/
theorem contig_mir (lo hi : Int) {l : List S} : ∀ c c', c + sumw l + c' = lo + hi → Contig c l →
    Contig c' (l.map (mir lo hi)).reverse := by
  induction l with
  | nil => exact fun _ _ _ _ => trivial
  | cons t r ih =>
    intro c c' e ⟨hx, hr⟩
    rw [sumw_cons, ← Int.add_assoc] at e
    rw [List.map_cons, List.reverse_cons, contig_append, sumw_reverse, sumw_map_mir]
    exact ⟨ih (c + t.w) c' e hr, by simp only [mir]; omega, trivial⟩

theorem mirror_sumw (l : List S) : sumw (mirror l) = sumw l :=
  congrArg List.sum (mirror_map _ (fun _ _ _ => rfl) l)

theorem mirror_w {l : List S} (hw : ∀ t ∈ l, 0 ≤ t.w) : ∀ t ∈ mirror l, 0 ≤ t.w := by
  intro t ht
  have : t.w ∈ (mirror l).map (fun t : S => t.w) := List.mem_map_of_mem ht
  rw [mirror_map _ (fun _ _ _ => rfl)] at this
  obtain ⟨u, hu, e⟩ := List.mem_map.mp this
  exact e ▸ hw u hu

theorem mirror_mono {a : Int} {l : List S} (h : Mono a l) : Mono a (mirror l) := by
  refine ⟨?_, mirror_w h.2⟩
  unfold mirror
  split
  · exact h.1
  · exact h.1
  · rename_i s t r
    rw [extent_mono h]
    simp only []
    rcases h.1 with h | h
    · exact Or.inr (contig_mir a _ a a (by omega) h)
    · left
      have := contig_mir a (a + sumw (s :: t :: r)) a a (by rw [sumw_reverse]; omega) h
      rwa [List.map_reverse, List.reverse_reverse] at this

theorem fixGo_sumw (fuel prev : Nat) (l : List S) : sumw (fixGo fuel prev l) = sumw l :=
  congrArg List.sum (fixGo_map _ (fun _ _ _ => rfl) fuel prev l)

/-- a monotone list cut in two: whichever part lies first on the line, tilings of the parts that keep
their total widths make a tiling of the whole -/
theorem tiles_split {a : Int} {x y x' y' : List S} (h : Mono a (x ++ y))
    (hx : ∀ c, Mono c x → Tiles c x') (hy : ∀ c, Mono c y → Tiles c y')
    (sx : sumw x' = sumw x) (sy : sumw y' = sumw y) : Tiles a (x' ++ y') := by
  obtain ⟨wx, wy⟩ := List.forall_mem_append.mp h.2
  rcases h.1 with h | h
  · obtain ⟨h1, h2⟩ := (contig_append ..).mp h
    exact tiles_append (hx a ⟨Or.inl h1, wx⟩) (sx ▸ hy _ ⟨Or.inl h2, wy⟩)
  · rw [List.reverse_append] at h
    obtain ⟨h1, h2⟩ := (contig_append ..).mp h
    rw [sumw_reverse] at h2
    exact tiles_append_swap (hy a ⟨Or.inr h1, wy⟩) (sy ▸ hx _ ⟨Or.inr h2, wx⟩)

theorem fixGo_tiles (fuel prev : Nat) (l : List S) : ∀ a : Int, Mono a l → Tiles a (fixGo fuel prev l) := by
  fun_induction fixGo fuel prev l with
  | case1 prev l => exact fun a h => mono_tiles h
  | case2 => exact fun a h => mono_tiles h
  | case3 fuel prev s rest _ inRun tail ih1 ih2 =>
    intro a h
    have hsplit : s :: rest = (s :: inRun) ++ tail :=
      congrArg (s :: ·) (takeWhile_append_drop (fun t : S => decide (prev + 1 ≤ t.level)) rest).symm
    rw [hsplit] at h
    exact tiles_split h (fun c hc => ih1 c (mirror_mono hc)) ih2 (by rw [fixGo_sumw, mirror_sumw]) (fixGo_sumw ..)
  | case4 fuel prev s rest _ ih =>
    exact fun a h => tiles_split (x := [s]) h (fun c hc => mono_tiles hc) ih rfl (fixGo_sumw ..)

/-- the three inputs on which the unrepaired code overlaps / misorders -/
example : (reorder [(⟨2, 0, 3⟩ : S), ⟨2, 3, 4⟩, ⟨1, 7, 5⟩]).map (·.x) = [5, 8, 0] := by decide
example : (reorder [(⟨1, 0, 1⟩ : S), ⟨2, 1, 1⟩, ⟨3, 2, 1⟩, ⟨3, 3, 1⟩, ⟨2, 4, 1⟩, ⟨1, 5, 1⟩]).map (·.x) = [5, 1, 3, 2, 4, 0] := by decide
example : (reorder [(⟨0, 0, 1⟩ : S), ⟨2, 1, 2⟩, ⟨1, 3, 1⟩, ⟨0, 4, 1⟩]).map (·.x) = [0, 2, 1, 4] := by decide

end Canvas.C16.Fix
