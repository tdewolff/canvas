import CanvasProofs.Lemmas.C08
import CanvasProofs.Lemmas.C08Angle
import Mathlib.Analysis.Real.Sqrt

/-! # C08 — the hypotheses of the theorems are satisfiable: the real numbers with `Real.sqrt`,
`Epsilon = 0` and floor-based `math.Mod` (non-vacuity only; nothing else is proved here).
`Env.pi` is 3 and `sin`, `cos` are the constants 0, 1: the theorems assume only `0 < π` and
`cos² + sin² = 1`. -/
namespace C08
open Canvas Canvas.C08

@[instance_reducible] noncomputable def envR : Env ℝ :=
  ⟨0, 0, 3, Real.sqrt, fun _ => 0, fun _ => 1, fun _ _ => 0, id, fun _ _ => 0, id, id, fun _ _ => 0, fun _ => false⟩
@[instance_reducible] noncomputable def arcR : ArcFns ℝ := ⟨fun x y => x - ⌊x / y⌋ * y⟩

attribute [local instance] envR arcR

theorem envR_eps : (Env.epsilon : ℝ) = 0 := rfl
theorem envR_sqrt : ∀ x : ℝ, 0 ≤ x → Env.sqrt x * Env.sqrt x = x := fun _ hx => Real.mul_self_sqrt hx
theorem envR_sqrt' : ∀ x : ℝ, 0 ≤ x → Env.sqrt x * Env.sqrt x = x ∧ 0 ≤ Env.sqrt x :=
  fun x hx => ⟨Real.mul_self_sqrt hx, Real.sqrt_nonneg x⟩
theorem envR_pi : 0 < (Env.pi : ℝ) := by show (0 : ℝ) < 3; norm_num

theorem fmodSpecR : FmodSpec ℝ := by
  intro x y hy
  show |x - ⌊x / y⌋ * y| < y ∧ ∃ k : ℤ, x = x - ⌊x / y⌋ * y + k * y
  refine ⟨?_, ⌊x / y⌋, by ring⟩
  have h1 : (⌊x / y⌋ : ℝ) ≤ x / y := Int.floor_le _
  have h2 : x / y < ⌊x / y⌋ + 1 := Int.lt_floor_add_one _
  rw [le_div_iff₀ hy] at h1
  rw [div_lt_iff₀ hy] at h2
  rw [abs_lt]; constructor <;> nlinarith

end C08
