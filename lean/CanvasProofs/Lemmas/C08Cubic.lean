import CanvasProofs.Lemmas.C08
import Mathlib.Tactic.FieldSimp

/-! # C08 — Bounds contains quadratics and cubics exactly (Epsilon = 0)

No calculus: over an arbitrary ordered field a coordinate `f` of degree ≤ 3 and a third of its
derivative `g` satisfy Simpson's identity `f t − f s = (t−s)/2 · (g s + 4 g((s+t)/2) + g t)`, so `f` is
monotone wherever `g` keeps one sign. The code evaluates `f` at every point of (0,1) at which `g` can
change sign (the stationary parameter of a quadratic, the values `solveQuadratic` returns for a cubic),
hence every `t ∈ [0,1]` sits between two consecutive candidates (end points or such points) on a
stretch where `f` is monotone. -/
set_option linter.unusedSectionVars false
namespace C08
open Canvas Canvas.C08 GenK
variable {K : Type} [Field K] [LinearOrder K] [IsStrictOrderedRing K] [Env K] [ArcFns K]

/-- `g` keeps one sign on `[p,q]` -/
def SC (g : K → K) (p q : K) : Prop :=
  (∀ u, p ≤ u → u ≤ q → 0 ≤ g u) ∨ (∀ u, p ≤ u → u ≤ q → g u ≤ 0)

theorem SC.congr {g h : K → K} {p q : K} (s : SC g p q) (e : ∀ u, h u = g u) : SC h p q := by
  rw [funext e]; exact s

theorem SC.mul {g h : K → K} {p q : K} (sg : SC g p q) (sh : SC h p q) : SC (fun u => g u * h u) p q := by
  rcases sg with sg | sg <;> rcases sh with sh | sh
  · exact Or.inl fun u hp hq => mul_nonneg (sg u hp hq) (sh u hp hq)
  · exact Or.inr fun u hp hq => mul_nonpos_of_nonneg_of_nonpos (sg u hp hq) (sh u hp hq)
  · exact Or.inr fun u hp hq => mul_nonpos_of_nonpos_of_nonneg (sg u hp hq) (sh u hp hq)
  · exact Or.inl fun u hp hq => mul_nonneg_of_nonpos_of_nonpos (sg u hp hq) (sh u hp hq)

theorem sc_const (k p q : K) : SC (fun _ => k) p q :=
  (le_total 0 k).imp (fun h _ _ _ => h) (fun h _ _ _ => h)

theorem sc_lin (r p q : K) (h : r ≤ p ∨ q ≤ r) : SC (fun u => u - r) p q :=
  h.imp (fun h u hp _ => by linarith) (fun h u _ hq => by linarith)

theorem sc_one {g : K → K} (k : K) {r p q : K} (hg : ∀ u, g u = k * (u - r)) (h : r ≤ p ∨ q ≤ r) : SC g p q :=
  ((sc_const k p q).mul (sc_lin r p q h)).congr hg

/-- Simpson's rule, exact for `f` of degree ≤ 3 and `g = f'/3` -/
def Simpson (f g : K → K) : Prop := ∀ s t, f t - f s = (t - s) / 2 * (g s + 4 * g ((s + t) / 2) + g t)

theorem qb_simpson (a0 a1 a2 : K) :
    Simpson (qb a0 a1 a2) (fun u => 2 / 3 * (a0 - 2 * a1 + a2) * u + 2 / 3 * (a1 - a0)) := by
  intro s t; unfold qb; ring

theorem cb_simpson (a0 a1 a2 a3 : K) : Simpson (cb a0 a1 a2 a3)
    (fun u => (-a0 + 3 * a1 - 3 * a2 + a3) * u * u + (2 * a0 - 4 * a1 + 2 * a2) * u + (-a0 + a1)) := by
  intro s t; unfold cb; ring

theorem Simpson.mono {f g : K → K} (hS : Simpson f g) {p t : K} (hpt : p ≤ t)
    (hg : ∀ u, p ≤ u → u ≤ t → 0 ≤ g u) : f p ≤ f t := by
  have m : p ≤ (p + t) / 2 ∧ (p + t) / 2 ≤ t := ⟨by linarith, by linarith⟩
  rw [← sub_nonneg, hS p t]
  exact mul_nonneg (by linarith) (add_nonneg (add_nonneg (hg p (le_refl _) hpt) (mul_nonneg zero_le_four (hg _ m.1 m.2)))
    (hg t hpt (le_refl _)))

theorem Simpson.neg {f g : K → K} (hS : Simpson f g) : Simpson (fun u => -f u) (fun u => -g u) :=
  fun s t => by linear_combination -hS s t

theorem between_of_sc {f g : K → K} (hS : Simpson f g) {p q t : K} (hpt : p ≤ t) (htq : t ≤ q) (sc : SC g p q) :
    (f p ≤ f t ∧ f t ≤ f q) ∨ (f q ≤ f t ∧ f t ≤ f p) := by
  rcases sc with s | s
  · exact Or.inl ⟨hS.mono hpt fun u h1 h2 => s u h1 (h2.trans htq), hS.mono htq fun u h1 h2 => s u (hpt.trans h1) h2⟩
  · exact Or.inr ⟨neg_le_neg_iff.1 (hS.neg.mono htq fun u h1 h2 => neg_nonneg.2 (s u (hpt.trans h1) h2)),
      neg_le_neg_iff.1 (hS.neg.mono hpt fun u h1 h2 => neg_nonneg.2 (s u h1 (h2.trans htq)))⟩

/-- shrink `[p,q] ∋ t` so that `r` is not in its interior; a new end point is `r` itself, so what holds
of `p`, `q` and (if it lies strictly between them) of `r` holds of the new end points -/
theorem refine_interval (P : K → Prop) {p q : K} (r : K) {t : K} (hpt : p ≤ t) (htq : t ≤ q) (hp : P p) (hq : P q)
    (hr : p < r → r < q → P r) :
    ∃ p' q', p ≤ p' ∧ p' ≤ t ∧ t ≤ q' ∧ q' ≤ q ∧ (r ≤ p' ∨ q' ≤ r) ∧ P p' ∧ P q' := by
  by_cases h : p < r ∧ r < q
  · rcases le_total r t with h' | h'
    · exact ⟨r, q, h.1.le, h', htq, le_refl _, Or.inl (le_refl _), hr h.1 h.2, hq⟩
    · exact ⟨p, r, le_refl _, hpt, h', h.2.le, Or.inr (le_refl _), hp, hr h.1 h.2⟩
  · refine ⟨p, q, le_refl _, hpt, htq, le_refl _, ?_, hp, hq⟩
    rw [not_and_or, not_lt, not_lt] at h; exact h

theorem candidates_box {f g : K → K} (hS : Simpson f g) {L H : K} (lo hi e : K) (h0 : lo ≤ f 0 ∧ f 0 ≤ hi) (h1 : f 1 = e)
    (hm : L ≤ min lo e ∧ max hi e ≤ H) (r1 r2 : K)
    (hSC : ∀ p q, p ≤ q → (r1 ≤ p ∨ q ≤ r1) → (r2 ≤ p ∨ q ≤ r2) → SC g p q)
    (hr1 : 0 < r1 → r1 < 1 → L ≤ f r1 ∧ f r1 ≤ H) (hr2 : 0 < r2 → r2 < 1 → L ≤ f r2 ∧ f r2 ≤ H)
    (t : K) (t0 : 0 ≤ t) (t1 : t ≤ 1) : L ≤ f t ∧ f t ≤ H := by
  have f0 : L ≤ f 0 ∧ f 0 ≤ H := ⟨(hm.1.trans (min_le_left _ _)).trans h0.1, h0.2.trans ((le_max_left _ _).trans hm.2)⟩
  have f1 : L ≤ f 1 ∧ f 1 ≤ H := h1 ▸ ⟨hm.1.trans (min_le_right _ _), (le_max_right _ _).trans hm.2⟩
  obtain ⟨p1, q1, a1, a2, a3, a4, a5, fp1, fq1⟩ :=
    refine_interval (fun x => L ≤ f x ∧ f x ≤ H) r1 t0 t1 f0 f1 hr1
  obtain ⟨p2, q2, b1, b2, b3, b4, b5, fp2, fq2⟩ :=
    refine_interval (fun x => L ≤ f x ∧ f x ≤ H) r2 a2 a3 fp1 fq1
      fun l u => hr2 (lt_of_le_of_lt a1 l) (lt_of_lt_of_le u a4)
  have r1out : r1 ≤ p2 ∨ q2 ≤ r1 := a5.imp (fun h => h.trans b1) (fun h => b4.trans h)
  rcases between_of_sc hS b2 b3 (hSC p2 q2 (b2.trans b3) r1out b5) with ⟨x, y⟩ | ⟨x, y⟩
  · exact ⟨fp2.1.trans x, y.trans fq2.2⟩
  · exact ⟨fq2.1.trans x, y.trans fp2.2⟩

theorem quadAxis_contains (hε : (Env.epsilon : K) = 0) (a0 a1 a2 lo hi t : K) (hlo : lo ≤ a0) (hhi : a0 ≤ hi)
    (t0 : 0 ≤ t) (t1 : t ≤ 1) :
    (quadAxis a0 a1 a2 (qb a0 a1 a2) lo hi).1 ≤ qb a0 a1 a2 t ∧ qb a0 a1 a2 t ≤ (quadAxis a0 a1 a2 (qb a0 a1 a2) lo hi).2 := by
  -- `candidates_box` with both candidates equal to `r`
  have box := fun r hSC hr => candidates_box (qb_simpson a0 a1 a2) lo hi a2 (by rw [qb_zero]; exact ⟨hlo, hhi⟩)
    (qb_one a0 a1 a2) (quadAxis_grown a0 a1 a2 (qb a0 a1 a2) lo hi).mono r r hSC hr hr t t0 t1
  by_cases hd : a0 - 2 * a1 + a2 = 0
  · -- no second difference: the derivative is constant
    exact box 0 (fun p q _ _ _ => (sc_const (2 / 3 * (a1 - a0)) p q).congr fun u => by rw [hd]; ring)
      fun h => absurd h (lt_irrefl _)
  · have hne : GenK.Equal (a0 - 2 * a1 + a2) 0 = false := by
      rw [Bool.eq_false_iff]; exact fun h => hd ((equal_iff_eq hε _ 0).1 h)
    refine box ((a0 - a1) / (a0 - 2 * a1 + a2))
      (fun p q _ h _ => sc_one (2 / 3 * (a0 - 2 * a1 + a2))
        (fun u => by linear_combination (2 / 3 : K) * div_mul_cancel₀ (a0 - a1) hd) h) fun r0 r1 => ?_
    have hit := cand_hit (qb a0 a1 a2) _ (min lo a2, max hi a2) ((ivx01_zero hε _).2 ⟨r0, r1⟩)
    simpa only [quadAxis, ops_equal, ops_mn, ops_mx, hne, Bool.not_false, if_true] using hit

/-- for `quad_extremum`; the first conjunct is a coordinate of `quadraticBezierDeriv` at `t*` -/
theorem qb_extremum (a0 a1 a2 t : K) (h : a0 - 2 * a1 + a2 ≠ 0) :
    (-2 + 2 * ((a0 - a1) / (a0 - 2 * a1 + a2))) * a0 + (2 - 4 * ((a0 - a1) / (a0 - 2 * a1 + a2))) * a1
      + 2 * ((a0 - a1) / (a0 - 2 * a1 + a2)) * a2 = 0 ∧
    qb a0 a1 a2 t - qb a0 a1 a2 ((a0 - a1) / (a0 - 2 * a1 + a2))
      = (a0 - 2 * a1 + a2) * (t - (a0 - a1) / (a0 - 2 * a1 + a2)) ^ 2 := by
  have e : (a0 - a1) / (a0 - 2 * a1 + a2) * (a0 - 2 * a1 + a2) = a0 - a1 := div_mul_cancel₀ _ h
  generalize (a0 - a1) / (a0 - 2 * a1 + a2) = ts at e ⊢
  unfold qb
  exact ⟨by linear_combination 2 * e, by linear_combination 2 * (t - ts) * e⟩

theorem solveQuadratic_eq (hε : (Env.epsilon : K) = 0) (a b c : K) : solveQuadratic a b c =
    if a = 0 then
      if b = 0 then (if c = 0 then (some 0, none) else (none, none)) else (some (-c / b), none)
    else if c = 0 then
      if b = 0 then (some 0, none) else (some 0, some (-b / a))
    else if b * b - 4 * a * c < 0 then (none, none)
    else if b * b - 4 * a * c = 0 then (some (-b / (2 * a)), none)
    else
      let q := if b < 0 then -Env.sqrt (b * b - 4 * a * c) else Env.sqrt (b * b - 4 * a * c)
      let x1 := -(b + q) / (2 * a)
      let x2 := c / (a * x1)
      if x2 < x1 then (some x2, some x1) else (some x1, some x2) := by
  simp only [solveQuadratic, ops_equal, ops_sqrt, equal_iff_eq hε]

/-- What `Bounds` needs of the pair `sol` that `solveQuadratic` returns for `g(u) = a u² + b u + c`: there
are two points `r1 r2` such that `g` keeps one sign on every interval avoiding both in its interior; each
of them that lies in (0,1) is among the returned values; and every returned value is a root of `g`. -/
def QuadSpec (a b c : K) (sol : Option K × Option K) : Prop :=
  ∃ r1 r2 : K,
    (∀ p q, p ≤ q → (r1 ≤ p ∨ q ≤ r1) → (r2 ≤ p ∨ q ≤ r2) → SC (fun u => a * u * u + b * u + c) p q) ∧
    (∀ r, (r = r1 ∨ r = r2) → 0 < r → r < 1 → (sol.1 = some r ∨ sol.2 = some r)) ∧
    (∀ t, (sol.1 = some t ∨ sol.2 = some t) → a * t * t + b * t + c = 0)

theorem QuadSpec.of_sign {a b c : K} {sol : Option K × Option K}
    (hs : ∀ p q, SC (fun u => a * u * u + b * u + c) p q)
    (hroot : ∀ t, (sol.1 = some t ∨ sol.2 = some t) → a * t * t + b * t + c = 0) : QuadSpec a b c sol :=
  ⟨0, 0, fun p q _ _ _ => hs p q,
    fun r hr h0 _ => absurd h0 (by rcases hr with e | e <;> rw [e] <;> exact lt_irrefl _), hroot⟩

/-- Vieta: `g(u) = a (u − r1)(u − r2)`, and the returned values are exactly `r1` and `r2` -/
theorem QuadSpec.of_roots {a b c : K} {sol : Option K × Option K} (r1 r2 : K)
    (hsum : a * (r1 + r2) = -b) (hprod : a * r1 * r2 = c)
    (hmem : ∀ t, (sol.1 = some t ∨ sol.2 = some t) ↔ (t = r1 ∨ t = r2)) : QuadSpec a b c sol := by
  have hg : ∀ u, a * u * u + b * u + c = a * ((u - r1) * (u - r2)) := fun u => by
    linear_combination u * hsum - hprod
  refine ⟨r1, r2, fun p q _ h1 h2 => ((sc_const a p q).mul ((sc_lin r1 p q h1).mul (sc_lin r2 p q h2))).congr hg,
    fun r hr _ _ => (hmem r).2 hr, fun t ht => ?_⟩
  rcases (hmem t).1 ht with e | e <;> rw [hg, e, sub_self] <;> ring

theorem solveQuadratic_spec (hε : (Env.epsilon : K) = 0)
    (hs : ∀ x : K, 0 ≤ x → Env.sqrt x * Env.sqrt x = x) (a b c : K) : QuadSpec a b c (solveQuadratic a b c) := by
  rw [solveQuadratic_eq hε]
  by_cases ha : a = 0
  · rw [if_pos ha]
    by_cases hb : b = 0
    · rw [if_pos hb]
      refine .of_sign (fun p q => (sc_const c p q).congr fun u => by rw [ha, hb]; ring) fun t ht => ?_
      split at ht
      · rename_i hc; rw [ha, hb, hc]; ring
      · simp at ht
    · rw [if_neg hb]
      have e : b * (-c / b) = -c := mul_div_cancel₀ _ hb
      refine ⟨-c / b, -c / b, fun p q _ h1 _ => sc_one b (fun u => by rw [ha]; linear_combination e) h1,
        fun r hr _ _ => Or.inl (congrArg some (hr.elim id id).symm), fun t ht => ?_⟩
      simp only [Option.some.injEq, reduceCtorEq, or_false] at ht
      rw [← ht, ha]; linear_combination e
  · rw [if_neg ha]
    by_cases hc : c = 0
    · rw [if_pos hc]
      by_cases hb : b = 0
      · rw [if_pos hb]
        exact .of_roots 0 0 (by rw [hb]; ring) (by rw [hc]; ring) fun t => by simp [eq_comm]
      · rw [if_neg hb]
        exact .of_roots 0 (-b / a) (by rw [zero_add]; exact mul_div_cancel₀ _ ha) (by rw [hc]; ring)
          fun t => by simp [eq_comm]
    · rw [if_neg hc]
      by_cases hd : b * b - 4 * a * c < 0
      · -- no real root: 4a·g(u) = (2au+b)² − disc > 0, so `g` has the sign of `a`
        rw [if_pos hd]
        have ag : ∀ u, 0 < a * (a * u * u + b * u + c) := fun u => by
          linarith [mul_self_nonneg (2 * a * u + b)]
        refine .of_sign (fun p q => ?_) fun t ht => by simp at ht
        rcases lt_or_gt_of_ne ha with an | ap
        · exact Or.inr fun u _ _ => (neg_of_mul_pos_right (ag u) an.le).le
        · exact Or.inl fun u _ _ => ((mul_pos_iff_of_pos_left ap).1 (ag u)).le
      · rw [if_neg hd]
        by_cases hz : b * b - 4 * a * c = 0
        · rw [if_pos hz]
          have e : a * (-b / (2 * a)) = -b / 2 := by field_simp
          exact .of_roots (-b / (2 * a)) (-b / (2 * a)) (by linear_combination 2 * e)
            (by rw [e]; field_simp; linear_combination hz) fun t => by simp [eq_comm]
        · simp only [if_neg hz]
          have hq := hs _ (not_lt.1 hd)
          generalize hqq : (if b < 0 then -Env.sqrt (b * b - 4 * a * c) else Env.sqrt (b * b - 4 * a * c)) = q
          have hq2 : q * q = b * b - 4 * a * c := by
            rw [← hqq]
            split
            · rw [neg_mul_neg, hq]
            · exact hq
          generalize hx1 : -(b + q) / (2 * a) = x1
          have r1 : a * x1 * x1 + b * x1 + c = 0 := by
            rw [← hx1]; field_simp; linear_combination hq2
          have x1ne : x1 ≠ 0 := by
            intro e; rw [e] at r1; simp at r1; exact hc r1
          refine .of_roots x1 (c / (a * x1)) (by field_simp; linear_combination r1) (by field_simp) fun t => ?_
          -- both roots are returned, the smaller first
          split
          · simp [eq_comm, or_comm]
          · simp [eq_comm]

theorem cand2_hit (val : K → K) {t1 t2 : Option K} (lh : K × K) {r : K} (hr : t1 = some r ∨ t2 = some r)
    (h : GenK.IntervalExclusive r 0 1 = true) :
    (cand val t2 (cand val t1 lh)).1 ≤ val r ∧ val r ≤ (cand val t2 (cand val t1 lh)).2 := by
  rcases hr with e | e <;> rw [e]
  · have h1 := cand_hit val r lh h
    have h2 := cand_mono val t2 (cand val (some r) lh)
    exact ⟨h2.1.trans h1.1, h1.2.trans h2.2⟩
  · exact cand_hit val r _ h

theorem cubeAxis_contains (hε : (Env.epsilon : K) = 0) (hs : ∀ x : K, 0 ≤ x → Env.sqrt x * Env.sqrt x = x)
    (a0 a1 a2 a3 lo hi t : K) (hlo : lo ≤ a0) (hhi : a0 ≤ hi) (t0 : 0 ≤ t) (t1 : t ≤ 1) :
    (cubeAxis a0 a1 a2 a3 (cb a0 a1 a2 a3) lo hi).1 ≤ cb a0 a1 a2 a3 t ∧
    cb a0 a1 a2 a3 t ≤ (cubeAxis a0 a1 a2 a3 (cb a0 a1 a2 a3) lo hi).2 := by
  obtain ⟨r1, r2, hSC, hret, _⟩ := solveQuadratic_spec hε hs (-a0 + 3 * a1 - 3 * a2 + a3) (2 * a0 - 4 * a1 + 2 * a2) (-a0 + a1)
  have hit := fun r hr (h0 : 0 < r) (h1 : r < 1) => cand2_hit (cb a0 a1 a2 a3) (min lo a3, max hi a3)
    (hret r hr h0 h1) ((ivx01_zero hε r).2 ⟨h0, h1⟩)
  exact candidates_box (cb_simpson a0 a1 a2 a3) lo hi a3 (by rw [cb_zero]; exact ⟨hlo, hhi⟩) (cb_one a0 a1 a2 a3)
    (cubeAxis_grown a0 a1 a2 a3 (cb a0 a1 a2 a3) lo hi).mono r1 r2 hSC (hit r1 (Or.inl rfl)) (hit r2 (Or.inr rfl)) t t0 t1

/-- what `Bounds` needs to contain the segment of `c` exactly: no arc, and an exact square root where
`c` is a cubic -/
def BoundsOk (c : Cmd K) : Prop :=
  c.isArc = false ∧ (c.isCube = true → ∀ x : K, 0 ≤ x → Env.sqrt x * Env.sqrt x = x)

theorem boundsStep_seg (hε : (Env.epsilon : K) = 0) (sw : Bool) (s : St K) (c : Cmd K) (q : Pt K) (ok : BoundsOk c)
    (hs : StIn s s.start) (h : OnSeg s.start c q) : StIn (boundsStepG sw s c) q := by
  cases c with
  | M p | L p | Z p => exact fastStep_seg s s.start _ q hs h
  | Q cp p =>
    -- the closure the model hands to `quadAxis` is `qb …` by definition (`quadPos_x`), likewise for cubics
    obtain ⟨t, t0, t1, rfl⟩ := h
    have X := quadAxis_contains hε s.start.x cp.x p.x s.xmin s.xmax t hs.1 hs.2.1 t0 t1
    have Y := quadAxis_contains hε s.start.y cp.y p.y s.ymin s.ymax t hs.2.2.1 hs.2.2.2 t0 t1
    exact ⟨X.1, X.2, Y.1, Y.2⟩
  | C cp1 cp2 p =>
    obtain ⟨t, t0, t1, rfl⟩ := h
    have X := cubeAxis_contains hε (ok.2 rfl) s.start.x cp1.x cp2.x p.x s.xmin s.xmax t hs.1 hs.2.1 t0 t1
    have Y := cubeAxis_contains hε (ok.2 rfl) s.start.y cp1.y cp2.y p.y s.ymin s.ymax t hs.2.2.1 hs.2.2.2 t0 t1
    exact ⟨X.1, X.2, Y.1, Y.2⟩
  | A rx ry phi l sw' p => exact h.elim

theorem bounds_contains (hε : (Env.epsilon : K) = 0) (sw : Bool) (cs : List (Cmd K)) (q : Pt K)
    (hok : ∀ c ∈ cs, BoundsOk c) (h : OnPath cs q) : InRect (run (boundsStepG sw) cs) q :=
  run_contains (boundsStep_start sw) (boundsStep_mono sw) (boundsStep_seg hε sw) (fun _ ok => ok.1) cs q hok h

end C08
