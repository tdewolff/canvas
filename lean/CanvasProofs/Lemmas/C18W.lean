import CanvasModel.C18
import CanvasProofs.Lemmas.Basic
/-! The W-array run-length encoder against the §9.7.4.3 reader. The reader answers with what some entry
says, so it is enough that every entry says the truth (`Emitted.sound`) and that the CIDs no entry speaks
of have the default width (`Emitted.cover`): the order of the entries and whether they overlap play no
part. The loop invariant `WInv` adds the current run. -/
namespace C18L
open Canvas.C18

theorem wLook_append (A B : List WEnt) (cid : Nat) : wLook (A ++ B) cid = (wLook A cid).or (wLook B cid) := by
  simp [wLook, List.findSome?_append]

theorem wLook_single (e : WEnt) (cid : Nat) : wLook [e] cid = e.width? cid := by
  rw [wLook, List.findSome?_cons]
  cases e.width? cid <;> rfl

variable {thr : Nat} {widths : List Int} {dw : Int} {out : List WEnt}

theorem wLoop_succ (m : Nat) :
    wLoop thr widths dw (m + 1) = wStep thr widths dw (wLoop thr widths dw m) m := by
  simp [wLoop, List.range_succ, List.foldl_append]

theorem arr_width {i j cid : Nat} (h1 : i ≤ cid) (h2 : cid < j) :
    (WEnt.arr i ((widths.drop i).take (j - i))).width? cid = widths[cid]? := by
  simp only [WEnt.width?, h1, if_true]
  rw [List.getElem?_take, if_pos (by omega), List.getElem?_drop, Nat.add_sub_of_le h1]

theorem arr_width_none {i j cid : Nat} (h : cid < i ∨ j ≤ cid) :
    (WEnt.arr i ((widths.drop i).take (j - i))).width? cid = none := by
  simp only [WEnt.width?]
  split
  · rw [List.getElem?_take, if_neg (by omega)]
  · rfl

theorem arr_true {i j cid : Nat} {w : Int} (h : (WEnt.arr i ((widths.drop i).take (j - i))).width? cid = some w) :
    widths.getD cid 0 = w := by
  by_cases hc : i ≤ cid ∧ cid < j
  · rw [arr_width hc.1 hc.2] at h
    simp [List.getD, h]
  · rw [arr_width_none (by omega)] at h
    nomatch h

/-- CID 0 is among the CIDs below `n`: it needs no entry because `dw` is its width (`encodeWT`). -/
structure Emitted (widths : List Int) (dw : Int) (n : Nat) (out : List WEnt) : Prop where
  sound : ∀ e ∈ out, ∀ cid w, e.width? cid = some w → widths.getD cid 0 = w
  cover : ∀ cid, cid < n → wLook out cid = none → widths.getD cid 0 = dw

variable {n : Nat}

theorem Emitted.lookupW (h : Emitted widths dw n out) {cid : Nat} (hc : cid < n) :
    lookupW dw out cid = widths.getD cid 0 := by
  unfold Canvas.C18.lookupW
  cases hl : wLook out cid with
  | none => exact (h.cover cid hc hl).symm
  | some w =>
    obtain ⟨e, he, hw⟩ := List.exists_of_findSome?_eq_some hl
    exact (h.sound e he cid w hw).symm

theorem Emitted.push (h : Emitted widths dw n out) (m : Nat) (e : WEnt)
    (he : ∀ cid w, e.width? cid = some w → widths.getD cid 0 = w)
    (hin : ∀ cid, n ≤ cid → cid < m → e.width? cid ≠ none) : Emitted widths dw m (out ++ [e]) where
  sound := Canvas.forall_mem_snoc h.sound he
  cover cid h2 hl := by
    rw [wLook_append, wLook_single, Option.or_eq_none_iff] at hl
    exact h.cover cid (Nat.lt_of_not_le fun hn => hin cid hn h2 hl.2) hl.1

theorem Emitted.skip (h : Emitted widths dw n out) (m : Nat)
    (hdw : ∀ cid, n ≤ cid → cid < m → widths.getD cid 0 = dw) : Emitted widths dw m out where
  sound := h.sound
  cover cid h2 hl := (Nat.lt_or_ge cid n).elim (fun hc => h.cover cid hc hl) (fun hc => hdw cid hc h2)

theorem Emitted.arrIf {i : Nat} (h : Emitted widths dw i out) (j : Nat) (hj : j ≤ widths.length) :
    Emitted widths dw j (if i < j then out ++ [WEnt.arr i ((widths.drop i).take (j - i))] else out) := by
  split
  · exact h.push j _ (fun _ _ => arr_true) fun cid a b => by
      rw [arr_width a b, List.getElem?_eq_getElem (Nat.lt_of_lt_of_le b hj)]
      nofun
  · exact h.skip j fun cid a b => by omega

theorem Emitted.rangeIf {j m : Nat} {x : Int} (h : Emitted widths dw j out) (hjm : j < m)
    (run : ∀ t, j ≤ t → t < m → widths.getD t 0 = x) :
    Emitted widths dw m (if x ≠ dw then out ++ [WEnt.range j (m - 1) x] else out) := by
  split
  · -- the entry answers `if j ≤ cid ∧ cid ≤ m - 1 then some x else none`
    refine h.push m _ (fun cid w hw => ?_) fun cid a b => ?_
    · obtain ⟨hc, hx⟩ := Option.ite_none_right_eq_some.1 hw
      exact (run cid hc.1 (by omega)).trans (Option.some.inj hx)
    · simp only [WEnt.width?]
      rw [if_pos ⟨a, by omega⟩]
      nofun
  · next hx =>
    exact h.skip m fun cid a b => (run cid a b).trans (Decidable.not_not.1 hx)

/-- loop invariant after the iterations `k = 0 … m-1`: the widths before `st.i` are written, those of
`st.i … st.j-1` wait for a `c [w …]` entry, and from `st.j` on a run of equal widths is being counted -/
structure WInv (widths : List Int) (dw : Int) (m : Nat) (st : WSt) : Prop where
  jm : st.j + 1 ≤ m
  run : ∀ t, st.j ≤ t → t < m → widths.getD t 0 = widths.getD st.j 0
  emitted : Emitted widths dw st.i st.out

theorem WInv.start {i m : Nat} (h : Emitted widths dw i out) : WInv widths dw (m + 1) ⟨i, m, out⟩ :=
  ⟨Nat.le_refl _, fun t h1 h2 => by rw [Nat.le_antisymm (Nat.le_of_lt_succ h2) h1], h⟩

theorem winv_step {m : Nat} {st : WSt} (hml : m < widths.length) (h : WInv widths dw m st) : WInv widths dw (m + 1) (wStep thr widths dw st m) := by
  obtain ⟨jm, run, em⟩ := h
  unfold wStep
  by_cases hc : m ≠ 0 ∧ widths.getD m 0 ≠ widths.getD st.j 0
  · rw [if_pos hc]
    by_cases hlong : thr < m - st.j
    · rw [if_pos hlong]
      exact WInv.start ((em.arrIf st.j (Nat.le_of_lt (Nat.lt_trans jm hml))).rangeIf jm run)
    · rw [if_neg hlong]
      exact WInv.start em
  · rw [if_neg hc]
    have heq : widths.getD m 0 = widths.getD st.j 0 :=
      Decidable.by_contra fun hne => hc ⟨Nat.ne_of_gt (Nat.zero_lt_of_lt jm), hne⟩
    refine ⟨Nat.le_succ_of_le jm, fun t h1 h2 => ?_, em⟩
    by_cases htm : t = m
    · rw [htm, heq]
    · exact run t h1 (Nat.lt_of_le_of_ne (Nat.le_of_lt_succ h2) htm)

theorem winv_all (hdw : widths.getD 0 0 = dw) {m : Nat} (hm : 2 ≤ m) :
    m ≤ widths.length → WInv widths dw m (wLoop thr widths dw m) := by
  induction hm with
  | refl =>
    -- the first two iterations change nothing
    intro _
    have : wLoop thr widths dw 2 = ⟨1, 1, []⟩ := by
      rw [wLoop_succ, wLoop_succ]
      simp [wLoop, wStep]
    rw [this]
    exact WInv.start ⟨nofun, fun cid h _ => Nat.lt_one_iff.1 h ▸ hdw⟩
  | @step m hm ih =>
    intro hl
    rw [wLoop_succ]
    exact winv_step hl (ih (Nat.le_of_lt hl))

theorem lookup_finish {st : WSt} (h : Emitted widths dw st.i st.out)
    {cid : Nat} (hc : cid < widths.length) :
    lookupW dw (wFinish widths st) cid = widths.getD cid 0 := by
  -- the last array is the `c [w …]` entry for `st.i … widths.length - 1`
  have fin := h.arrIf widths.length (Nat.le_refl _)
  rw [List.take_of_length_le (Nat.le_of_eq List.length_drop)] at fin
  exact fin.lookupW hc

end C18L
