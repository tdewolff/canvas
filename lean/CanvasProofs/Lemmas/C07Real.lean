import CanvasProofs.Lemmas.C07Basics
import Mathlib.Analysis.SpecialFunctions.Complex.Arg

/-! # C07: the assumptions `Laws` about the abstract `Env` functions are satisfiable — the real square
root, sine, cosine, `π`, and `atan2 y x = arg (x + y i)`, with exact comparisons (`Epsilon = 0`). -/
namespace C07
open Canvas

@[instance_reducible] noncomputable def envReal : Env ℝ where
  epsilon := 0
  tolerance := 0
  pi := Real.pi
  sqrt := Real.sqrt
  sin := Real.sin
  cos := Real.cos
  atan2 := fun y x => Complex.arg ⟨x, y⟩
  acos := id
  hypot := fun x y => Real.sqrt (x * x + y * y)
  round := id
  cbrt := id
  pow := fun _ _ => 0
  isNaN := fun _ => false

attribute [local instance] envReal

theorem lawsReal : Laws ℝ where
  sqrt_sq := fun x hx => Real.mul_self_sqrt hx
  hypot_sq := fun x y => Real.mul_self_sqrt (add_nonneg (mul_self_nonneg x) (mul_self_nonneg y))
  cos_add := Real.cos_add
  sin_add := Real.sin_add
  cos_sub := Real.cos_sub
  sin_sub := Real.sin_sub
  cos_zero := Real.cos_zero
  sin_zero := Real.sin_zero
  atan2_cos := fun x y => by
    have h := Complex.norm_mul_cos_arg ⟨x, y⟩
    rwa [Complex.norm_def, Complex.normSq_mk] at h
  atan2_sin := fun x y => by
    have h := Complex.norm_mul_sin_arg ⟨x, y⟩
    rwa [Complex.norm_def, Complex.normSq_mk] at h
  pi_ne := Real.pi_ne_zero

theorem epsReal : (Env.epsilon : ℝ) = 0 := rfl

end C07
