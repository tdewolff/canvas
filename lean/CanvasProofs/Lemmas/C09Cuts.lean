import CanvasModel.C09.SplitAt
import CanvasGen.CoreK
import CanvasGen.BezierK
import CanvasProofs.Lemmas.C03Split
import Mathlib.Tactic.LinearCombination
/-!
C09 helper lemmas: the cutting loops of `SplitAt` for one segment, for ANY cut parameters (whatever
the Chebyshev inverse arc length returns), over any ordered field.
The split functions are the definitions generated from path_util.go (`GenK`).
-/
set_option linter.unusedSectionVars false
namespace C09L
open Canvas GenK C03L
variable {K : Type} [Field K] [LinearOrder K] [IsStrictOrderedRing K] [Env K]

abbrev Quad (K : Type) := Pt K × Pt K × Pt K
abbrev Cubic (K : Type) := Pt K × Pt K × Pt K × Pt K

def Quad.pos (q : Quad K) (s : K) : Pt K := quadraticBezierPos q.1 q.2.1 q.2.2 s
def Cubic.pos (q : Cubic K) (s : K) : Pt K := cubicBezierPos q.1 q.2.1 q.2.2.1 q.2.2.2 s

/-- the loop of the QuadToCmd case of SplitAt (path.go, `SplitAt`, `case QuadToCmd`): `Canvas.C09.cutsGen` with the
generated `quadraticBezierSplit` (left part = outputs 1-3, right part = outputs 4-6) -/
def quadCuts (r : Quad K) (t0 : K) (ts : List K) : List (Quad K) × Quad K :=
  Canvas.C09.cutsGen (fun a b => decide (a < b)) (· - ·) (· / ·) 1 (fun (q : Quad K) t => quadL q.1 q.2.1 q.2.2 t)
    (fun (q : Quad K) t => quadR q.1 q.2.1 q.2.2 t) r t0 ts

/-- the loop of the CubeToCmd case (`case CubeToCmd`) -/
def cubeCuts (r : Cubic K) (t0 : K) (ts : List K) : List (Cubic K) × Cubic K :=
  Canvas.C09.cutsGen (fun a b => decide (a < b)) (· - ·) (· / ·) 1 (fun (q : Cubic K) t => cubL q.1 q.2.1 q.2.2.1 q.2.2.2 t)
    (fun (q : Cubic K) t => cubR q.1 q.2.1 q.2.2.1 q.2.2.2 t) r t0 ts

/-- once the previous cut parameter has reached 1 (5884f31) the loop splits at `tsub = 1` -/
theorem quadCuts_cons_end (r : Quad K) (t0 t : K) (ts : List K) (h : ¬ t0 < 1) :
    quadCuts r t0 (t :: ts) =
      (quadL r.1 r.2.1 r.2.2 1 :: (quadCuts (quadR r.1 r.2.1 r.2.2 1) t ts).1,
        (quadCuts (quadR r.1 r.2.1 r.2.2 1) t ts).2) := by
  simp only [quadCuts, Canvas.C09.cutsGen, decide_eq_false h, Bool.false_eq_true, if_false]

theorem cubeCuts_cons_end (r : Cubic K) (t0 t : K) (ts : List K) (h : ¬ t0 < 1) :
    cubeCuts r t0 (t :: ts) =
      (cubL r.1 r.2.1 r.2.2.1 r.2.2.2 1 :: (cubeCuts (cubR r.1 r.2.1 r.2.2.1 r.2.2.2 1) t ts).1,
        (cubeCuts (cubR r.1 r.2.1 r.2.2.1 r.2.2.2 1) t ts).2) := by
  simp only [cubeCuts, Canvas.C09.cutsGen, decide_eq_false h, Bool.false_eq_true, if_false]

theorem quad_split_at_one (r : Quad K) (s : K) :
    Quad.pos (quadL r.1 r.2.1 r.2.2 1) s = r.pos s ∧ Quad.pos (quadR r.1 r.2.1 r.2.2 1) s = r.pos 1 :=
  ⟨(quad_left r.1 r.2.1 r.2.2 1 s).trans (by rw [one_mul]; rfl),
   (quad_right r.1 r.2.1 r.2.2 1 s).trans (by rw [sub_self, zero_mul, add_zero]; rfl)⟩

theorem cube_split_at_one (r : Cubic K) (s : K) :
    Cubic.pos (cubL r.1 r.2.1 r.2.2.1 r.2.2.2 1) s = r.pos s ∧
      Cubic.pos (cubR r.1 r.2.1 r.2.2.1 r.2.2.2 1) s = r.pos 1 :=
  ⟨(cub_left r.1 r.2.1 r.2.2.1 r.2.2.2 1 s).trans (by rw [one_mul]; rfl),
   (cub_right r.1 r.2.1 r.2.2.1 r.2.2.2 1 s).trans (by rw [sub_self, zero_mul, add_zero]; rfl)⟩

/-- the loop of the LineToCmd case (`case LineToCmd, CloseCmd`): every cut is interpolated on the whole segment -/
def lineCuts (a b : Pt K) (prev : Pt K) : List K → List (Pt K × Pt K) × (Pt K × Pt K)
  | [] => ([], (prev, b))
  | t :: ts =>
    let pos := Point.Interpolate a b t
    let rest := lineCuts a b pos ts
    ((prev, pos) :: rest.1, rest.2)

/-- every cut parameter before the last one is below 1 (the loop then divides by `1 - t0 > 0`; once a
parameter has reached 1 the loop splits at 1, see `quadCuts_cons_end`) -/
def okCuts : K → List K → Prop
  | _, [] => True
  | t0, t :: ts => t0 < 1 ∧ okCuts t ts

def lastCut : K → List K → K
  | t0, [] => t0
  | _, t :: ts => lastCut t ts

/-- consecutive pieces are the restrictions of `f` to the consecutive parameter intervals
`[t0,t1], [t1,t2], …` (each re-parametrised to [0,1]) -/
def piecesOK {Q : Type} (pos : Q → K → Pt K) (f : K → Pt K) : K → List K → List Q → Prop
  | _, [], [] => True
  | a, t :: ts, q :: qs => (∀ s, pos q s = f (a + (t - a) * s)) ∧ piecesOK pos f t ts qs
  | _, _, _ => False

/-- The cutting loop on any family of curves `Q` with a position function and a split whose left part
is the curve on `[0,t]` and whose right part is the curve on `[t,1]` (de Casteljau): while the remainder
`r` is `f` on `[t0,1]`, splitting it at `(t - t0)/(1 - t0)` gives `f` on `[t0,t]` and `f` on `[t,1]`. -/
theorem cutsGen_ok {Q : Type} (pos : Q → K → Pt K) (sl sr : Q → K → Q)
    (hl : ∀ q t s, pos (sl q t) s = pos q (t * s)) (hr : ∀ q t s, pos (sr q t) s = pos q (t + (1 - t) * s))
    (f : K → Pt K) (ts : List K) : ∀ (t0 : K) (r : Q), okCuts t0 ts →
    (∀ s, pos r s = f (t0 + (1 - t0) * s)) →
    piecesOK pos f t0 ts
        (Canvas.C09.cutsGen (fun a b => decide (a < b)) (· - ·) (· / ·) 1 sl sr r t0 ts).1 ∧
      ∀ s, pos (Canvas.C09.cutsGen (fun a b => decide (a < b)) (· - ·) (· / ·) 1 sl sr r t0 ts).2 s
        = f (lastCut t0 ts + (1 - lastCut t0 ts) * s) := by
  induction ts with
  | nil => intro t0 r _ hr'; exact ⟨trivial, hr'⟩
  | cons t ts ih =>
    intro t0 r ⟨h1, hok⟩ hr'
    have hk : (1 - t0) * ((t - t0) / (1 - t0)) = t - t0 := mul_div_cancel₀ _ (sub_pos.mpr h1).ne'
    have hrest := ih t (sr r ((t - t0) / (1 - t0))) hok fun s => by
      rw [hr, hr']; congr 1; linear_combination (1 - s) * hk
    simp only [Canvas.C09.cutsGen, decide_eq_true h1, if_true, piecesOK, lastCut]
    exact ⟨⟨fun s => by rw [hl, hr', ← mul_assoc, hk], hrest.1⟩, hrest.2⟩

omit [Env K] in
theorem monoClamp_mono (t0 : K) (ts : List K) :
    (Canvas.C09.monoClamp (fun a b => decide (a < b)) t0 ts).Pairwise (· ≤ ·) ∧
      ∀ t ∈ Canvas.C09.monoClamp (fun a b => decide (a < b)) t0 ts, t0 ≤ t := by
  induction ts generalizing t0 with
  | nil => simp [Canvas.C09.monoClamp]
  | cons t ts ih =>
    have ht : t0 ≤ (if decide (t < t0) = true then t0 else t) := by
      split
      · exact le_refl _
      · next h => exact le_of_not_gt (by simpa using h)
    obtain ⟨h1, h2⟩ := ih (if decide (t < t0) = true then t0 else t)
    exact ⟨List.pairwise_cons.mpr ⟨h2, h1⟩, List.forall_mem_cons.mpr ⟨ht, fun u hu => ht.trans (h2 u hu)⟩⟩

def linePos (q : Pt K × Pt K) (s : K) : Pt K := Point.Interpolate q.1 q.2 s

theorem interpolate_interpolate (a b : Pt K) (u v s : K) :
    Point.Interpolate (Point.Interpolate a b u) (Point.Interpolate a b v) s
      = Point.Interpolate a b (u + (v - u) * s) := by
  simp only [Point.Interpolate]
  congr 1 <;> ring

theorem interpolate_zero (a b : Pt K) : Point.Interpolate a b 0 = a := by
  cases a; simp [Point.Interpolate]

theorem interpolate_one (a b : Pt K) : Point.Interpolate a b 1 = b := by
  cases b; simp [Point.Interpolate]

theorem lineCuts_ok (a b : Pt K) (ts : List K) : ∀ (t0 : K),
    piecesOK linePos (Point.Interpolate a b) t0 ts (lineCuts a b (Point.Interpolate a b t0) ts).1 ∧
      ∀ s, linePos (lineCuts a b (Point.Interpolate a b t0) ts).2 s
        = Point.Interpolate a b (lastCut t0 ts + (1 - lastCut t0 ts) * s) := by
  induction ts with
  | nil =>
    intro t0
    refine ⟨trivial, fun s => ?_⟩
    have := interpolate_interpolate a b t0 1 s
    rwa [interpolate_one] at this
  | cons t ts ih =>
    intro t0
    simp only [lineCuts, piecesOK, lastCut]
    exact ⟨⟨fun s => interpolate_interpolate a b t0 t s, (ih t).1⟩, (ih t).2⟩

theorem splitFlags_eq {α : Type} (gtPi : α → Bool) (d0 d1 : α) :
    Canvas.C09.splitFlags gtPi d0 d1 = (gtPi d0, !gtPi d0 && gtPi d1) := by
  unfold Canvas.C09.splitFlags
  cases gtPi d0 <;> cases gtPi d1 <;> rfl

end C09L
