import CanvasModel.C01Cmp
import Mathlib.Algebra.Order.Field.Basic
import Mathlib.Tactic.Ring
import Mathlib.Tactic.FieldSimp
import Mathlib.Tactic.NormNum

/-!
Laws of the sweep comparators of /repo/path_intersection.go (model `CanvasModel/C01Cmp.lean`) with the
scalar an arbitrary linearly ordered field. Every comparator is a nest of three-way comparisons
"equal: ask the next criterion, else -1 or 1" (`cmp3`); it is rewritten as a `cmp3` expression
(`*_eq`) and its laws follow from those of `cmp3`.

Lean's `x / 0 = 0` never enters the proof of a law: every use of `interpolateY s _` whose value
matters is on a segment with `s.x ≠ s.ox`, which is what `WF` provides for the non-vertical branch of
the code (the counterexample `wC`, `wD` at the end shows what happens without it).
-/
namespace Canvas.C01Cmp

section cmp3
variable {α : Type} [LinearOrder α]

def cmp3 (x y : α) (t : Int) : Int := if x = y then t else if x < y then -1 else 1

theorem cmp3_self (x : α) (t : Int) : cmp3 x x t = t := if_pos rfl

theorem cmp3_of_lt {x y : α} (h : x < y) (t : Int) : cmp3 x y t = -1 := by
  rw [cmp3, if_neg h.ne, if_pos h]

theorem cmp3_of_gt {x y : α} (h : y < x) (t : Int) : cmp3 x y t = 1 := by
  rw [cmp3, if_neg h.ne', if_neg h.asymm]

theorem cmp3_swap {x y : α} {t t' : Int} (h : x = y → t' = -t) : cmp3 y x t' = - cmp3 x y t := by
  rcases lt_trichotomy x y with g | g | g
  · rw [cmp3_of_lt g, cmp3_of_gt g]; rfl
  · subst g; rw [cmp3_self, cmp3_self, h rfl]
  · rw [cmp3_of_gt g, cmp3_of_lt g]

theorem abs_cmp3_le (x y : α) {t : Int} (h : |t| ≤ 1) : |cmp3 x y t| ≤ 1 := by
  unfold cmp3
  split_ifs
  · exact h
  · decide
  · decide

theorem range_of_abs_le {n : Int} (h : |n| ≤ 1) : n = -1 ∨ n = 0 ∨ n = 1 := by
  rw [abs_le] at h
  omega

theorem cmp3_eq_zero_iff (x y : α) (t : Int) : cmp3 x y t = 0 ↔ x = y ∧ t = 0 := by
  unfold cmp3
  split_ifs with h <;> simp [h]

theorem cmp3_neg_iff (x y : α) (t : Int) : cmp3 x y t < 0 ↔ x < y ∨ (x = y ∧ t < 0) := by
  rcases lt_trichotomy x y with g | g | g
  · simp [cmp3_of_lt g, g]
  · subst g; simp [cmp3_self]
  · simp [cmp3_of_gt g, g.ne', g.asymm]

theorem ite_lt_eq_cmp3 (x y : α) (t : Int) :
    (if x < y then -1 else if y < x then 1 else t) = cmp3 x y t := by
  rcases lt_trichotomy x y with g | g | g
  · rw [cmp3_of_lt g, if_pos g]
  · subst g; rw [cmp3_self, if_neg (lt_irrefl x), if_neg (lt_irrefl x)]
  · rw [cmp3_of_gt g, if_neg g.asymm, if_pos g]

theorem bool_ite_eq_cmp3 (p q : Bool) (t : Int) :
    (if (!p && q) = true then -1 else if (p && !q) = true then 1 else t) = cmp3 p q t := by
  cases p <;> cases q <;> simp [cmp3]

end cmp3

section events
variable {K : Type}

/-- Well-formedness of a sweep event: the `vertical` flag says that both endpoints have the same x.
(Only the direction `s.x = s.ox → s.vertical` is used by the proofs: the non-vertical branch of
`compareTangentsV` divides by `s.ox - s.x`.) -/
def WF (s : SP K) : Prop := s.vertical = true ↔ s.x = s.ox

theorem WF.ne {s : SP K} (h : WF s) (hv : s.vertical = false) : s.x ≠ s.ox := by
  intro e
  have := h.2 e
  simp [hv] at this

theorem compareOverlapsV_eq (a b : SP K) :
    compareOverlapsV a b = cmp3 a.clipping b.clipping (cmp3 a.segment b.segment 0) := by
  unfold compareOverlapsV cmp3
  cases a.clipping <;> cases b.clipping <;> simp

theorem abs_compareOverlapsV_le (a b : SP K) : |compareOverlapsV a b| ≤ 1 := by
  rw [compareOverlapsV_eq]
  exact abs_cmp3_le _ _ (abs_cmp3_le _ _ (by decide))

theorem compareOverlapsV_range (a b : SP K) :
    compareOverlapsV a b = -1 ∨ compareOverlapsV a b = 0 ∨ compareOverlapsV a b = 1 :=
  range_of_abs_le (abs_compareOverlapsV_le a b)

theorem compareOverlapsV_antisymm (a b : SP K) :
    compareOverlapsV b a = - compareOverlapsV a b := by
  rw [compareOverlapsV_eq, compareOverlapsV_eq]
  exact cmp3_swap fun _ => cmp3_swap fun _ => rfl

theorem compareOverlapsV_eq_zero_iff (a b : SP K) :
    compareOverlapsV a b = 0 ↔ a.clipping = b.clipping ∧ a.segment = b.segment := by
  rw [compareOverlapsV_eq, cmp3_eq_zero_iff, cmp3_eq_zero_iff, and_iff_left rfl]

theorem compareOverlapsV_self (a : SP K) : compareOverlapsV a a = 0 :=
  (compareOverlapsV_eq_zero_iff a a).2 ⟨rfl, rfl⟩

/-- `sign` of `compareTangentsV`: right endpoints are compared mirrored -/
def sgn (a : SP K) : Int := if !a.left then -1 else 1

theorem abs_sgn (a : SP K) : |sgn a| = 1 := by
  unfold sgn
  split <;> rfl

end events

section field
variable {K : Type} [Field K] [LinearOrder K]

instance scalarOfField : Scalar K where
  lt a b := decide (a < b)
  eq a b := decide (a = b)
  one := 1

@[simp] theorem lt_iff (a b : K) : (Scalar.lt a b = true) ↔ a < b := by
  show decide (a < b) = true ↔ a < b
  simp

@[simp] theorem eq_iff (a b : K) : (Scalar.eq a b = true) ↔ a = b := by
  show decide (a = b) = true ↔ a = b
  simp

theorem interpolateY_def (s : SP K) (x : K) :
    interpolateY s x = (1 - (x - s.x) / (s.ox - s.x)) * s.y + (x - s.x) / (s.ox - s.x) * s.oy := rfl

theorem interpolateY_exact (s : SP K) (x : K) (h : s.x ≠ s.ox) :
    interpolateY s x = s.y + (x - s.x) * ((s.oy - s.y) / (s.ox - s.x)) := by
  have h' : s.ox - s.x ≠ 0 := sub_ne_zero.mpr (Ne.symm h)
  rw [interpolateY_def]
  field_simp
  ring

theorem interpolateY_self (s : SP K) (h : s.x ≠ s.ox) : interpolateY s s.x = s.y := by
  rw [interpolateY_exact s _ h]; simp

theorem interpolateY_other (s : SP K) (h : s.x ≠ s.ox) : interpolateY s s.ox = s.oy := by
  have h' : s.ox - s.x ≠ 0 := sub_ne_zero.mpr (Ne.symm h)
  rw [interpolateY_exact s _ h]
  field_simp
  ring

/-- verticals are compared by their y; otherwise the other endpoint that the sweep meets first is
compared against the line of the other segment -/
theorem compareTangentsV_eq (a b : SP K) : compareTangentsV a b =
    if a.vertical then
      if b.vertical then cmp3 a.y b.y (sgn a * compareOverlapsV a b) else 1
    else if b.vertical then -1
    else if a.ox = b.ox ∧ a.oy = b.oy then sgn a * compareOverlapsV a b
    else if (a.left ∧ a.ox < b.ox) ∨ (¬ a.left ∧ b.ox < a.ox) then
      sgn a * cmp3 a.oy (interpolateY b a.ox) (compareOverlapsV a b)
    else sgn a * cmp3 (interpolateY a b.ox) b.oy (compareOverlapsV a b) := by
  simp only [compareTangentsV, cmp3, sgn, mul_ite, eq_iff, lt_iff, Bool.and_eq_true,
    Bool.or_eq_true, Bool.not_eq_true', Bool.not_eq_true]

theorem abs_compareTangentsV_le (a b : SP K) : |compareTangentsV a b| ≤ 1 := by
  have ho := abs_compareOverlapsV_le a b
  have hso : |sgn a * compareOverlapsV a b| ≤ 1 := by rwa [abs_mul, abs_sgn, one_mul]
  have hsc (x y : K) : |sgn a * cmp3 x y (compareOverlapsV a b)| ≤ 1 := by
    rw [abs_mul, abs_sgn, one_mul]
    exact abs_cmp3_le x y ho
  rw [compareTangentsV_eq]
  split_ifs
  · exact abs_cmp3_le _ _ hso
  · decide
  · decide
  · exact hso
  · exact hsc _ _
  · exact hsc _ _

theorem compareTangentsV_range (a b : SP K) :
    compareTangentsV a b = -1 ∨ compareTangentsV a b = 0 ∨ compareTangentsV a b = 1 :=
  range_of_abs_le (abs_compareTangentsV_le a b)


/-- The source documents the precondition "a and b coincide at (a.X,a.Y)", "a.left==b.left"; only
`a.left = b.left` and well-formedness are needed. -/
theorem compareTangentsV_antisymm (a b : SP K) (hl : a.left = b.left) (ha : WF a) (hb : WF b) :
    compareTangentsV b a = - compareTangentsV a b := by
  have hs : sgn b = sgn a := by unfold sgn; rw [hl]
  have ho : sgn b * compareOverlapsV b a = - (sgn a * compareOverlapsV a b) := by
    rw [hs, compareOverlapsV_antisymm, mul_neg]
  have hc (x y : K) : sgn b * cmp3 y x (compareOverlapsV b a)
      = - (sgn a * cmp3 x y (compareOverlapsV a b)) := by
    rw [hs, cmp3_swap fun _ => compareOverlapsV_antisymm a b, mul_neg]
  rw [compareTangentsV_eq a b, compareTangentsV_eq b a]
  cases hva : a.vertical <;> cases hvb : b.vertical <;>
    simp only [Bool.false_eq_true, if_false, if_true]
  · by_cases hx : a.ox = b.ox
    · -- same x of the other endpoints: both calls interpolate at the own endpoint
      have hb' := interpolateY_other b (hb.ne hvb)
      have ha' := interpolateY_other a (ha.ne hva)
      rw [hx] at ha' ⊢
      simp only [lt_irrefl, and_false, or_false, if_false, true_and, ha', hb', eq_comm (a := b.oy)]
      split_ifs
      · exact ho
      · exact hc _ _
    · -- exactly one of the two calls takes the first interpolation branch
      have hf : (b.left = true ∧ b.ox < a.ox ∨ ¬ b.left = true ∧ a.ox < b.ox) ↔
          ¬ (a.left = true ∧ a.ox < b.ox ∨ ¬ a.left = true ∧ b.ox < a.ox) := by
        rw [← hl]
        cases a.left <;> simp [not_lt, le_iff_lt_or_eq, hx, Ne.symm hx]
      simp only [hx, Ne.symm hx, false_and, if_false, hf]
      split_ifs <;> exact hc _ _
  · rfl
  · exact cmp3_swap fun _ => ho

theorem compareTangentsV_self (a : SP K) : compareTangentsV a a = 0 := by
  rw [compareTangentsV_eq, compareOverlapsV_self, cmp3_self, mul_zero]
  cases a.vertical <;> simp

theorem compareH_eq (a b : SP K) : compareH a b =
    cmp3 a.x b.x (cmp3 a.y b.y (cmp3 a.left b.left (compareTangentsV a b))) := by
  simp only [compareH, lt_iff, ite_lt_eq_cmp3, bool_ite_eq_cmp3]

/-- No coincidence hypothesis is needed: `compareTangentsV` is only reached when x, y and `left`
agree. -/
theorem compareH_antisymm (a b : SP K) (ha : WF a) (hb : WF b) :
    compareH b a = - compareH a b := by
  rw [compareH_eq, compareH_eq]
  exact cmp3_swap fun _ => cmp3_swap fun _ => cmp3_swap fun hl =>
    compareTangentsV_antisymm a b hl ha hb

theorem lessH_iff_compareH_neg (a b : SP K) : lessH a b = true ↔ compareH a b < 0 := by
  rw [compareH_eq, cmp3_neg_iff, cmp3_neg_iff, cmp3_neg_iff]
  unfold lessH
  by_cases hx : a.x = b.x
  · by_cases hy : a.y = b.y
    · cases a.left <;> cases b.left <;> simp [hx, hy]
    · simp [hx, hy]
  · simp [hx]

theorem lessH_eq_false_iff (a b : SP K) : lessH a b = false ↔ 0 ≤ compareH a b := by
  rw [← Bool.not_eq_true, lessH_iff_compareH_neg, not_lt]

theorem compareH_self (a : SP K) : compareH a a = 0 := by
  rw [compareH_eq, cmp3_self, cmp3_self, cmp3_self, compareTangentsV_self]

theorem compareH_eq_zero_iff (a b : SP K) (ha : WF a) (hb : WF b) :
    compareH a b = 0 ↔ (lessH a b = false ∧ lessH b a = false) := by
  rw [lessH_eq_false_iff, lessH_eq_false_iff, compareH_antisymm a b ha hb]
  omega

theorem compareV_eq (a b : SP K) :
    compareV a b = cmp3 a.y (interpolateY b a.x) (compareTangentsV a b) := by
  simp only [compareV, cmp3, eq_iff, lt_iff]

theorem CompareV_eq (a b : SP K) : CompareV a b =
    if a.x = b.x then cmp3 a.y b.y (compareTangentsV a b)
    else if a.x < b.x then - compareV b a else compareV a b := by
  simp only [CompareV, cmp3, eq_iff, lt_iff]

theorem CompareV_of_lt {a b : SP K} (h : a.x < b.x) : CompareV a b = - compareV b a := by
  rw [CompareV_eq, if_neg h.ne, if_pos h]

theorem CompareV_of_gt {a b : SP K} (h : b.x < a.x) : CompareV a b = compareV a b := by
  rw [CompareV_eq, if_neg h.ne', if_neg h.asymm]

theorem compareV_CompareV (a b : SP K) :
    (a.x = b.x → a.y = b.y → CompareV a b = compareTangentsV a b) ∧
    (a.x = b.x → a.y < b.y → CompareV a b = -1) ∧
    (a.x = b.x → b.y < a.y → CompareV a b = 1) ∧
    (a.x < b.x → CompareV a b = - compareV b a) ∧
    (b.x < a.x → CompareV a b = compareV a b) := by
  refine ⟨fun h g => ?_, fun h g => ?_, fun h g => ?_, CompareV_of_lt, CompareV_of_gt⟩
  · rw [CompareV_eq, if_pos h, g, cmp3_self]
  · rw [CompareV_eq, if_pos h, cmp3_of_lt g]
  · rw [CompareV_eq, if_pos h, cmp3_of_gt g]

/-- `CompareV a b` as the sweep status calls it (the source says only "used for sweep status" and
"left-point"; the x-ranges are this model's reading of it): both events are left endpoints of
well-formed segments, each lies left of (or, if vertical, at the same x as) its other endpoint,
and the abscissa of the comparison, `max a.x b.x`, lies in the x-range of both segments. -/
def CompareVPre (a b : SP K) : Prop :=
  a.left = true ∧ b.left = true ∧ WF a ∧ WF b ∧ a.x ≤ a.ox ∧ b.x ≤ b.ox ∧
    max a.x b.x ≤ a.ox ∧ max a.x b.x ≤ b.ox

def CompareV_antisymm_statement : Prop :=
  ∀ (K : Type) [Field K] [LinearOrder K] (a b : SP K), CompareVPre a b → CompareV b a = - CompareV a b

/-- for events at different x antisymmetry of `CompareV` is unconditional: `CompareV a b` and
`CompareV b a` evaluate the same `compareV` call and negate one of them -/
theorem CompareV_antisymm_of_ne (a b : SP K) (h : a.x ≠ b.x) : CompareV b a = - CompareV a b := by
  rcases h.lt_or_gt with g | g
  · rw [CompareV_of_lt g, CompareV_of_gt g, neg_neg]
  · rw [CompareV_of_gt g, CompareV_of_lt g]

/-- needs much less than `CompareVPre` -/
theorem CompareV_antisymm_of_left (a b : SP K) (hl : a.left = b.left) (ha : WF a) (hb : WF b) :
    CompareV b a = - CompareV a b := by
  by_cases h : a.x = b.x
  · rw [CompareV_eq, CompareV_eq, if_pos h, if_pos h.symm]
    exact cmp3_swap fun _ => compareTangentsV_antisymm a b hl ha hb
  · exact CompareV_antisymm_of_ne a b h

theorem CompareV_antisymm_statement_holds : CompareV_antisymm_statement :=
  fun _ _ _ a b ⟨hla, hlb, ha, hb, _⟩ => CompareV_antisymm_of_left a b (hla.trans hlb.symm) ha hb

def yAt (s : SP K) (x : K) : K := if s.x = x then s.y else interpolateY s x

/-- Under `CompareVPre` every interpolation in `yAt` is on a segment with `x ≠ ox`
(`CompareVPre.interp_ok`), so it is the line's exact y by `interpolateY_exact`. -/
theorem CompareV_eq_cmp3_yAt (a b : SP K) : CompareV a b =
    cmp3 (yAt a (max a.x b.x)) (yAt b (max a.x b.x))
      (if a.x < b.x then - compareTangentsV b a else compareTangentsV a b) := by
  unfold yAt
  rcases lt_trichotomy a.x b.x with h | h | h
  · rw [CompareV_of_lt h, compareV_eq, max_eq_right h.le, if_neg h.ne,
      if_pos rfl, if_pos h]
    exact (cmp3_swap fun _ => rfl).symm
  · rw [CompareV_eq, if_pos h, h, max_self, if_pos rfl, if_pos rfl, if_neg (lt_irrefl _)]
  · rw [CompareV_of_gt h, compareV_eq, max_eq_left h.le, if_pos rfl,
      if_neg h.ne, if_neg h.asymm]

omit [Field K] in
theorem CompareVPre.interp_ok {a b : SP K} (h : CompareVPre a b) :
    (a.x < b.x → a.x ≠ a.ox) ∧ (b.x < a.x → b.x ≠ b.ox) := by
  obtain ⟨-, -, -, -, -, -, h7, h8⟩ := h
  exact ⟨fun g e => (e ▸ g).not_ge ((le_max_right _ _).trans h7),
    fun g e => (e ▸ g).not_ge ((le_max_left _ _).trans h8)⟩

end field

section slope
variable {K : Type} [Field K] [LinearOrder K] [IsStrictOrderedRing K]

/-- comparing two points of two lines through a common point, at the same positive distance `p`
from it, compares the slopes -/
theorem cmp3_add_mul {p : K} (hp : 0 < p) (c u v : K) (t : Int) :
    cmp3 (c + p * u) (c + p * v) t = cmp3 u v t := by
  unfold cmp3
  simp only [add_right_inj, mul_right_inj' hp.ne', add_lt_add_iff_left, mul_lt_mul_iff_right₀ hp]

def slope (s : SP K) : K := (s.oy - s.y) / (s.ox - s.x)

theorem compareTangentsV_eq_cmp3_slope (a b : SP K)
    (hla : a.left = true) (hva : a.vertical = false) (hvb : b.vertical = false)
    (hax : a.x < a.ox) (hbne : b.x ≠ b.ox) (hbo : a.x < b.ox)
    (hon : interpolateY b a.x = a.y) :
    compareTangentsV a b = cmp3 (slope a) (slope b) (compareOverlapsV a b) := by
  have hane : a.x ≠ a.ox := hax.ne
  -- both lines through the common point `(a.x, a.y)`
  have la (x : K) : interpolateY a x = a.y + (x - a.x) * slope a := interpolateY_exact a x hane
  have lb (x : K) : interpolateY b x = a.y + (x - a.x) * slope b := by
    rw [← hon, interpolateY_exact b _ hbne, interpolateY_exact b _ hbne]; unfold slope; ring
  have p1 : 0 < a.ox - a.x := sub_pos.mpr hax
  have p2 : 0 < b.ox - a.x := sub_pos.mpr hbo
  rw [compareTangentsV_eq, ← interpolateY_other a hane, ← interpolateY_other b hbne]
  simp only [hva, hvb, hla, sgn, Bool.not_true, Bool.false_eq_true, if_false, one_mul, true_and,
    not_true, false_and, or_false, la, lb, cmp3_add_mul p1, cmp3_add_mul p2, ite_self]
  split_ifs with h
  · obtain ⟨h1, h2⟩ := h
    rw [h1] at h2
    rw [mul_left_cancel₀ p2.ne' (add_left_cancel h2), cmp3_self]
  · rfl

/-- the hypotheses are the documented ones: "compare segments vertically at a.X, b.X <= a.X, and a
and b coincide at (a.X,a.Y)" -/
theorem compareTangentsV_slope (a b : SP K)
    (hla : a.left = true) (hva : a.vertical = false) (hvb : b.vertical = false)
    (hax : a.x < a.ox) (hbx : b.x ≤ a.x) (hbo : a.x < b.ox)
    (hon : interpolateY b a.x = a.y) :
    (slope a < slope b → compareTangentsV a b = -1) ∧
    (slope b < slope a → compareTangentsV a b = 1) := by
  rw [compareTangentsV_eq_cmp3_slope a b hla hva hvb hax (lt_of_le_of_lt hbx hbo).ne hbo hon]
  exact ⟨fun h => cmp3_of_lt h _, fun h => cmp3_of_gt h _⟩

end slope

section witnesses

/-- two left events sharing (0,0): a to (2,1), b to (1,2) -/
def wA : SP ℚ := ⟨0, 0, 2, 1, true, false, false, 0⟩
def wB : SP ℚ := ⟨0, 0, 1, 2, true, false, true, 1⟩

/-- non-vacuity: the precondition of `CompareV` is satisfiable, with a non-zero result -/
example : CompareVPre wA wB ∧ CompareV wA wB = -1 ∧ CompareV wB wA = 1 := by
  refine ⟨?_, ?_, ?_⟩
  · simp [CompareVPre, WF, wA, wB]
  · simp [CompareV, compareTangentsV, interpolateY_def, wA, wB]; norm_num
  · simp [CompareV, compareTangentsV, interpolateY_def, wA, wB]; norm_num

/-- `WF` cannot be dropped: with the `vertical` flag wrongly clear on two segments with x = ox the
division by `ox - x = 0` makes `compareTangentsV` return -1 in both argument orders (over a field,
Lean's `x/0 = 0`; the real float code divides 0/0 = NaN and returns +1 in both orders — replayed
through the hook, see harness/c01/cmp.go class `bad-flag`). -/
def wC : SP ℚ := ⟨0, 0, 0, 1, true, false, false, 0⟩
def wD : SP ℚ := ⟨0, 0, 0, 2, true, false, false, 0⟩

example : ¬ WF wC ∧ compareTangentsV wC wD = -1 ∧ compareTangentsV wD wC = -1 ∧
    compareH wD wC ≠ - compareH wC wD := by
  refine ⟨?_, ?_, ?_, ?_⟩
  · simp [WF, wC]
  · simp [compareTangentsV, interpolateY_def, wC, wD]
  · simp [compareTangentsV, interpolateY_def, wC, wD]
  · simp [compareH, compareTangentsV, interpolateY_def, wC, wD]

end witnesses

end Canvas.C01Cmp
