import CanvasProofs.Lemmas.C17Prune
import CanvasProofs.Lemmas.C17Result
/-! C17 — a pass of the item loop followed along a given breaking (`Track`, `run_track`): DP completeness of one
pass, the tolerance relaxation and the overflow fallback (well-formed paragraphs, ordered field). The tolerance
is relaxed only as far as needed and overflow is reported only if it cannot be avoided (`run_seq`). -/
set_option linter.unusedSectionVars false
namespace Canvas.C17

section field
variable {K : Type} [Field K] [LinearOrder K] [IsStrictOrderedRing K]
variable (P : Params K) (items : List (Item K)) (lineW : K)

theorem tolEq_ntol {lineW ti : K} {nt : Option K}
    (h : nt = none ∨ ∃ r, nt = some r ∧ ltTol (some ti) r = true ∧ InS P items lineW r) :
    tolEq (some ti) nt = false := by
  rcases h with rfl | ⟨r, rfl, hlt, _⟩
  · rfl
  · have : ti < r := by simpa [ltTol] using hlt
    simpa [tolEq] using ne_of_lt this

/-- The breaking `seq`, continued after the break `prev` (class `fit`, `acc` demerits so far) to total
demerits `d`, lies ahead of item `b`, and `act` holds a node that dominates its state. -/
structure Ahead (P : Params K) (items : List (Item K)) (lineW : K) (tolS : Option K) (d : K) (b : Nat)
    (act : List (Node K)) (prev : Option Nat) (fit : Nat) (acc : K) (seq : List Nat) : Prop where
  notPassed : ∀ x, x ∈ seq → b ≤ x
  pw : seq.Pairwise (· < ·)
  ns : NoSkip P items prev seq
  prevOK : ∀ a, prev = some a → a < b ∧ legalAt P items a = true
  atEnd : seq = [] → b = items.length
  last : ∀ x, seq.getLast? = some x → x + 1 = items.length
  cost : seqCost P items lineW tolS prev fit acc seq = some d
  dom : ∃ n, n ∈ act ∧ AtPrev P items n prev ∧ Dom P n fit acc

theorem ahead_init (hfl : flaggedAt items 0 = false)
    {tolS : Option K} {d : K} {m : Nat} (hlen : items.length = m + 1) {seq : List Nat}
    (hpw : seq.Pairwise (· < ·)) (hns : NoSkip P items none seq) (hlast : seq.getLast? = some m)
    (hcost : seqCost P items lineW tolS none 1 0 seq = some d) :
    Ahead P items lineW tolS d 0 [root] none 1 0 seq where
  notPassed x _ := Nat.zero_le _
  pw := hpw
  ns := hns
  prevOK a ha := by cases ha
  atEnd he := by
    rw [he] at hlast
    cases hlast
  last x hx := by
    rw [hlast] at hx
    cases hx
    omega
  cost := hcost
  dom := ⟨root, List.mem_singleton.mpr rfl, ⟨rfl, hfl⟩, Or.inl ⟨rfl, k_zero.le⟩⟩

/-- A pass at tolerance `tol` seen from a breaking that is feasible at `tolS`. Either the breaking still lies
ahead and an active node dominates it; or it has been left at a line whose ratio `r` is feasible at `tolS` but
above `tol`: then `tol` is finite and `nextTolerance` is at most `r` from there on. -/
inductive Track (P : Params K) (items : List (Item K)) (lineW : K) (tol tolS : Option K) (d : K) (b : Nat)
    (act : List (Node K)) (nt : Option K) : Prop
  | ahead (prev : Option Nat) (fit : Nat) (acc : K) (seq : List Nat) :
      Ahead P items lineW tolS d b act prev fit acc seq → Track P items lineW tol tolS d b act nt
  | left (r : K) : feasAt tolS r = true → feasAt tol r = false → SomeLe r nt →
      Track P items lineW tol tolS d b act nt

/-- What a pass followed along a breaking ends in. Never `panic`: nothing is read out of range. The overflow flag
is the one it started with: no fallback. `done` holds a node of at most `d` demerits, unless the breaking was left
(at a ratio `r` feasible at `tolS` but not at `tol`); a restart hands over a finite tolerance of at most such an `r`. -/
def TrackRes (tol tolS : Option K) (d : K) (ovf : Bool) : PassRes K → Prop
  | PassRes.panic => False
  | PassRes.done lbf => lbf.ovf = ovf ∧
      ((∃ n, n ∈ lbf.act ∧ n.d.dem ≤ d) ∨ ∃ r, feasAt tolS r = true ∧ feasAt tol r = false)
  | PassRes.restart nt ovf' => ovf' = ovf ∧ ∃ r, feasAt tolS r = true ∧ feasAt tol r = false ∧ SomeLe r nt

/-- One item further along the breaking. If the breaking breaks at `b`, its line is feasible for the pass
as well and `mainLoop` creates a dominating breakpoint, or its ratio `r` lies above the tolerance of the
pass and bounds `nextTolerance`; otherwise the dominating node survives. -/
theorem ahead_step (hwf : WF P items lineW)
    {tol tolS : Option K} {d : K} {b : Nat} {it : Item K} {rest : List (Item K)} {lb lbm : LB K}
    {prev : Option Nat} {fit : Nat} {acc : K} {seq : List Nat} (hdrop : items.drop b = it :: rest)
    (hs : (lb.W, lb.Y, lb.Z) = pre items b)
    (hm : (legalAt P items b = false ∧ lbm = lb) ∨
      (legalAt P items b = true ∧ lbm = mainLoop P items lineW tol b it rest lb))
    (hA : Ahead P items lineW tolS d b lb.act prev fit acc seq) :
    Track P items lineW tol tolS d (b + 1) lbm.act lbm.nextTol := by
  obtain ⟨n, hn, hat, hdom⟩ := hA.dom
  have hit : items[b]? = some it := drop_getElem? hdrop
  cases seq with
  | nil => exact absurd (hA.atEnd rfl) (Nat.ne_of_lt (drop_lt_length hdrop))
  | cons x seq' =>
    obtain ⟨itx, r, hix, hlegx, hr, hf, hcost⟩ := seqCost_cons_inv hA.cost
    have hp := List.pairwise_cons.mp hA.pw
    rcases Nat.eq_or_lt_of_le (hA.notPassed x List.mem_cons_self) with rfl | hbx
    · rw [hit] at hix; cases hix
      obtain rfl : lbm = mainLoop P items lineW tol b it rest lb := by
        rcases hm with ⟨h0, _⟩ | ⟨_, h⟩
        · rw [hlegx] at h0; cases h0
        · exact h
      cases hfi : feasAt tol r with
      | false =>
        exact Track.left r hf hfi (mainLoop_tol_hit P items lineW tol b it rest lb n hn r
          ((ratioAt_eq P items it hs hat.1).trans hr) hfi (ltTol_of_feas hf hfi))
      | true =>
        obtain ⟨n', hn', hat', hdom'⟩ := dom_step P items lineW hwf.df hdrop hs hn hat hdom hr hfi
        refine Track.ahead (some b) (fitClass r) _ seq'
          { notPassed := hp.1, pw := hp.2, ns := hA.ns.2, prevOK := ?_, atEnd := ?_, last := ?_, cost := hcost,
            dom := ⟨n', hn', hat', hdom'⟩ }
        · intro a ha; cases ha; exact ⟨Nat.lt_succ_self _, hlegx⟩
        · intro he; subst he; exact hA.last b rfl
        · intro y hy
          apply hA.last y
          cases seq' with
          | nil => cases hy
          | cons z zs => rw [List.getLast?_cons_cons]; exact hy
    · have hsurv : n ∈ lbm.act := by
        rcases hm with ⟨_, rfl⟩ | ⟨hleg, rfl⟩
        · exact hn
        · have hnf : isForced P it = false := by
            have := hA.ns.1 b (fun a ha => (hA.prevOK a ha).1) hbx
            rwa [forcedAt_eq hit] at this
          exact survives P items lineW hwf tol rest hit hs hn hat hA.prevOK hleg hnf hbx hix hr (feasAt_ge hf)
      refine Track.ahead prev fit acc (x :: seq')
        { hA with
          notPassed := ?_
          prevOK := fun a ha => ⟨Nat.lt_succ_of_lt (hA.prevOK a ha).1, (hA.prevOK a ha).2⟩
          atEnd := fun he => by cases he
          dom := ⟨n, hsurv, hat, hdom⟩ }
      intro y hy
      rcases List.mem_cons.mp hy with rfl | hy
      · exact hbx
      · have := hp.1 y hy; omega

theorem track_step (hwf : WF P items lineW) (tol tolS : Option K) (d : K) {b : Nat} {it : Item K}
    {rest : List (Item K)} {lb lb1 : LB K} (hdrop : items.drop b = it :: rest) (hI : Inv P items lineW tol b lb)
    (h1 : itemStep P items lineW tol b (prevOf items b) it rest (clearStale P (prevOf items b) lb) = some lb1)
    (hT : Track P items lineW tol tolS d b lb.act lb.nextTol) :
    lb1.ovf = lb.ovf ∧ Track P items lineW tol tolS d (b + 1) lb1.act lb1.nextTol := by
  obtain ⟨hIc, _⟩ := clear_inv P items lineW tol b lb hI
  obtain ⟨c1, c2, c3, _⟩ := clearStale_fields P (prevOf items b) lb
  obtain ⟨lbm, hm, rfl⟩ := itemStep_cases P items lineW tol b it rest _ _ hdrop h1
  refine ⟨?_, ?_⟩
  · rw [← c2]
    rcases hm with ⟨_, rfl⟩ | ⟨_, rfl⟩ <;> rfl
  rcases hT with ⟨prev, fit, acc, seq, hA⟩ | ⟨r, hf, hfi, hb⟩
  · exact ahead_step P items lineW hwf (lbm := lbm) hdrop hIc.sums hm (by rw [c1]; exact hA)
  · refine Track.left r hf hfi ?_
    rw [← c3] at hb
    rcases hm with ⟨_, rfl⟩ | ⟨_, rfl⟩
    · exact hb
    · exact mainLoop_tol_le P items lineW _ b it rest _ r hb

/-- A pass at tolerance `tol` on a well-formed paragraph, followed along a breaking that is feasible at
tolerance `tolS`: it reads nothing out of range and never falls back. -/
theorem run_track (hwf : WF P items lineW) (tol tolS : Option K) (d : K) {b : Nat} {lb : LB K} {res : PassRes K}
    (h : Run P items lineW tol b lb res) (hI : Inv P items lineW tol b lb)
    (hT : Track P items lineW tol tolS d b lb.act lb.nextTol) : TrackRes tol tolS d lb.ovf res := by
  induction h with
  | done lb =>
    rcases hT with ⟨prev, fit, acc, seq, hA⟩ | ⟨r, hf, hfi, _⟩
    · obtain ⟨n, hn, _, hdom⟩ := hA.dom
      cases seq with
      | nil => exact ⟨rfl, Or.inl ⟨n, hn, Option.some.inj hA.cost ▸ dom_le P hwf.df hdom⟩⟩
      | cons x seq' =>
        exfalso
        obtain ⟨itx, _, hix, _⟩ := seqCost_cons_inv hA.cost
        have := (List.getElem?_eq_some_iff.mp hix).1
        have := hA.notPassed x List.mem_cons_self
        omega
    · exact ⟨rfl, Or.inr ⟨r, hf, hfi⟩⟩
  | panic hdrop h1 => exact absurd h1 (itemStep_ne_none hwf.np hdrop _ _)
  | @restart b it rest lb lb1 hdrop h1 h2 =>
    obtain ⟨hov, hT1⟩ := track_step P items lineW hwf tol tolS d hdrop hI h1 hT
    rcases hT1 with ⟨_, _, _, _, hA'⟩ | ⟨r, hf, hfi, hb⟩
    · obtain ⟨n', hn', _⟩ := hA'.dom
      rw [drastic_id P tol b it rest lb1 n' hn'] at h2; cases h2
    · exact ⟨hov, r, hf, hfi, hb⟩
  | @next b it rest lb lb1 lb2 res hdrop h1 h2 _ ih =>
    obtain ⟨hov, hT1⟩ := track_step P items lineW hwf tol tolS d hdrop hI h1 hT
    have hI2 := step_inv (fun a => beq_self_eq_true a) P items lineW tol b it rest lb lb1 lb2 hdrop hI h1 h2
    rw [addGlue_eq] at hI2 ih
    -- `drastic` changes nothing: an active node is left, or the finite tolerance differs from `nextTolerance`
    have he : lb2 = lb1 := by
      rcases hT1 with ⟨_, _, _, _, hA'⟩ | ⟨r, hf, hfi, _⟩
      · obtain ⟨n', hn', _⟩ := hA'.dom
        rw [drastic_id P tol b it rest lb1 n' hn'] at h2; exact (Option.some.inj h2).symm
      · cases tol with
        | none => cases ltTol_of_feas hf hfi
        | some ti =>
          rcases drastic_some P h2 with ⟨_, he⟩ | ⟨_, hte, rfl⟩
          · exact he
          · rw [tolEq_ntol P items hI2.ntol] at hte; cases hte
    subst he
    rw [← hov]
    exact ih hI2 hT1

theorem run_track_init (hwf : WF P items lineW) (tol tolS : Option K) (ovf : Bool) {seq : List Nat} {d : K}
    (hA : Ahead P items lineW tolS d 0 [root] none 1 0 seq) :
    TrackRes tol tolS d ovf (passLoop P items lineW tol 0 none items (initLB ovf)) :=
  run_track P items lineW hwf tol tolS d (run_start P items lineW tol (initLB ovf)) (inv_init P items lineW _ ovf)
    (Track.ahead none 1 0 seq hA)

/-- DP completeness of one pass: the case `tolS = tol` -/
theorem passLoop_opt (hwf : WF P items lineW) (tol : Option K) (ovf : Bool) {seq : List Nat} {d : K}
    (hA : Ahead P items lineW tol d 0 [root] none 1 0 seq) :
    ∃ lbf, passLoop P items lineW tol 0 none items (initLB ovf) = PassRes.done lbf ∧ lbf.ovf = ovf ∧
      ∃ n, n ∈ lbf.act ∧ n.d.dem ≤ d := by
  have h := run_track_init P items lineW hwf tol tol ovf hA
  cases hp : passLoop P items lineW tol 0 none items (initLB ovf) with
  | panic => rw [hp] at h; exact h.elim
  | restart nt ovf' =>
    rw [hp] at h
    obtain ⟨_, r, hf, hfi, _⟩ := h
    rw [hf] at hfi; cases hfi
  | done lbf =>
    rw [hp] at h
    obtain ⟨hov, hn | ⟨r, hf, hfi⟩⟩ := h
    · exact ⟨lbf, rfl, hov, hn⟩
    · rw [hf] at hfi; cases hfi

/-- `tol ≤ tolS`, with `none` = +∞ -/
def LeTol (tol tolS : Option K) : Prop := ∀ t, tolS = some t → SomeLe t tol

/-- `relax_minimal` (`tolS = some t`) and `overflow_only_if_unavoidable` (`tolS = none`) in one: each restart hands
over a tolerance of at most a ratio of the breaking. -/
theorem run_seq (hwf : WF P items lineW) {loose : Int} {seq : List Nat} {tolS : Option K} {d : K}
    (hA : Ahead P items lineW tolS d 0 [root] none 1 0 seq) {breaks : List (ND K)} {fit : Bool}
    {fuel : Nat} {tol : Option K} (hle : LeTol tol tolS)
    (h : linebreakFuel P items lineW loose fuel tol false = Outcome.ok breaks fit) :
    ∃ tf lbf, LeTol tf tolS ∧ passLoop P items lineW tf 0 none items (initLB false) = PassRes.done lbf ∧
      lbf.ovf = false ∧ finish P items.length loose lbf = Outcome.ok breaks fit := by
  have htr := fun tol => run_track_init P items lineW hwf tol tolS false hA
  obtain ⟨tf, ovf', lbf, ⟨rfl, hle'⟩, hp, hf⟩ := linebreakFuel_ok P items lineW loose
    (fun tol ovf => ovf = false ∧ LeTol tol tolS) (by
      rintro tol ovf nt ovf' ⟨rfl, _⟩ hp
      have h := htr tol
      rw [hp] at h
      obtain ⟨rfl, r, hf, _, x, rfl, hx⟩ := h
      exact ⟨rfl, fun t ht => ⟨x, rfl, le_trans hx ((feasAt_some t r).mp (ht ▸ hf)).2⟩⟩)
    breaks fit fuel tol false ⟨rfl, hle⟩ h
  have h := htr tf
  rw [hp] at h
  exact ⟨tf, lbf, hle', hp, h.1, hf⟩

end field
end Canvas.C17
