import CanvasModel.C14
import CanvasProofs.Lemmas.Wn
import Mathlib.Tactic.Ring
import Mathlib.Tactic.Linarith.Frontend
import Mathlib.Tactic.LinearCombination

/-! The bounding-box shortcuts of the PIX verdict handler change neither the winding number nor the
distance test: a contour entirely above, below or to the left of a point does not wind around it,
and a point separated from a box by more than d along a coordinate axis is farther than d from
every segment inside the box. -/
namespace Canvas.C14
open Canvas.Wn

def BPoly.has (b : BPoly) (v : IPt) : Prop :=
  b.xmin ≤ v.x ∧ v.x ≤ b.xmax ∧ b.ymin ≤ v.y ∧ v.y ≤ b.ymax

theorem foldl_boxStep_pts (rest : List IPt) (b : BPoly) : (rest.foldl boxStep b).pts = b.pts := by
  induction rest generalizing b with
  | nil => rfl
  | cons w t ih => exact ih (boxStep b w)

theorem foldl_boxStep_has (rest : List IPt) (b : BPoly) (v : IPt) (hv : v ∈ rest ∨ b.has v) :
    (rest.foldl boxStep b).has v := by
  induction rest generalizing b with
  | nil => simpa using hv
  | cons w t ih =>
    refine ih (boxStep b w) ?_
    rcases hv with hv | hv
    · rcases List.mem_cons.mp hv with rfl | hv
      · right; simp only [BPoly.has, boxStep]; omega
      · exact .inl hv
    · right; simp only [BPoly.has, boxStep] at hv ⊢; omega

theorem mkBPoly_pts (pts : List IPt) : (mkBPoly pts).pts = pts := by
  cases pts with
  | nil => rfl
  | cons a rest => exact foldl_boxStep_pts rest _

theorem mkBPoly_bounds {pts : List IPt} {v : IPt} (hv : v ∈ pts) : (mkBPoly pts).has v := by
  cases pts with
  | nil => cases hv
  | cons a rest =>
    refine foldl_boxStep_has rest _ v ?_
    rcases List.mem_cons.mp hv with rfl | hv
    · right; simp [BPoly.has]
    · exact .inl hv

theorem mem_of_mem_closed {a v : IPt} {t : List IPt} (hv : v ∈ a :: t ++ [a]) : v ∈ a :: t := by
  rcases List.mem_append.mp hv with h | h
  · exact h
  · exact List.mem_singleton.mp h ▸ List.mem_cons_self

theorem edgeW_of_outside {p a b : IPt} {bx : BPoly} (ho : (p.y < bx.ymin || bx.ymax < p.y || bx.xmax < p.x) = true)
    (ha : bx.has a) (hb : bx.has b) : edgeW p a b = 0 := by
  simp only [Bool.or_eq_true, decide_eq_true_eq, BPoly.has] at ho ha hb
  exact Wn.edgeW_of_outside (by omega)

theorem chainW_zero (p : IPt) : ∀ l : List IPt, (∀ a ∈ l, ∀ b ∈ l, edgeW p a b = 0) → chainW p l = 0
  | [], _ | [_], _ => rfl
  | a :: b :: t, h => by
    rw [chainW, h a (by simp) b (by simp),
      chainW_zero p (b :: t) fun a ha b hb => h a (by simp [ha]) b (by simp [hb])]
    rfl

theorem wn1_zero (p : IPt) (poly : List IPt) (h : ∀ a ∈ poly, ∀ b ∈ poly, edgeW p a b = 0) :
    wn1 p poly = 0 := by
  cases poly with
  | nil => rfl
  | cons a t =>
    exact chainW_zero p _ fun a ha b hb => h a (mem_of_mem_closed ha) b (mem_of_mem_closed hb)

theorem BPoly_wn1 (pts : List IPt) (p : IPt) : (mkBPoly pts).wn1 p = wn1 p pts := by
  unfold BPoly.wn1
  split_ifs with h
  · exact (wn1_zero p pts fun a ha b hb =>
      edgeW_of_outside h (mkBPoly_bounds ha) (mkBPoly_bounds hb)).symm
  · rw [mkBPoly_pts]

theorem BDraw_filled (d : IDraw) (p : IPt) : (mkBDraw d).filled p = filled d.rule d.polys p := by
  unfold BDraw.filled filled wn mkBDraw
  simp only [List.map_map]
  congr 2
  apply List.map_congr_left
  intro c _
  exact BPoly_wn1 c p

theorem ownerFastAux_eq (p : IPt) (ds : List IDraw) (k acc : Nat) :
    ownerFastAux p (ds.map mkBDraw) k acc = ownerAux p ds k acc := by
  induction ds generalizing k acc with
  | nil => rfl
  | cons d ds ih =>
    simp only [List.map_cons, ownerFastAux, ownerAux, BDraw_filled]
    exact ih _ _

theorem sq_lt_normSq {ux uy vx vy e : Int} (hu : ux * ux + uy * uy = 1) (he : 0 ≤ e)
    (h : ux * vx + uy * vy < -e) : e * e < vx * vx + vy * vy := by
  have hs := Int.mul_self_lt_mul_self he (show e < -(ux * vx + uy * vy) by omega)
  rw [neg_mul_neg] at hs
  have cs : vx * vx + vy * vy
      = (ux * vx + uy * vy) * (ux * vx + uy * vy) + (ux * vy - uy * vx) * (ux * vy - uy * vx) := by
    linear_combination (-(vx * vx + vy * vy)) * hu
  have := mul_self_nonneg (ux * vy - uy * vx)
  omega

theorem farFromSeg_of_sep (p a b : IPt) (ux uy d : Int) (hu : ux * ux + uy * uy = 1) (hd : 0 ≤ d)
    (h1 : ux * (p.x - a.x) + uy * (p.y - a.y) < -d) (h2 : ux * (p.x - b.x) + uy * (p.y - b.y) < -d) :
    farFromSeg p a b (d * d) = true := by
  unfold farFromSeg
  simp only []
  split_ifs with hA hB
  · exact decide_eq_true (sq_lt_normSq hu hd h1)
  · exact decide_eq_true (sq_lt_normSq hu hd h2)
  · simp only [Bool.or_eq_true, beq_iff_eq, decide_eq_true_eq, not_or, not_le] at hA hB
    rw [decide_eq_true_eq]
    have e1 : p.x - b.x = p.x - a.x - (b.x - a.x) := by ring
    have e2 : p.y - b.y = p.y - a.y - (b.y - a.y) := by ring
    rw [e1, e2] at h2
    generalize p.x - a.x = apx, p.y - a.y = apy, b.x - a.x = abx, b.y - a.y = aby at *
    generalize hl : abx * abx + aby * aby = l2, ht : apx * abx + apy * aby = t at *
    have hl2 : 0 < l2 := by have := mul_self_nonneg abx; have := mul_self_nonneg aby; omega
    -- V = l2·ap − t·ab is l2 times the vector from the foot of the perpendicular to p; its
    -- component along u is a positive combination of those of ap and ap − ab
    have hV := sq_lt_normSq (vx := l2 * apx - t * abx) (vy := l2 * apy - t * aby) hu
      (Int.mul_nonneg hl2.le hd) (by
        have a1 := Int.mul_lt_mul_of_pos_left h1 (show 0 < l2 - t by omega)
        have a2 := Int.mul_lt_mul_of_pos_left h2 hA.2
        linarith)
    -- |V|² = l2 · (ab × ap)² (Lagrange), so one factor l2 cancels
    refine Int.lt_of_mul_lt_mul_left (a := l2) ?_ hl2.le
    subst hl ht
    linarith

theorem farFromSeg_of_outside {p a b : IPt} {d : Int} (hd : 0 ≤ d) {bx : BPoly}
    (ho : (p.x + d < bx.xmin || bx.xmax + d < p.x || p.y + d < bx.ymin || bx.ymax + d < p.y) = true)
    (ha : bx.has a) (hb : bx.has b) : farFromSeg p a b (d * d) = true := by
  simp only [Bool.or_eq_true, decide_eq_true_eq, BPoly.has] at ho ha hb
  rcases ho with ((h | h) | h) | h
  · exact farFromSeg_of_sep p a b 1 0 d (by decide) hd (by omega) (by omega)
  · exact farFromSeg_of_sep p a b (-1) 0 d (by decide) hd (by omega) (by omega)
  · exact farFromSeg_of_sep p a b 0 1 d (by decide) hd (by omega) (by omega)
  · exact farFromSeg_of_sep p a b 0 (-1) d (by decide) hd (by omega) (by omega)

theorem farSegFast_eq (p a b : IPt) (d : Int) (hd : 0 ≤ d) :
    farSegFast p a b d (d * d) = farFromSeg p a b (d * d) := by
  unfold farSegFast
  split_ifs with h
  · -- `mkBPoly [a, b]` unfolds to the box this test is about: `min`/`max` of the two end points
    exact (farFromSeg_of_outside hd (bx := mkBPoly [a, b]) h (mkBPoly_bounds (by simp))
      (mkBPoly_bounds (by simp))).symm
  · rfl

theorem farChainFast_eq (p : IPt) (d : Int) (hd : 0 ≤ d) :
    ∀ l : List IPt, farChainFast p d (d * d) l = farFromChain p (d * d) l
  | [] | [_] => rfl
  | a :: b :: t => by
    rw [farChainFast, farFromChain, farSegFast_eq p a b d hd, farChainFast_eq p d hd (b :: t)]

theorem farPolyFast_eq (p : IPt) (d : Int) (hd : 0 ≤ d) (poly : List IPt) :
    farPolyFast p d (d * d) poly = farFromPoly p (d * d) poly := by
  unfold farPolyFast farFromPoly
  match poly with
  | [] => rfl
  | [a] => exact farSegFast_eq p a a d hd
  | a :: b :: t => exact farChainFast_eq p d hd _

theorem farFromChain_of_forall (p : IPt) (d2 : Int) :
    ∀ l : List IPt, (∀ a ∈ l, ∀ b ∈ l, farFromSeg p a b d2 = true) → farFromChain p d2 l = true
  | [], _ | [_], _ => rfl
  | a :: b :: t, h => by
    rw [farFromChain, h a (by simp) b (by simp),
      farFromChain_of_forall p d2 (b :: t) fun a ha b hb => h a (by simp [ha]) b (by simp [hb])]
    rfl

theorem farFromPoly_of_forall (p : IPt) (d2 : Int) (poly : List IPt)
    (h : ∀ a ∈ poly, ∀ b ∈ poly, farFromSeg p a b d2 = true) : farFromPoly p d2 poly = true := by
  unfold farFromPoly
  match poly with
  | [] => rfl
  | [a] => exact h a (by simp) a (by simp)
  | a :: b :: t =>
    exact farFromChain_of_forall p d2 _ fun a ha b hb => h a (mem_of_mem_closed ha) b (mem_of_mem_closed hb)

end Canvas.C14
