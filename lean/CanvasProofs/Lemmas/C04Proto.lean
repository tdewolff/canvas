import CanvasModel.C04
import CanvasProofs.Lemmas.Basic
/-! The joins the skeleton of `offset()` requests (`joinsFrom`) are the corners among the adjacent pairs of
states, in order (`joinsFrom_eq`); counting joins and caps then is arithmetic of `List.filter`. -/
namespace C04L
open Canvas Canvas.C04
variable {α : Type}

/-- the pairs of states between which `offset()` looks at a join: consecutive states, and
(last, first) when the subpath is closed -/
def adjPairs (first : Seg α) (closed : Bool) : List (Seg α) → List (Seg α × Seg α)
  | [] => []
  | [s] => if closed then [(s, first)] else []
  | s :: t :: rest => (s, t) :: adjPairs first closed (t :: rest)

def isCorner (eqN : Pt α → Pt α → Bool) (p : Seg α × Seg α) : Bool := !eqN p.1.n1 p.2.n0

def joinEv (p : Seg α × Seg α) : Ev α := .join p.1.p1 p.1.n1 p.2.n0 p.1.r1 p.2.r0

variable (eqN : Pt α → Pt α → Bool)

theorem joinOf_eq (s t : Seg α) : joinOf eqN s t = ([(s, t)].filter (isCorner eqN)).map joinEv := by
  by_cases h : eqN s.n1 t.n0 = true <;> simp [joinOf, isCorner, joinEv, h]

theorem joinsFrom_eq (first : Seg α) (closed : Bool) (segs : List (Seg α)) :
    joinsFrom eqN first closed segs = ((adjPairs first closed segs).filter (isCorner eqN)).map joinEv := by
  fun_induction joinsFrom eqN first closed segs with
  | case1 => rfl
  | case2 s h => rw [adjPairs, if_pos h, joinOf_eq]
  | case3 s h => rw [adjPairs, if_neg h]; rfl
  | case4 s t rest ih => rw [ih, joinOf_eq, ← List.map_append, ← List.filter_append]; rfl

theorem filter_isJoin_map (l : List (Seg α × Seg α)) : (l.map joinEv).filter Ev.isJoin = l.map joinEv :=
  List.filter_eq_self.mpr (List.forall_mem_map.mpr fun _ _ => rfl)

theorem filter_isCap_map (l : List (Seg α × Seg α)) : (l.map joinEv).filter Ev.isCap = [] :=
  List.filter_eq_nil_iff.mpr (List.forall_mem_map.mpr fun _ _ => Bool.false_ne_true)

theorem adjPairs_length (first : Seg α) (closed : Bool) : ∀ (s : Seg α) (tl : List (Seg α)),
    (adjPairs first closed (s :: tl)).length = if closed then tl.length + 1 else tl.length
  | s, [] => by cases closed <;> rfl
  | s, t :: rest => by
    rw [adjPairs, List.length_cons, adjPairs_length first closed t rest]
    cases closed <;> rfl

theorem offsetProto_cons [Neg α] (first : Seg α) (rest : List (Seg α))
    (closed strokeOpen : Bool) :
    offsetProto eqN (first :: rest) closed strokeOpen = some
      ⟨joinsFrom eqN first closed (first :: rest) ++
        (if closed || !strokeOpen then [] else
          [.cap (lastSeg first (first :: rest)).p1 (lastSeg first (first :: rest)).n1,
           .cap first.p0 (pneg first.n0)]),
       closed || strokeOpen, if closed then some true else if strokeOpen then none else some false⟩ := by
  cases closed <;> cases strokeOpen <;> simp [offsetProto]

end C04L
