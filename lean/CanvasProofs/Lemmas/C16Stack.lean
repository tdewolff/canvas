import CanvasModel.C16.Stack
import Mathlib.Tactic.Ring
import Mathlib.Tactic.Linarith.Frontend
set_option linter.unusedSectionVars false
namespace Canvas.C16
variable {K : Type} [Field K] [LinearOrder K] [IsStrictOrderedRing K]

/-- consecutive baselines are exactly one line height apart: bottom of the upper line + ascent of the
lower line, both scaled by the line spacing -/
def Gapped (ls : K) : List K → List (LM K) → Prop
  | y1 :: y2 :: ys, l1 :: l2 :: r => y2 - y1 = l1.bot * ls + l2.asc * ls ∧ Gapped ls (y2 :: ys) (l2 :: r)
  | _, _ => True

theorem gapped_cons (ls y1 : K) (ys : List K) (l1 : LM K) (r : List (LM K)) :
    Gapped ls (y1 :: ys) (l1 :: r) ↔
      (∀ y2 ∈ ys.head?, ∀ l2 ∈ r.head?, y2 - y1 = l1.bot * ls + l2.asc * ls) ∧ Gapped ls ys r :=
  match ys, r with
  | y2 :: ys, l2 :: r => by
    simp only [Gapped, List.head?_cons, Option.mem_some_iff, forall_eq']
  | [], _ | _ :: _, [] => by
    simp only [Gapped, List.head?_nil, Option.not_mem_none, IsEmpty.forall_iff, implies_true, and_self]

theorem stackFit_cons (ls height : K) (first : Bool) (y : K) (l : LM K) (r : List (LM K)) :
    stackFit ls height first y (l :: r) =
      let a := if first then l.asc else l.asc * ls
      let q := stackFit ls height false (y + (a + l.bot * ls)) r
      if (!(height == 0)) && height < y + a + l.desc then ([], y) else ((y + a) :: q.1, q.2) :=
  stackFit.eq_2 ..

theorem fit_first (ls height : K) (l0 : LM K) (r : List (LM K)) (first : Bool) (y : K) :
    (stackFit ls height first y (l0 :: r)).1 ≠ [] →
    (stackFit ls height first y (l0 :: r)).1.head? = some (y + if first then l0.asc else l0.asc * ls) := by
  rw [stackFit_cons]
  extract_lets a q
  split
  · exact fun h => absurd rfl h
  · exact fun _ => rfl

theorem fit_none {ls height : K} {lines : List (LM K)} {first : Bool} {y : K} :
    (stackFit ls height first y lines).1 = [] → (stackFit ls height first y lines).2 = y := by
  fun_cases stackFit ls height first y lines
  · exact fun _ => rfl
  · exact fun _ => rfl
  · simp

theorem fit_end {ls height : K} {lines : List (LM K)} {first : Bool} {y : K} : ∀ (v : K) (l : LM K),
    (stackFit ls height first y lines).1.getLast? = some v →
    (lines.take (stackFit ls height first y lines).1.length).getLast? = some l →
    (stackFit ls height first y lines).2 = v + l.bot * ls := by
  fun_induction stackFit ls height first y lines with
  | case1 | case2 => simp
  | case3 first y l r a b h q ih =>
    intro v l' hv hl
    cases hq : q.1 with
    | nil =>
      simp only [hq, List.getLast?_singleton, Option.some.injEq, List.length_cons, List.length_nil,
        List.take_succ_cons, List.take_zero] at hv hl
      subst hv hl
      exact (fit_none hq).trans (add_assoc ..).symm
    | cons v' vs =>
      cases r with
      | nil => simp [q, stackFit] at hq
      | cons l2 r2 =>
        rw [hq] at hv hl ih
        exact ih v l' hv hl

theorem gapped_pairwise {ls : K} (h0 : 0 ≤ ls) : ∀ (ys : List K) (lines : List (LM K)),
    (∀ l ∈ lines, 0 ≤ l.asc ∧ 0 ≤ l.bot) → Gapped ls ys lines →
    (ys.zip lines).Pairwise (fun p q => p.2.bot * ls + q.2.asc * ls ≤ q.1 - p.1)
  | [], _, _, _ | _ :: _, [], _, _ => List.Pairwise.nil
  | [_], _ :: _, _, _ | _ :: _ :: _, [_], _, _ => List.pairwise_singleton _ _
  | y1 :: y2 :: ys, l1 :: l2 :: r, hn, hg => by
    obtain ⟨e, hg⟩ := hg
    obtain ⟨_, hr⟩ := List.forall_mem_cons.mp hn
    have ih := gapped_pairwise h0 (y2 :: ys) (l2 :: r) hr hg
    refine List.pairwise_cons.mpr ⟨fun q hq => ?_, ih⟩
    rcases List.mem_cons.mp hq with rfl | hq
    · exact e.ge
    · -- through the line between them: its own ascent and bottom only add to the distance
      have := (List.pairwise_cons.mp ih).1 q hq
      have h2 := hr l2 List.mem_cons_self
      linarith [mul_nonneg h2.1 h0, mul_nonneg h2.2 h0]

/-- after "remove line gap of last line": the total is the last baseline plus the last descent -/
theorem stackLines_total {cast : Nat → K} {ls height : K} {va : VAlign} {lines : List (LM K)} {v : K} {l : LM K}
    (hv : (stackFit ls height true 0 lines).1.getLast? = some v)
    (hl : (lines.take (stackFit ls height true 0 lines).1.length).getLast? = some l) (he : l.empty = false) :
    (stackLines cast ls height va lines).total = v + l.desc := by
  simp only [stackLines, hl, he, fit_end v l hv hl]
  simp

theorem stackLines_ys (cast : Nat → K) (ls height : K) (va : VAlign) (lines : List (LM K)) :
    (stackLines cast ls height va lines).ys =
      let ys := (stackFit ls height true 0 lines).1
      let free := height - (stackLines cast ls height va lines).total
      match va with
      | .top => ys
      | .center => ys.map (· + free / 2)
      | .bottom => ys.map (· + free)
      | .justify => spread (free / cast (ys.length - 1)) 0 ys := rfl

theorem spread_head (ddy : K) (ys : List K) (d : K) : (spread ddy d ys).head? = ys.head?.map (· + d) := by
  cases ys <;> rfl

theorem spread_getLast (ddy : K) : ∀ (ys : List K) (d v : K), ys.getLast? = some v →
    (spread ddy d ys).getLast? = some (v + (d + ((ys.length - 1 : Nat) : K) * ddy))
  | [y], d, v, h => by
    obtain rfl : y = v := by simpa using h
    simp [spread]
  | y :: y2 :: r, d, v, h => by
    have ih := spread_getLast ddy (y2 :: r) (d + ddy) v (List.getLast?_cons_cons ▸ h)
    simp only [spread, List.getLast?_cons_cons] at ih ⊢
    simp only [ih, List.length_cons, Nat.add_sub_cancel, Nat.cast_add, Nat.cast_one]
    congr 1
    ring

theorem boundsFold_encloses (rs : List (R4 K)) : ∀ (acc : R4 K),
    let b := rs.foldl (R4.add min max) acc
    (b.x0 ≤ acc.x0 ∧ b.y0 ≤ acc.y0 ∧ acc.x1 ≤ b.x1 ∧ acc.y1 ≤ b.y1) ∧
    ∀ r ∈ rs, b.x0 ≤ r.x0 ∧ b.y0 ≤ r.y0 ∧ r.x1 ≤ b.x1 ∧ r.y1 ≤ b.y1 := by
  induction rs with
  | nil => intro acc; simp
  | cons q r ih =>
    intro acc
    simp only [List.foldl_cons]
    obtain ⟨h1, h2⟩ := ih (R4.add min max acc q)
    simp only [R4.add] at h1
    refine ⟨⟨le_trans h1.1 (min_le_left _ _), le_trans h1.2.1 (min_le_left _ _), le_trans (le_max_left _ _) h1.2.2.1,
      le_trans (le_max_left _ _) h1.2.2.2⟩, ?_⟩
    intro t ht
    simp only [List.mem_cons] at ht
    rcases ht with rfl | ht
    · exact ⟨le_trans h1.1 (min_le_right _ _), le_trans h1.2.1 (min_le_right _ _), le_trans (le_max_right _ _) h1.2.2.1,
        le_trans (le_max_right _ _) h1.2.2.2⟩
    · exact h2 t ht

end Canvas.C16
