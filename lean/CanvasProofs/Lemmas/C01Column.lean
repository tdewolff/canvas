import CanvasModel.C01
/-! Induction over sweep-line columns: the winding fields computed by `computeSweepFields` are
the signed crossing sums of the non-vertical segments below (per polygon). Core Lean only. -/
namespace Canvas.C01

/-- signed crossings a segment contributes to (subject, clipping) for everything above it -/
def contrib (s : Seg) (f : Fields) : Int × Int :=
  if s.vertical then (0, 0) else if s.clipping then (f.osw, f.sw) else (f.sw, f.osw)

def sums : List (Seg × Fields) → Int × Int
  | [] => (0, 0)
  | (s, f) :: rest => ((contrib s f).1 + (sums rest).1, (contrib s f).2 + (sums rest).2)

/-- what the fields of a segment must be, given the sums below it: own polygon first -/
def expected (cur : Seg) (sc : Int × Int) : Int × Int := if cur.clipping then (sc.2, sc.1) else (sc.1, sc.2)

def Good : List (Seg × Fields) → Prop
  | [] => True
  | (s, f) :: below => (f.w, f.ow) = expected s (sums below) ∧ Good below

/-- seen from `cur`, a correct non-vertical entry directly below it shows the sums below that entry
plus the entry's own crossing; `computeSweepFields` and `mergeOverlapping` both read their windings
off the entry below in this way -/
theorem expected_above (cur p : Seg) (f : Fields) (sc : Int × Int) (hv : p.vertical = false)
    (hp : (f.w, f.ow) = expected p sc) :
    (if cur.clipping = p.clipping then (f.w + f.sw, f.ow + f.osw) else (f.ow + f.osw, f.w + f.sw))
      = expected cur ((contrib p f).1 + sc.1, (contrib p f).2 + sc.2) := by
  simp only [expected, contrib, hv] at hp ⊢
  cases hc : cur.clipping <;> cases hpc : p.clipping <;> simp_all <;> omega

theorem compute_expected (below : List (Seg × Fields)) (cur : Seg) (h : Good below) :
    ((compute below cur).w, (compute below cur).ow) = expected cur (sums below) := by
  induction below with
  | nil => simp [compute, firstNonVertical, expected, sums]
  | cons hd rest ih =>
    obtain ⟨p, f⟩ := hd
    obtain ⟨hp, hrest⟩ := h
    cases hv : p.vertical with
    | true =>
      have e1 : compute ((p, f) :: rest) cur = compute rest cur := by
        simp [compute, firstNonVertical, hv]
      have e2 : sums ((p, f) :: rest) = sums rest := by
        simp [sums, contrib, hv]
      rw [e1, e2]; exact ih hrest
    | false =>
      rw [sums, ← expected_above cur p f _ hv hp]
      simp only [compute, firstNonVertical, hv, Bool.false_eq_true, if_false]
      split <;> rfl

theorem good_foldColumn (col : List Seg) : Good (foldColumn col) :=
  List.foldlRecOn col _ (motive := Good) trivial fun acc h s _ => ⟨compute_expected acc s h, h⟩

theorem foldColumn_snoc (xs : List Seg) (x : Seg) :
    foldColumn (xs ++ [x]) = (x, compute (foldColumn xs) x) :: foldColumn xs := by
  simp [foldColumn, List.foldl_append]

theorem compute_sw (below : List (Seg × Fields)) (cur : Seg) :
    (compute below cur).sw = selfW cur ∧ (compute below cur).osw = 0 := by
  unfold compute
  split <;> (try split) <;> exact ⟨rfl, rfl⟩

theorem mem_foldColumn (col : List Seg) : ∀ e ∈ foldColumn col, e.1 ∈ col ∧ e.2.sw = selfW e.1 := by
  refine List.foldlRecOn (motive := fun acc : List (Seg × Fields) => ∀ e ∈ acc, e.1 ∈ col ∧ e.2.sw = selfW e.1)
    col _ (fun _ he => nomatch he) (fun acc ih s hs e he => ?_)
  rcases List.mem_cons.mp he with rfl | he
  · exact ⟨hs, (compute_sw acc s).1⟩
  · exact ih e he

theorem good_at {pre : List (Seg × Fields)} {s : Seg} {f : Fields} {below : List (Seg × Fields)}
    (h : Good (pre ++ (s, f) :: below)) : (f.w, f.ow) = expected s (sums below) := by
  induction pre with
  | nil => exact h.1
  | cons x xs ih => exact ih h.2

end Canvas.C01
