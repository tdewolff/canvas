import CanvasModel.C02
import CanvasProofs.Lemmas.C01Column
import CanvasProofs.Lemmas.C01Merge
/-! Column-level theory of Settle. In a column with the invariant `GoodS` the direction Settle gives
an entry is the jump of the fill indicator across it (`dir_eq`); region preservation and alternation
(`column_profile`) and the canonical output column are that fact read along the column. Core Lean only. -/
namespace Canvas.C02
open Canvas.C01 Canvas.Wn

/-- Settle invariant of a processed column (top first): only subject segments, and every entry
either carries the crossing sum of what lies below it, or contributes nothing to what lies above
(`sw = 0`: absorbed by `mergeOverlapping`, or open), or is vertical (skipped by the sums) -/
def GoodS : List (Seg × Fields) → Prop
  | [] => True
  | (s, f) :: below =>
    s.clipping = false ∧ (f.w = (sums below).1 ∨ f.sw = 0 ∨ s.vertical = true) ∧ GoodS below

/-- open segments carry no self winding (what `computeSweepFields` leaves for `open`) -/
def OpenZero (L : List (Seg × Fields)) : Prop := ∀ e ∈ L, e.1.open_ = true → e.2.sw = 0

theorem fills_zero (r : Rule) : r.fills 0 = false := by cases r <;> decide

theorem ind_cases (b : Bool) : ind b = 0 ∨ ind b = 1 := by cases b <;> decide

theorem fields_ext {a b : Fields} (h1 : a.w = b.w) (h2 : a.ow = b.ow) (h3 : a.sw = b.sw)
    (h4 : a.osw = b.osw) : a = b := by
  cases a
  cases b
  simp only at h1 h2 h3 h4
  subst h1 h2 h3 h4
  rfl

theorem sums_fst (s : Seg) (f : Fields) (below : List (Seg × Fields)) (hc : s.clipping = false) :
    (sums ((s, f) :: below)).1 = (if s.vertical then 0 else f.sw) + (sums below).1 := by
  simp only [sums, contrib, hc]
  cases s.vertical <;> simp

theorem w_of_expected {s : Seg} {f : Fields} {sc : Int × Int} (hc : s.clipping = false)
    (h : (f.w, f.ow) = expected s sc) : f.w = sc.1 := by
  simp only [expected, hc] at h
  exact (Prod.mk.inj h).1

theorem goodS_suffix {A L : List (Seg × Fields)} (h : GoodS (A ++ L)) : GoodS L := by
  induction A with
  | nil => exact h
  | cons e A ih => obtain ⟨s, f⟩ := e; exact ih h.2.2

theorem resSW_of_sw_zero (r : Rule) {f : Fields} (h : f.sw = 0) : resSW r f = 0 := by
  simp [resSW, h]

theorem resSW_range (r : Rule) (f : Fields) : resSW r f = -1 ∨ resSW r f = 0 ∨ resSW r f = 1 := by
  unfold resSW
  cases r.fills (f.w + f.sw) <;> cases r.fills f.w <;> decide

theorem resSW_closed (r : Rule) {s : Seg} (f : Fields) (hop : s.open_ = false) :
    resSW r f = if keep r s f then (if r.fills (f.w + f.sw) then 1 else -1) else 0 := by
  unfold keep resSW
  rw [hop]
  cases r.fills f.w <;> cases r.fills (f.w + f.sw) <;> rfl

/-- direction of an entry in the canonical result; a vertical entry does not cross the line -/
def dir (r : Rule) (e : Seg × Fields) : Int := if e.1.vertical then 0 else resSW r e.2

theorem resSum_cons (r : Rule) (s : Seg) (f : Fields) (below : List (Seg × Fields)) :
    resSum r ((s, f) :: below) = dir r (s, f) + resSum r below := rfl

theorem keptDirs_cons (r : Rule) (s : Seg) (f : Fields) (below : List (Seg × Fields)) :
    keptDirs r ((s, f) :: below) =
      if dir r (s, f) = 0 then keptDirs r below else dir r (s, f) :: keptDirs r below := by
  simp only [keptDirs, dir]
  cases s.vertical <;> simp

/-- `resSW` compares the fill at `f.w` and `f.w + f.sw`; the invariant makes these the crossing sums
below and above the entry, or makes the entry contribute to neither the sums nor the result -/
theorem dir_eq (r : Rule) {s : Seg} {f : Fields} {below : List (Seg × Fields)}
    (h : GoodS ((s, f) :: below)) :
    dir r (s, f) = ind (r.fills (sums ((s, f) :: below)).1) - ind (r.fills (sums below).1) := by
  obtain ⟨hc, hw, -⟩ := h
  rw [sums_fst s f below hc]
  simp only [dir]
  cases hv : s.vertical
  · rcases hw with hw | hw | hw
    · simp only [resSW, hw, Int.add_comm, Bool.false_eq_true, if_false]
    · simp [resSW, hw]
    · rw [hv] at hw; cases hw
  · simp

theorem altDown_step {b' b : Bool} {ds : List Int} (h : altDown b ds = true) :
    altDown b' (if ind b' - ind b = 0 then ds else (ind b' - ind b) :: ds) = true := by
  cases b' <;> cases b <;> simpa [ind, altDown] using h

theorem column_profile (r : Rule) (L : List (Seg × Fields)) (h : GoodS L) :
    resSum r L = ind (r.fills (sums L).1) ∧ altDown (r.fills (sums L).1) (keptDirs r L) = true := by
  induction L with
  | nil => simp [resSum, keptDirs, altDown, sums, fills_zero, ind]
  | cons e below ih =>
    obtain ⟨s, f⟩ := e
    obtain ⟨h1, h2⟩ := ih h.2.2
    rw [resSum_cons, keptDirs_cons, dir_eq r h, h1]
    exact ⟨Int.sub_add_cancel _ _, altDown_step h2⟩

theorem resSum_01 (r : Rule) (L : List (Seg × Fields)) (h : GoodS L) : resSum r L = 0 ∨ resSum r L = 1 := by
  rw [(column_profile r L h).1]; exact ind_cases _

def CanonEntry (s : Seg) (f : Fields) : Prop :=
  s.clipping = false ∧ s.vertical = false ∧ f.ow = 0 ∧ f.osw = 0 ∧ f.sw = selfW s ∧
    (f.w = 0 ∨ f.w = 1) ∧ (f.w + f.sw = 0 ∨ f.w + f.sw = 1)

/-- canonical column: subject only, no vertical entries, self windings as `computeSweepFields` sets
them, and the winding number is 0 or 1 below and above every edge -/
def Canonical (L : List (Seg × Fields)) : Prop := ∀ e ∈ L, CanonEntry e.1 e.2

theorem canonical_cons {s : Seg} {f : Fields} {L : List (Seg × Fields)} :
    Canonical ((s, f) :: L) ↔ CanonEntry s f ∧ Canonical L := List.forall_mem_cons

theorem outCol_cons (r : Rule) {s : Seg} {f : Fields} (below : List (Seg × Fields))
    (hc : s.clipping = false) (ho : s.open_ = true → f.sw = 0) :
    (dir r (s, f) = 0 ∧ outCol r ((s, f) :: below) = outCol r below) ∨
    ∃ s', outCol r ((s, f) :: below) = (s', ⟨resSum r below, 0, dir r (s, f), 0⟩) :: outCol r below ∧
      s'.clipping = false ∧ s'.vertical = false ∧ selfW s' = dir r (s, f) := by
  simp only [outCol, dir]
  cases hv : s.vertical
  · simp only [Bool.false_eq_true, if_false]
    cases hop : s.open_
    · by_cases hz : resSW r f = 0
      · exact Or.inl ⟨hz, by simp [hz]⟩
      · refine Or.inr ⟨outSeg (resSW r f), by simp [hz], rfl, rfl, ?_⟩
        rcases resSW_range r f with h | h | h
        · rw [h]; decide
        · exact absurd h hz
        · rw [h]; decide
    · rw [resSW_of_sw_zero r (ho hop)]
      exact Or.inr ⟨s, by simp, hc, hv, by simp [selfW, hop]⟩
  · exact Or.inl ⟨rfl, by simp⟩

theorem outCol_spec (r : Rule) (L : List (Seg × Fields)) (h : GoodS L) (ho : OpenZero L) :
    sums (outCol r L) = (resSum r L, 0) ∧ Good (outCol r L) ∧ Canonical (outCol r L) := by
  induction L with
  | nil => exact ⟨rfl, trivial, fun e he => nomatch he⟩
  | cons e below ih =>
    obtain ⟨s, f⟩ := e
    obtain ⟨hs, hg, hk⟩ := ih h.2.2 (fun x hx => ho x (List.mem_cons_of_mem _ hx))
    rw [resSum_cons]
    rcases outCol_cons r below h.1 (ho (s, f) List.mem_cons_self) with ⟨hd, he⟩ | ⟨s', he, hc', hv', hsw⟩
    · rw [he, hd, Int.zero_add]; exact ⟨hs, hg, hk⟩
    · rw [he]
      refine ⟨by simp [sums, contrib, hc', hv', hs], ⟨by simp [expected, hc', hs], hg⟩,
        canonical_cons.mpr ⟨⟨hc', hv', rfl, rfl, hsw.symm, resSum_01 r below h.2.2, ?_⟩, hk⟩⟩
      rw [Int.add_comm, ← resSum_cons]; exact resSum_01 r _ h

theorem goodS_of_good (L : List (Seg × Fields)) (hg : Good L) (hc : ∀ e ∈ L, e.1.clipping = false) :
    GoodS L := by
  induction L with
  | nil => trivial
  | cons e below ih =>
    obtain ⟨s, f⟩ := e
    have hcs : s.clipping = false := hc (s, f) List.mem_cons_self
    exact ⟨hcs, Or.inl (w_of_expected hcs hg.1), ih hg.2 (fun x hx => hc x (List.mem_cons_of_mem _ hx))⟩

-- the rules under which a winding number in {0,1} is filled iff it is 1
def threeRules (r : Rule) : Prop := r = .nonZero ∨ r = .evenOdd ∨ r = .positive

theorem ind_fills_01 {r : Rule} (hr : threeRules r) {w : Int} (hw : w = 0 ∨ w = 1) : ind (r.fills w) = w := by
  rcases hr with rfl | rfl | rfl <;> rcases hw with rfl | rfl <;> decide

/-- `w, ow` of the recomputed fields and of `f` are both what `Good` prescribes, `sw, osw` what
`computeSweepFields` sets -/
theorem foldColumn_segsOf {L : List (Seg × Fields)} (hg : Good L) (hk : Canonical L) : foldColumn (segsOf L) = L := by
  induction L with
  | nil => rfl
  | cons e below ih =>
    obtain ⟨s, f⟩ := e
    obtain ⟨⟨-, -, -, hosw, hsw, -, -⟩, hkb⟩ := canonical_cons.mp hk
    have hc := good_foldColumn (segsOf below ++ [s])
    have e1 : segsOf ((s, f) :: below) = segsOf below ++ [s] := by simp [segsOf]
    rw [foldColumn_snoc, ih hg.2 hkb] at hc
    obtain ⟨hw, how⟩ := Prod.mk.inj (hc.1.trans hg.1.symm)
    rw [e1, foldColumn_snoc, ih hg.2 hkb, fields_ext hw how ((compute_sw below s).1.trans hsw.symm)
      ((compute_sw below s).2.trans hosw.symm)]

theorem sums_append_congr (A : List (Seg × Fields)) {L1 L2 : List (Seg × Fields)} (hs : sums L1 = sums L2) :
    sums (A ++ L1) = sums (A ++ L2) := by
  induction A with
  | nil => exact hs
  | cons x A ih => obtain ⟨s, f⟩ := x; simp only [List.cons_append, sums, ih]

theorem goodS_congr_below {A L1 L2 : List (Seg × Fields)} (hs : sums L1 = sums L2) (h2 : GoodS L2)
    (h : GoodS (A ++ L1)) : GoodS (A ++ L2) := by
  induction A with
  | nil => exact h2
  | cons e A ih =>
    obtain ⟨s, f⟩ := e
    have hw : f.w = (sums (A ++ L1)).1 ∨ f.sw = 0 ∨ s.vertical = true := h.2.1
    rw [sums_append_congr A hs] at hw
    exact ⟨h.1, hw, ih h.2.2⟩

section Merge
open Canvas.C01Merge

/-- the absorbing loop zeroes a prefix of the chain in place (`sw = 0`) and leaves the rest as it is -/
theorem goodS_absorb (s : Ent) (below : List Ent) (hg : GoodS (pairs below)) :
    GoodS (pairs ((absorb s below).2.1 ++ (absorb s below).2.2)) ∧ GoodS (pairs (absorb s below).2.2) := by
  fun_induction absorb s below with
  | case1 s => exact ⟨trivial, trivial⟩
  | case2 s p rest hc => exact ⟨hg, hg⟩
  | case3 s p rest hc r ih =>
    obtain ⟨h1, h2⟩ := ih hg.2.2
    exact ⟨⟨hg.1, Or.inr (Or.inl rfl), h1⟩, h2⟩

/-- `hp` is needed because `mergeOverlapping` does not skip vertical segments as
`computeSweepFields` does -/
theorem goodS_merge (s : Ent) (below : List Ent) (hg : GoodS (pairs (s :: below)))
    (hp : ∀ p rest', (absorb s below).2.2 = p :: rest' →
      p.seg.vertical = false ∧ p.f.w = (sums (pairs rest')).1) :
    GoodS (pairs ((merge s below).s :: (merge s below).below)) := by
  rcases merge_cases s below with ⟨e1, e2, -⟩ | ⟨e1, e2, -⟩
  · rw [e1, e2]; exact hg
  · obtain ⟨hall, hrest⟩ := goodS_absorb s below hg.2.2
    have hcl : (absorb s below).1.seg.clipping = false := (absorb_seg_flags s below).1.trans hg.1
    rw [e1, e2]
    refine ⟨hcl, Or.inl ?_, hall⟩
    -- the receiver's new `w` is read off the first entry that was not absorbed
    show (mergedFields (absorb s below).1 (absorb s below).2.2).w
      = (sums (pairs ((absorb s below).2.1 ++ (absorb s below).2.2))).1
    rw [sums_zeroed _ _ (absorb_zeroed s below)]
    cases hr : (absorb s below).2.2 with
    | nil => rfl
    | cons p rest' =>
      obtain ⟨hpv, hpw⟩ := hp p rest' hr
      have hpc : p.seg.clipping = false := by rw [hr] at hrest; exact hrest.1
      rw [sums_cons]
      simp only [mergedFields, hcl, hpc, if_true, contrib, hpv, Bool.false_eq_true, if_false]
      omega

end Merge

end Canvas.C02
