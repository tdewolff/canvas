import CanvasModel.C15Heap
import CanvasProofs.Lemmas.Basic
namespace C15.Heap
open Canvas.C15.Heap
variable {α : Type} (zero : α) (cd : α → List α → α → List α × Bool)

def _root_.Canvas.C15.Heap.Op.isCallerWrite : Op α → Bool
  | .callerWrite .. => true
  | _ => false

theorem write_length (h : Heap α) (arr i : Nat) (v : α) : (write h arr i v).length = h.length := by
  simp [write]

theorem write_getD_ne (h : Heap α) {arr a : Nat} (i : Nat) (v : α) (hE : arr ≠ a) :
    (write h arr i v).getD a [] = h.getD a [] := by
  simp [write, List.getD_eq_getElem?_getD, List.getElem?_set_ne hE]

theorem write_getD_length (h : Heap α) (arr i : Nat) (v : α) (a : Nat) :
    ((write h arr i v).getD a []).length = (h.getD a []).length := by
  by_cases hE : arr = a
  · subst hE
    by_cases ha : arr < h.length <;> simp [write, List.getD_eq_getElem?_getD, ha]
  · rw [write_getD_ne h i v hE]

theorem step_heap (op : Op α) (s : State α) :
    (step zero cd op s).heap = s.heap ∨ (∃ x, (step zero cd op s).heap = s.heap ++ [x]) ∨
    (op.isCallerWrite = true ∧
      ∃ arr i v, arr ∈ s.owned ∧ (step zero cd op s).heap = write s.heap arr i v) := by
  cases op with
  | callerWrite arr i v =>
    simp only [step]; split
    · rename_i hc
      exact Or.inr (Or.inr ⟨rfl, arr, i, v, List.contains_iff_mem.mp (Bool.and_eq_true_iff.mp hc).1, rfl⟩)
    · exact Or.inl rfl
  | callerAlloc _ | drawPath _ => exact Or.inr (Or.inl ⟨_, rfl⟩)
  | setDashes _ _ | pop =>
    simp only [step]
    split <;> exact Or.inl rfl
  | push | resetStyle => exact Or.inl rfl

theorem lib_never_writes (op : Op α) (s : State α) (h : op.isCallerWrite = false) :
    s.heap <+: (step zero cd op s).heap := by
  rcases step_heap zero cd op s with e | ⟨x, e⟩ | ⟨hw, _⟩
  · rw [e]; exact List.prefix_refl _
  · rw [e]; exact List.prefix_append _ _
  · rw [h] at hw; cases hw

theorem heap_length_mono (op : Op α) (s : State α) :
    s.heap.length ≤ (step zero cd op s).heap.length := by
  rcases step_heap zero cd op s with e | ⟨x, e⟩ | ⟨_, arr, i, v, _, e⟩ <;> rw [e]
  · exact Nat.le_refl _
  · rw [List.length_append]; exact Nat.le_add_right _ _
  · rw [write_length]; exact Nat.le_refl _

theorem step_getD_length (op : Op α) (s : State α) {a : Nat} (ha : a < s.heap.length) :
    (((step zero cd op s).heap).getD a []).length = (s.heap.getD a []).length := by
  rcases step_heap zero cd op s with e | ⟨x, e⟩ | ⟨_, arr, i, v, _, e⟩
  · rw [e]
  · rw [e, Canvas.getD_append_left _ _ ha]
  · rw [e, write_getD_length]

theorem step_getD_notOwned (op : Op α) (s : State α) {a : Nat} (ha : a < s.heap.length)
    (hno : a ∉ s.owned) : ((step zero cd op s).heap).getD a [] = s.heap.getD a [] := by
  rcases step_heap zero cd op s with e | ⟨x, e⟩ | ⟨_, arr, i, v, harr, e⟩
  · rw [e]
  · rw [e, Canvas.getD_append_left _ _ ha]
  · rw [e]
    exact write_getD_ne _ i v (fun hE => hno (hE ▸ harr))

def SliceOK (h : Heap α) (sl : Slice) : Prop := sl.arr < h.length ∧ inRange h sl = true

/-- invariant: owned ids are allocated; recorded layers point into allocated,
non-owned arrays; every reachable slice header (`cur`, `stack`, `layers`) is allocated and in range;
array 0 (backing array of `DefaultStyle.Dashes`) exists -/
structure Inv (s : State α) : Prop where
  heap_pos : 0 < s.heap.length
  owned_lt : ∀ a ∈ s.owned, a < s.heap.length
  layers_ok : ∀ l ∈ s.layers, SliceOK s.heap l.dashes ∧ l.dashes.arr ∉ s.owned
  cur_ok : SliceOK s.heap s.cur.dashes
  stack_ok : ∀ t ∈ s.stack, SliceOK s.heap t.dashes

theorem Inv_init : Inv (init zero) := by
  constructor <;> simp [init, SliceOK, inRange]

theorem SliceOK_step (op : Op α) (s : State α) (sl : Slice) (h : SliceOK s.heap sl) :
    SliceOK (step zero cd op s).heap sl := by
  refine ⟨Nat.lt_of_lt_of_le h.1 (heap_length_mono zero cd op s), ?_⟩
  have := h.2
  simp only [inRange, decide_eq_true_eq] at this ⊢
  rw [step_getD_length zero cd op s h.1]; exact this

theorem Inv_step (op : Op α) (s : State α) (hi : Inv s) : Inv (step zero cd op s) := by
  have hS := fun sl => SliceOK_step zero cd op s sl
  have hL := heap_length_mono zero cd op s
  -- whatever happens to the heap keeps what the state had reachable
  have hi' : Inv { s with heap := (step zero cd op s).heap } :=
    ⟨Nat.lt_of_lt_of_le hi.heap_pos hL, fun a ha => Nat.lt_of_lt_of_le (hi.owned_lt a ha) hL,
      fun l hl => ⟨hS _ (hi.layers_ok l hl).1, (hi.layers_ok l hl).2⟩,
      hS _ hi.cur_ok, fun t ht => hS _ (hi.stack_ok t ht)⟩
  cases op with
  | callerAlloc a =>
    refine { hi' with owned_lt := fun a' ha' => ?_, layers_ok := fun l hl => ?_ }
    · rcases List.mem_append.mp ha' with ha' | ha'
      · exact hi'.owned_lt a' ha'
      · rw [List.mem_singleton.mp ha']; simp [step]
    · refine ⟨(hi'.layers_ok l hl).1, fun h => ?_⟩
      rcases List.mem_append.mp h with h | h
      · exact (hi.layers_ok l hl).2 h
      · exact Nat.lt_irrefl _ (List.mem_singleton.mp h ▸ (hi.layers_ok l hl).1.1)
  | callerWrite arr i v =>
    have e : step zero cd (.callerWrite arr i v) s =
        { s with heap := (step zero cd (.callerWrite arr i v) s).heap } := by
      simp only [step]; split <;> rfl
    rw [e]; exact hi'
  | setDashes off sl =>
    simp only [step]; split
    · rename_i hc
      simp only [Bool.and_eq_true, List.contains_iff_mem] at hc
      exact { hi with cur_ok := ⟨hi.owned_lt _ hc.1, hc.2⟩ }
    · exact hi
  | push =>
    exact { hi with
      stack_ok := fun t ht => (List.mem_cons.mp ht).elim (fun e => e ▸ hi.cur_ok) (hi.stack_ok t) }
  | pop =>
    simp only [step]; split
    · exact hi
    · rename_i t rest hst
      have hso := hi.stack_ok
      rw [hst] at hso
      exact { hi with cur_ok := hso t List.mem_cons_self,
                      stack_ok := fun t' ht' => hso t' (List.mem_cons_of_mem _ ht') }
  | resetStyle =>
    exact { hi with cur_ok := ⟨hi.heap_pos, by simp [inRange, step]⟩ }
  | drawPath len =>
    refine { hi' with layers_ok := fun l hl => ?_ }
    rcases List.mem_append.mp hl with hl | hl
    · exact hi'.layers_ok l hl
    · rw [List.mem_singleton.mp hl]
      exact ⟨⟨by simp [step], by simp [step, inRange]⟩, fun h => Nat.lt_irrefl _ (hi.owned_lt _ h)⟩

theorem Inv_run (ops : List (Op α)) {s : State α} (hi : Inv s) : Inv (run zero cd ops s) := by
  induction ops generalizing s with
  | nil => exact hi
  | cons op ops ih => exact ih (Inv_step zero cd op s hi)

theorem layers_prefix_step (op : Op α) (s : State α) : s.layers <+: (step zero cd op s).layers := by
  cases op with
  | drawPath len => exact List.prefix_append _ _
  -- these test their argument (the stack) first and keep the layers either way
  | callerWrite _ _ _ | setDashes _ _ | pop =>
    simp only [step]
    split <;> exact List.prefix_refl _
  | _ => exact List.prefix_refl _

theorem layers_prefix (ops : List (Op α)) (s : State α) : s.layers <+: (run zero cd ops s).layers := by
  induction ops generalizing s with
  | nil => exact List.prefix_refl _
  | cons op ops ih => exact List.IsPrefix.trans (layers_prefix_step zero cd op s) (ih _)

theorem recorded_immune (ops : List (Op α)) {s : State α} (hs : Inv s) {l : HLayer α}
    (hl : l ∈ s.layers) : deref (run zero cd ops s).heap l.dashes = deref s.heap l.dashes := by
  induction ops generalizing s with
  | nil => rfl
  | cons op ops ih =>
    obtain ⟨⟨h1, _⟩, h2⟩ := hs.layers_ok l hl
    have hl' : l ∈ (step zero cd op s).layers := (layers_prefix_step zero cd op s).subset hl
    simp only [run]
    rw [ih (Inv_step zero cd op s hs) hl']
    simp only [deref, step_getD_notOwned zero cd op s h1 h2]

/-- the pure value-level machine: dashes are Lists (what the main model `CanvasModel/C15.lean` uses) -/
structure VState (α : Type) where
  cur : α × List α
  stack : List (α × List α)
  layers : List (α × List α × Bool)

def absState (s : State α) : VState α :=
  ⟨(s.cur.dashOff, deref s.heap s.cur.dashes),
   s.stack.map (fun t => (t.dashOff, deref s.heap t.dashes)),
   s.layers.map (fun l => (l.dashOff, deref s.heap l.dashes, l.stroke))⟩

inductive VOp (α : Type)
  | setDashes (off : α) (d : List α)
  | push | pop
  | resetStyle
  | drawPath (len : α)
  | nop

/-- the value-level reading of a heap-level operation in a given state: `setDashes` passes the
*value* of the slice at the time of the call; caller allocations, (ignored) caller writes and
rejected `setDashes` are invisible -/
def toV : Op α → State α → VOp α
  | .callerAlloc _, _ => .nop
  | .callerWrite .., _ => .nop
  | .setDashes off sl, s =>
    if s.owned.contains sl.arr && inRange s.heap sl then .setDashes off (deref s.heap sl) else .nop
  | .push, _ => .push
  | .pop, _ => .pop
  | .resetStyle, _ => .resetStyle
  | .drawPath len, _ => .drawPath len

def vstep : VOp α → VState α → VState α
  | .setDashes off d, v => { v with cur := (off, d) }
  | .push, v => { v with stack := v.cur :: v.stack }
  | .pop, v =>
    match v.stack with
    | [] => v
    | t :: rest => { v with cur := t, stack := rest }
  | .resetStyle, v => { v with cur := (zero, []) }
  | .drawPath len, v =>
    { v with layers := v.layers ++ [(v.cur.1, (cd v.cur.1 v.cur.2 len).1, (cd v.cur.1 v.cur.2 len).2)] }
  | .nop, v => v

def vrun : List (VOp α) → VState α → VState α
  | [], v => v
  | op :: ops, v => vrun ops (vstep zero cd op v)

def toVs : List (Op α) → State α → List (VOp α)
  | [], _ => []
  | op :: ops, s => toV op s :: toVs ops (step zero cd op s)

theorem deref_of_prefix {h h' : Heap α} (hp : h <+: h') {sl : Slice} (hsl : sl.arr < h.length) :
    deref h' sl = deref h sl := by
  obtain ⟨t, rfl⟩ := hp
  rw [deref, Canvas.getD_append_left h t hsl]
  rfl

theorem deref_fresh (h : Heap α) (a : List α) : deref (h ++ [a]) ⟨h.length, 0, a.length⟩ = a := by
  simp [deref, List.getD_eq_getElem?_getD]

theorem absState_prefix {s : State α} {h' : Heap α} (hi : Inv s) (hp : s.heap <+: h') :
    absState { s with heap := h' } = absState s := by
  simp only [absState, deref_of_prefix hp hi.cur_ok.1]
  congr 1
  · exact List.map_congr_left fun t ht => by rw [deref_of_prefix hp (hi.stack_ok t ht).1]
  · exact List.map_congr_left fun l hl => by rw [deref_of_prefix hp (hi.layers_ok l hl).1.1]

theorem value_semantics_step (op : Op α) (s : State α) (hw : op.isCallerWrite = false) (hi : Inv s) :
    absState (step zero cd op s) = vstep zero cd (toV op s) (absState s) := by
  cases op with
  | callerWrite arr i v => cases hw
  | callerAlloc a =>
    exact absState_prefix hi (List.prefix_append _ _)
  | setDashes off sl =>
    simp only [step, toV]; split
    · simp [vstep, absState]
    · simp [vstep]
  | push => simp [step, toV, vstep, absState]
  | pop =>
    simp only [step, toV, vstep]
    cases hst : s.stack with
    | nil => simp [absState, hst]
    | cons t rest => simp [absState, hst]
  | resetStyle => simp [step, toV, vstep, absState, deref]
  | drawPath len =>
    have h0 := absState_prefix hi
      (List.prefix_append _ [(cd s.cur.dashOff (deref s.heap s.cur.dashes) len).1])
    simp only [absState, VState.mk.injEq] at h0
    simp only [step, toV, vstep, absState, List.map_append, List.map_cons, List.map_nil, deref_fresh,
      h0.1, h0.2.1, h0.2.2]

theorem value_semantics_run (ops : List (Op α)) {s : State α}
    (hw : ∀ op ∈ ops, op.isCallerWrite = false) (hi : Inv s) :
    absState (run zero cd ops s) = vrun zero cd (toVs zero cd ops s) (absState s) := by
  induction ops generalizing s with
  | nil => rfl
  | cons op ops ih =>
    simp only [run, toVs, vrun]
    rw [ih (fun o ho => hw o (List.mem_cons_of_mem _ ho)) (Inv_step zero cd op s hi),
      value_semantics_step zero cd op s (hw op (List.mem_cons_self ..)) hi]

/-- what an observer sees is a function of the abstraction: with `value_semantics_run`, it cannot tell
the heap run from the value run -/
theorem observe_eq_abs (s : State α) :
    observe s = ((absState s).cur.2, (absState s).layers.map (fun l => (l.2.1, l.2.2))) := by
  simp [observe, absState, Function.comp_def]

/-- stack-balanced histories: `bal d ops` = starting `d` levels deep, `ops` never pops below its
own starting level and ends at that level -/
def bal : Nat → List (Op α) → Bool
  | d, [] => d == 0
  | d, .push :: ops => bal (d + 1) ops
  | 0, .pop :: _ => false
  | d + 1, .pop :: ops => bal d ops
  | d, _ :: ops => bal d ops

theorem run_append (ops ops' : List (Op α)) (s : State α) :
    run zero cd (ops ++ ops') s = run zero cd ops' (run zero cd ops s) := by
  induction ops generalizing s with
  | nil => rfl
  | cons op ops ih => simp only [List.cons_append, run, ih]

theorem bal_stack (ops : List (Op α)) (d : Nat) (s : State α) (hb : bal d ops = true) :
    (run zero cd ops s).stack = s.stack.drop d := by
  induction ops generalizing d s with
  | nil => rw [beq_iff_eq.mp hb]; rfl
  | cons op ops ih =>
    cases op with
    | push =>
      simp only [bal] at hb
      exact ih (d + 1) _ hb
    | pop =>
      cases d with
      | zero => simp [bal] at hb
      | succ d =>
        simp only [bal] at hb
        refine (ih d _ hb).trans ?_
        simp only [step]
        split <;> simp [*]
    -- the other operations leave the stack alone and count for nothing in `bal`; two of them test their argument first
    | callerWrite _ _ _ | setDashes _ _ =>
      have hb' : bal d ops = true := by cases d <;> exact hb
      refine (ih d _ hb').trans ?_
      simp only [step]
      split <;> rfl
    | _ =>
      have hb' : bal d ops = true := by cases d <;> exact hb
      exact ih d _ hb'

theorem push_pop_header (s : State α) (ops : List (Op α)) (hb : bal 0 ops = true) :
    (run zero cd (.push :: ops ++ [.pop]) s).cur = s.cur ∧
    (run zero cd (.push :: ops ++ [.pop]) s).stack = s.stack := by
  have h : (run zero cd ops (step zero cd .push s)).stack = s.cur :: s.stack :=
    bal_stack zero cd ops 0 _ hb
  rw [List.cons_append, run, run_append]
  generalize run zero cd ops (step zero cd .push s) = s' at h
  simp [run, step, h]

theorem heap_prefix_run {ops : List (Op α)} (s : State α)
    (hw : ∀ op ∈ ops, op.isCallerWrite = false) : s.heap <+: (run zero cd ops s).heap := by
  induction ops generalizing s with
  | nil => exact List.prefix_refl _
  | cons op ops ih =>
    exact List.IsPrefix.trans (lib_never_writes zero cd op s (hw op (List.mem_cons_self ..)))
      (ih _ (fun o ho => hw o (List.mem_cons_of_mem _ ho)))

theorem push_pop_value (s : State α) (ops : List (Op α))
    (hw : ∀ op ∈ ops, op.isCallerWrite = false) (hb : bal 0 ops = true) (hi : Inv s) :
    (absState (run zero cd (.push :: ops ++ [.pop]) s)).cur = (absState s).cur := by
  have hw' : ∀ op ∈ Op.push :: ops ++ [Op.pop], op.isCallerWrite = false :=
    Canvas.forall_mem_snoc (List.forall_mem_cons.mpr ⟨rfl, hw⟩) rfl
  show (_, deref _ _) = _
  rw [(push_pop_header zero cd s ops hb).1,
    deref_of_prefix (heap_prefix_run zero cd s hw') hi.cur_ok.1]
  rfl

/-! ## Aliasing is real (Go semantics of `SetDashes(off, d...)`: the variadic slice is stored as
it is) — but only for the *current* style, never for a recorded layer -/

section Aliasing
private def cdId : Nat → List Nat → Nat → List Nat × Bool := fun _ d _ => (d, true)

/-- the caller's later `d[0] = 9` is visible through the context's current dashes -/
example :
    (observe (run 0 cdId [.callerAlloc [1, 2, 3], .setDashes 0 ⟨1, 0, 3⟩, .callerWrite 1 0 9]
      (init 0))).1 = [9, 2, 3] := by decide

/-- …while the layer drawn before the write still reads `[1,2,3]` -/
example :
    observe (run 0 cdId [.callerAlloc [1, 2, 3], .setDashes 0 ⟨1, 0, 3⟩, .drawPath 10,
      .callerWrite 1 0 9] (init 0)) = ([9, 2, 3], [([1, 2, 3], true)]) := by decide

/-- a pushed state aliases too: the write is seen again after Pop -/
example :
    (observe (run 0 cdId [.callerAlloc [1, 2, 3], .setDashes 0 ⟨1, 0, 3⟩, .push, .resetStyle,
      .callerWrite 1 0 9, .pop] (init 0))).1 = [9, 2, 3] := by decide
end Aliasing

end C15.Heap
