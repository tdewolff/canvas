import CanvasModel.C05
import Mathlib.Tactic.Ring

/-! Both fuel loops are followed at an index written `J % n`, so that `J` counts the pattern pieces
passed without wrapping. At the end, apart from the loops: what the steps of `dashCanonical` return
(for `C05.canonical_shape_partial`) and `nearB_mono` (for `C05.sampleOk_mono`). -/
set_option linter.unusedSectionVars false
namespace C05L
open Canvas.C05

/-- the index update `i++; if i == len(d) { i = 0 }` of both loops -/
theorem wrap_eq_succ_mod {n J : Nat} (hn : 0 < n) : (if J % n + 1 = n then 0 else J % n + 1) = (J + 1) % n := by
  have h1 : J % n < n := Nat.mod_lt _ hn
  rw [← Nat.mod_add_mod J n 1]
  split
  · next h => rw [h, Nat.mod_self]
  · next h => rw [Nat.mod_eq_of_lt (show J % n + 1 < n by omega)]

theorem mod_mod_even {J n : Nat} (hn : n % 2 = 0) : J % n % 2 = J % 2 :=
  Nat.mod_mod_of_dvd _ (Nat.dvd_of_mod_eq_zero hn)

theorem add_mul_even_mod (j m n : Nat) (hn : n % 2 = 0) : (j + m * n) % 2 = j % 2 := by
  rw [Nat.add_mod, Nat.mul_mod, hn, Nat.mul_zero, Nat.zero_mod, Nat.add_zero, Nat.mod_mod]

theorem add_mod_two_swap {x y c : Nat} (h : (x + c) % 2 = y % 2) : (y + c) % 2 = x % 2 := by
  rw [← Nat.mod_add_mod y, ← h, Nat.mod_add_mod, Nat.add_assoc, ← Nat.mul_two,
    Nat.add_mul_mod_self_right]

theorem mem_stepTwo (bound : Nat) : ∀ (fuel j k : Nat), bound ≤ j + 2 * fuel →
    (k ∈ stepTwo bound fuel j ↔ j ≤ k ∧ k < bound ∧ (k + j) % 2 = 0) := by
  intro fuel
  induction fuel with
  | zero =>
    intro j k h
    exact iff_of_false List.not_mem_nil fun ⟨h1, h2, _⟩ =>
      absurd (Nat.lt_of_le_of_lt h1 h2) (Nat.not_lt.mpr h)
  | succ f ih =>
    intro j k h
    unfold stepTwo
    split
    · next hj =>
      rw [Nat.mul_succ, Nat.add_comm (2 * f), ← Nat.add_assoc] at h
      rw [List.mem_cons, ih (j + 2) k h, ← Nat.add_assoc, Nat.add_mod_right]
      constructor
      · rintro (rfl | ⟨h1, h2, h3⟩)
        · exact ⟨le_refl _, hj, by rw [← Nat.two_mul, Nat.mul_mod_right]⟩
        · exact ⟨Nat.le_of_add_right_le h1, h2, h3⟩
      · rintro ⟨h1, h2, h3⟩
        rcases Nat.eq_or_lt_of_le h1 with rfl | h1
        · exact Or.inl rfl
        · -- `k = j + 1` has the wrong parity
          rcases Nat.eq_or_lt_of_le h1 with rfl | h1
          · rw [Nat.succ_eq_add_one, Nat.add_right_comm, ← Nat.two_mul, Nat.mul_add_mod] at h3
            exact absurd h3 (by decide)
          · exact Or.inr ⟨h1, h2, h3⟩
    · next hj =>
      exact iff_of_false List.not_mem_nil fun ⟨h1, h2, _⟩ => absurd (Nat.lt_of_le_of_lt h1 h2) hj

theorem endsInDash_iff {i : Nat} : endsInDash i = true ↔ i % 2 = 0 := decide_eq_true_iff

/-- `j0` is the parity of the pattern index of piece 0, the last piece `nt` having index `i`. -/
theorem j0_eq (nt i : Nat) : j0 nt i = (nt + i) % 2 := by
  unfold j0 endsInDash
  rw [Nat.add_mod]
  rcases Nat.mod_two_eq_zero_or_one nt with h | h <;>
    rcases Nat.mod_two_eq_zero_or_one i with h' | h' <;> rw [h, h'] <;> rfl

theorem mem_keptMiddle (nt i k : Nat) : k ∈ keptMiddle nt i ↔ k < nt ∧ (nt - k + i) % 2 = 0 := by
  rw [keptMiddle, j0_eq, mem_stepTwo nt (nt + 1) _ k
    (Nat.le_trans (Nat.le_trans (Nat.le_succ nt) (Nat.le_mul_of_pos_left _ Nat.two_pos))
      (Nat.le_add_left _ _)), Nat.add_mod_mod]
  have hpar : k < nt → (k + (nt + i)) % 2 = (nt - k + i) % 2 := fun hk => by
    rw [show k + (nt + i) = nt - k + i + k * 2 by omega, Nat.add_mul_mod_self_right]
  constructor
  · rintro ⟨_, h2, h3⟩
    exact ⟨h2, hpar h2 ▸ h3⟩
  · rintro ⟨h2, h3⟩
    refine ⟨?_, h2, (hpar h2).trans h3⟩
    cases k with
    | zero => exact Nat.le_of_eq h3
    | succ k => exact Nat.le_trans (Nat.le_of_lt_succ (Nat.mod_lt _ Nat.two_pos)) (Nat.succ_le_succ (Nat.zero_le k))

theorem kept_iff_mem (nt i k : Nat) :
    kept nt i k = true ↔ k ∈ keptMiddle nt i ∨ (endsInDash i = true ∧ k = nt) := by
  unfold kept
  rw [Bool.or_eq_true, List.contains_iff_mem, Bool.and_eq_true, beq_iff_eq]

theorem exists_kept_iff (nt i : Nat) (p : Nat → Prop) :
    (∃ k, kept nt i k = true ∧ p k) ↔ (∃ k ∈ keptMiddle nt i, p k) ∨ (endsInDash i = true ∧ p nt) := by
  simp only [kept_iff_mem, or_and_right, exists_or, and_assoc, exists_and_left, exists_eq_left]

theorem kept_eq_true_iff (nt i k : Nat) : kept nt i k = true ↔ k ≤ nt ∧ (nt - k + i) % 2 = 0 := by
  rw [kept_iff_mem, mem_keptMiddle, endsInDash_iff]
  constructor
  · rintro (⟨h, h'⟩ | ⟨h, rfl⟩)
    · exact ⟨Nat.le_of_lt h, h'⟩
    · exact ⟨Nat.le_refl _, by rwa [Nat.sub_self, Nat.zero_add]⟩
  · rintro ⟨h, h'⟩
    rcases Nat.lt_or_eq_of_le h with h | rfl
    · exact Or.inl ⟨h, h'⟩
    · exact Or.inr ⟨by rwa [Nat.sub_self, Nat.zero_add] at h', rfl⟩

/-- `w` is the pattern index of piece `k` itself; the last piece, `nt - k` pieces on, has index `i`. -/
theorem kept_iff_even {nt i k w : Nat} (hk : k ≤ nt) (hw : (w + (nt - k)) % 2 = i % 2) :
    kept nt i k = true ↔ w % 2 = 0 := by
  rw [kept_eq_true_iff, and_iff_right hk, Nat.add_mod, ← hw, ← Nat.add_mod,
    show nt - k + (w + (nt - k)) = w + (nt - k) * 2 by omega, Nat.add_mul_mod_self_right]

variable {K : Type} [Field K] [LinearOrder K] [IsStrictOrderedRing K]

theorem equal_zero_iff (a b : K) : equal 0 a b = true ↔ a = b := by
  unfold equal
  split <;> rename_i h <;> rw [decide_eq_true_eq, sub_nonpos]
  · exact ⟨fun h' => absurd h (not_lt.mpr h'), fun h' => absurd h' (ne_of_lt h)⟩
  · exact ⟨fun h' => le_antisymm h' (not_lt.mp h), le_of_eq⟩

theorem getElem?_cyc (d : List K) (hne : d ≠ []) (J : Nat) : d[J % d.length]? = some (cyc d J) := by
  have : J % d.length < d.length := Nat.mod_lt _ (List.length_pos_iff.mpr hne)
  unfold cyc
  rw [List.getD_eq_getElem?_getD, List.getElem?_eq_getElem this]; rfl

theorem cyc_mem (d : List K) (hne : d ≠ []) (j : Nat) : cyc d j ∈ d :=
  List.mem_of_getElem? (getElem?_cyc d hne j)

theorem cyc_nonneg (d : List K) (h : ∀ x ∈ d, 0 ≤ x) (j : Nat) : 0 ≤ cyc d j := by
  rcases eq_or_ne d [] with rfl | hne
  · exact le_refl _
  · exact h _ (cyc_mem d hne j)

theorem cyc_pos (d : List K) (hne : d ≠ []) (h : ∀ x ∈ d, 0 < x) (j : Nat) : 0 < cyc d j :=
  h _ (cyc_mem d hne j)

theorem cyc_add_length (d : List K) (j : Nat) : cyc d (j + d.length) = cyc d j := by
  unfold cyc; rw [Nat.add_mod_right]

theorem pre_zero (d : List K) : pre d 0 = 0 := rfl

theorem pre_succ (d : List K) (j : Nat) : pre d (j + 1) = pre d j + cyc d j := rfl

theorem pre_mono (d : List K) (h : ∀ x ∈ d, 0 ≤ x) : Monotone (pre d) :=
  monotone_nat_of_le_succ fun j => le_add_of_nonneg_right (cyc_nonneg d h j)

theorem pre_strictMono (d : List K) (hne : d ≠ []) (h : ∀ x ∈ d, 0 < x) : StrictMono (pre d) :=
  strictMono_nat_of_lt_succ fun j => lt_add_of_pos_right _ (cyc_pos d hne h j)

theorem pre_add_length (d : List K) (j : Nat) : pre d (j + d.length) = pre d j + period d := by
  induction j with
  | zero => rw [Nat.zero_add, period, pre_zero, zero_add]
  | succ j ih => rw [Nat.add_right_comm, pre_succ, pre_succ, ih, cyc_add_length, add_right_comm]

theorem pre_add_mul_length (d : List K) (j m : Nat) :
    pre d (j + m * d.length) = pre d j + pre d (m * d.length) := by
  induction m with
  | zero => rw [Nat.zero_mul, Nat.add_zero, pre_zero, add_zero]
  | succ m ih => rw [Nat.succ_mul, ← Nat.add_assoc, pre_add_length, pre_add_length, ih, add_assoc]

theorem dashStartLoop_succ (d : List K) (hne : d ≠ []) (f J : Nat) (off : K) :
    dashStartLoop d (f + 1) (J % d.length) off =
      if cyc d J ≤ off then dashStartLoop d f ((J + 1) % d.length) (off - cyc d J)
      else some (J % d.length, off) := by
  rw [dashStartLoop, getElem?_cyc d hne J, wrap_eq_succ_mod (List.length_pos_iff.mpr hne)]

theorem dashStartLoop_spec {d : List K} (hne : d ≠ []) {fuel J : Nat} {off : K} {i : Nat} {off' : K}
    (h0 : 0 ≤ off) (h : dashStartLoop d fuel (J % d.length) off = some (i, off')) :
    ∃ J', J' % d.length = i ∧ J ≤ J' ∧ off + pre d J = off' + pre d J' ∧ 0 ≤ off' ∧ off' < cyc d J' := by
  induction fuel generalizing J off with
  | zero => cases h
  | succ f ih =>
    rw [dashStartLoop_succ d hne] at h
    split at h
    · next hle =>
      obtain ⟨J', e1, e2, e3, e45⟩ := ih (sub_nonneg.mpr hle) h
      exact ⟨J', e1, Nat.le_of_succ_le e2, by rw [← e3, pre_succ]; ring, e45⟩
    · next hnle =>
      cases h
      exact ⟨J, rfl, le_refl _, rfl, h0, not_le.mp hnle⟩

/-- Every iteration consumes at least `m`, so `fuel + 1` iterations suffice for `off < fuel · m`. -/
theorem dashStartLoop_terminates {d : List K} (hne : d ≠ []) {m : K} (hm : 0 < m)
    (hd : ∀ x ∈ d, m ≤ x) {fuel J : Nat} {off : K} (h : off < (fuel : K) * m) :
    (dashStartLoop d (fuel + 1) (J % d.length) off).isSome = true := by
  induction fuel generalizing J off with
  | zero =>
    rw [Nat.cast_zero, zero_mul] at h
    rw [dashStartLoop_succ d hne, if_neg]; · rfl
    exact not_le.mpr (lt_of_lt_of_le (lt_trans h hm) (hd _ (cyc_mem d hne J)))
  | succ f ih =>
    rw [Nat.cast_succ, add_one_mul] at h
    rw [dashStartLoop_succ d hne]
    split
    · exact ih (sub_lt_iff_lt_add.mpr
        (lt_of_lt_of_le h (add_le_add (le_refl _) (hd _ (cyc_mem d hne J)))))
    · rfl

/-- path position at which the `k`-th piece of the walk starts (the walk starts with piece `J` at `pos`) -/
def cpos (d : List K) (J : Nat) (pos : K) (k : Nat) : K := pos + (pre d (J + k) - pre d J)

theorem cpos_zero (d : List K) (J : Nat) (pos : K) : cpos d J pos 0 = pos := by
  rw [cpos, Nat.add_zero, sub_self, add_zero]

theorem cpos_succ (d : List K) (J : Nat) (pos : K) (k : Nat) :
    cpos d J pos (k + 1) = cpos d J pos k + cyc d (J + k) := by
  unfold cpos; rw [← Nat.add_assoc, pre_succ]; ring

theorem cpos_one (d : List K) (J : Nat) (pos : K) : cpos d J pos 1 = pos + cyc d J := by
  rw [cpos_succ, cpos_zero, Nat.add_zero]

theorem cpos_shift (d : List K) (J : Nat) (pos : K) (k : Nat) :
    cpos d (J + 1) (pos + cyc d J) k = cpos d J pos (k + 1) := by
  unfold cpos; rw [Nat.add_right_comm J 1 k, ← Nat.add_assoc, pre_succ d J]; ring

theorem cpos_strictMono (d : List K) (hne : d ≠ []) (h : ∀ x ∈ d, 0 < x) (J : Nat) (pos : K) :
    StrictMono (cpos d J pos) := fun _ _ hab =>
  add_lt_add_right (sub_lt_sub_right (pre_strictMono d hne h (Nat.add_lt_add_left hab J)) _) _

theorem positionsLoop_spec {eps : K} {d : List K} (hne : d ≠ []) {length : K} {fuel J : Nat} {pos : K}
    {acc t : List K} {iEnd : Nat}
    (h : positionsLoop eps d length fuel (J % d.length) pos acc = some (t, iEnd)) :
    ∃ m, iEnd = (J + m) % d.length ∧
      t = acc ++ ((List.range m).map (fun k => cpos d J pos (k + 1))).filter (fun x => decide (0 < x)) ∧
      (∀ k < m, cpos d J pos (k + 1) + eps < length) ∧
      ¬ (cpos d J pos (m + 1) + eps < length) := by
  induction fuel generalizing J pos acc with
  | zero => cases h
  | succ f ih =>
    rw [positionsLoop, getElem?_cyc d hne J, wrap_eq_succ_mod (List.length_pos_iff.mpr hne)] at h
    simp only at h
    split at h
    · next hlt =>
      obtain ⟨m, e1, e2, e3, e4⟩ := ih h
      simp only [cpos_shift] at e2 e3 e4
      refine ⟨m + 1, by rw [e1, Nat.add_right_comm, Nat.add_assoc], ?_, ?_, e4⟩
      · rw [e2, List.range_succ_eq_map, List.map_cons, List.map_map, List.filter_cons, cpos_one]
        simp only [decide_eq_true_eq]
        -- a positive position is appended to `acc` and passes the filter, another one neither
        split
        · exact List.append_assoc _ _ _
        · rfl
      · intro k hk
        cases k with
        | zero => rw [cpos_one]; exact hlt
        | succ k => exact e3 k (Nat.lt_of_succ_lt_succ hk)
    · next hnlt =>
      cases h
      exact ⟨0, rfl, (List.append_nil _).symm, fun k hk => absurd hk (Nat.not_lt_zero k),
        by rw [cpos_one]; exact hnlt⟩

theorem positionsLoop_skip {eps : K} {d : List K} (hne : d ≠ []) {length : K} {f J : Nat} {pos : K}
    {acc : List K} (h0 : ¬ 0 < pos + cyc d J) (hl : pos + cyc d J + eps < length) :
    positionsLoop eps d length (f + 1) (J % d.length) pos acc =
      positionsLoop eps d length f ((J + 1) % d.length) (pos + cyc d J) acc := by
  rw [positionsLoop, getElem?_cyc d hne J, wrap_eq_succ_mod (List.length_pos_iff.mpr hne)]
  simp only
  rw [if_pos hl, if_neg h0]

theorem positionsLoop_scale (s : K) (hs : 0 < s) (d : List K) (length : K) :
    ∀ (fuel i : Nat) (pos : K) (acc : List K),
      positionsLoop 0 (d.map (s * ·)) (s * length) fuel i (s * pos) (acc.map (s * ·)) =
        (positionsLoop 0 d length fuel i pos acc).map (fun r => (r.1.map (s * ·), r.2)) := by
  intro fuel
  induction fuel with
  | zero => intro i pos acc; rfl
  | succ f ih =>
    intro i pos acc
    rw [positionsLoop, positionsLoop, List.getElem?_map, List.length_map]
    cases d[i]? with
    | none => rfl
    | some di =>
      simp only [Option.map_some, ← mul_add, add_zero, mul_lt_mul_iff_right₀ hs,
        mul_pos_iff_of_pos_left hs]
      split
      · rw [← ih, apply_ite (List.map (s * ·)), List.map_append, List.map_singleton]
      · rfl

theorem inPiece_le {d : List K} (hnn : ∀ x ∈ d, 0 ≤ x) {j j' : Nat} {φ : K}
    (h : InPiece d j φ) (h' : InPiece d j' φ) : j ≤ j' := by
  by_contra hlt
  exact absurd (lt_of_le_of_lt (le_trans (pre_mono d hnn (Nat.lt_of_not_le hlt)) h.1) h'.2)
    (lt_irrefl _)

theorem inPiece_unique {d : List K} (hnn : ∀ x ∈ d, 0 ≤ x) {j j' : Nat} {φ : K}
    (h : InPiece d j φ) (h' : InPiece d j' φ) : j = j' :=
  le_antisymm (inPiece_le hnn h h') (inPiece_le hnn h' h)

theorem inPiece_shift {d : List K} {j : Nat} (m : Nat) {φ : K} (h : InPiece d j φ) :
    InPiece d (j + m * d.length) (φ + pre d (m * d.length)) := by
  unfold InPiece
  rw [Nat.add_right_comm, pre_add_mul_length, pre_add_mul_length]
  exact ⟨add_le_add_left h.1 _, add_lt_add_left h.2 _⟩

theorem drawnE_iff_of_inPiece {d : List K} (hnn : ∀ x ∈ d, 0 ≤ x) (heven : d.length % 2 = 0)
    {j M : Nat} {φ : K} (h : InPiece d j (φ + pre d (M * d.length))) : DrawnE d φ ↔ j % 2 = 0 := by
  constructor
  · rintro ⟨m', j', hj', hin⟩
    have a := inPiece_shift m' h
    have b := inPiece_shift M hin
    rw [add_right_comm] at a
    rw [← add_mul_even_mod j m' d.length heven, inPiece_unique hnn a b,
      add_mul_even_mod j' M d.length heven, hj']
  · intro hj; exact ⟨M, j, hj, h⟩

/-- For a phase-aligned start the path position `p` has phase `offset + p` (up to `M` periods), so
walk position `k` is where pattern piece `J0 + k` starts. -/
theorem pre_walk {d : List K} {offset pos0 : K} {J0 M : Nat}
    (hal : offset + pos0 + pre d (M * d.length) = pre d J0) (k : Nat) :
    pre d (J0 + k) = offset + cpos d J0 pos0 k + pre d (M * d.length) := by
  rw [cpos, ← hal]; ring

theorem firstZero_ret {eps offset o : K} {d d' : List K} (h : firstZero eps offset d = .ret o d') :
    d' = [0] := by
  unfold firstZero at h
  split at h
  · cases h
  · split at h
    · split at h
      · cases h
      · cases h; rfl
    · cases h

theorem lastZero_ret {eps offset o : K} {d d' : List K} (h : lastZero eps offset d = some (.ret o d')) :
    d' = [] := by
  unfold lastZero at h
  split at h
  · cases h
  · split at h
    · split at h
      · cases h; rfl
      · split at h <;> cases h
    · cases h

theorem pos_of_not_hasNonPositive {d : List K} (h : ¬ hasNonPositive 0 d = true) {y : K} (hy : y ∈ d) :
    0 < y := by
  by_contra hc
  apply h
  unfold hasNonPositive
  rw [List.any_eq_true]
  refine ⟨y, hy, ?_⟩
  rw [Bool.or_eq_true, decide_eq_true_eq, equal_zero_iff]
  exact lt_or_eq_of_le (not_lt.mp hc)

theorem reduceRepeat_mem {eps : K} {fuel : Nat} {d : List K} {y : K} (h : y ∈ reduceRepeat eps fuel d) :
    y ∈ d := by
  induction fuel generalizing d with
  | zero => exact h
  | succ f ih =>
    unfold reduceRepeat at h
    split at h
    · simp only at h
      split at h
      · exact List.mem_of_mem_take (ih h)
      · exact h
    · exact h

theorem nearB_mono {τ τ' : K} (hτ : τ ≤ τ') {es : List K} {x : K} (h : nearB τ es x = true) :
    nearB τ' es x = true := by
  unfold nearB at h ⊢
  rw [List.any_eq_true] at h ⊢
  obtain ⟨e, he, hc⟩ := h
  refine ⟨e, he, ?_⟩
  rw [Bool.and_eq_true, decide_eq_true_eq, decide_eq_true_eq] at hc ⊢
  exact ⟨hc.1.trans hτ, hc.2.trans hτ⟩


end C05L
