import CanvasModel.C16
namespace Canvas.C16

theorem sloop_flatten (scripts : List Nat) (started prevRepl : Bool) (cur : List R) (acc : List SItem) (rs : List R) :
    ((sloop scripts started prevRepl cur acc rs).map (·.text)).flatten
      = (acc.reverse.map (·.text)).flatten ++ cur.reverse ++ rs := by
  fun_induction sloop scripts started prevRepl cur acc rs with
  | case1 => simp
  | case2 _ _ _ _ _ _ _ _ _ _ ih => simp [ih]
  | case3 _ _ _ _ _ _ _ _ _ _ ih => simp [ih]

/-- an item is closed only when the loop has started or the input has ended, and then `cur` is not empty -/
theorem sloop_nonempty (scripts : List Nat) (started prevRepl : Bool) (cur : List R) (acc : List SItem) (rs : List R)
    (hcur : started = true ∨ rs = [] → cur ≠ []) (hacc : ∀ it ∈ acc, it.text ≠ []) :
    ∀ it ∈ sloop scripts started prevRepl cur acc rs, it.text ≠ [] := by
  fun_induction sloop scripts started prevRepl cur acc rs with
  | case1 scripts _ _ cur acc =>
    intro it hit
    rcases List.mem_cons.mp (List.mem_reverse.mp hit) with rfl | hit
    · exact fun h => hcur (Or.inr rfl) (List.reverse_eq_nil_iff.mp h)
    · exact hacc it hit
  -- at a boundary `cur` is closed as an item
  | case2 _ started _ cur _ _ _ _ _ hb ih =>
    refine ih (fun _ => List.cons_ne_nil _ _) (fun it hit => ?_)
    rcases List.mem_cons.mp hit with rfl | hit
    · exact fun h => hcur (Or.inl (Bool.and_eq_true_iff.mp hb).1) (List.reverse_eq_nil_iff.mp h)
    · exact hacc it hit
  | case3 _ _ _ _ _ _ _ _ _ _ ih => exact ih (fun _ => List.cons_ne_nil _ _) hacc

theorem indexGo_spec (loc i : Int) (ix : List Int) :
    (indexGo loc i ix).getD (i + ix.length - 1) = i + (ix.takeWhile (fun s => decide (s ≤ loc))).length - 1 := by
  fun_induction indexGo loc i ix with
  | case1 => rfl
  | case2 i s r h => simp [Int.not_le.mpr h]
  | case3 i s r h ih =>
    simp only [List.takeWhile_cons, Int.not_lt.mp h, decide_true, if_true, List.length_cons, Int.natCast_add, Int.cast_ofNat_Int]
    rw [show i + ((r.length : Int) + 1) - 1 = i + 1 + r.length - 1 by omega, ih]
    omega
end Canvas.C16
