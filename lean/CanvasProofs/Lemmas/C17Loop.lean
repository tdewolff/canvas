import CanvasModel.C17.Spec
/-! C17: what one call of `mainLoop` does (any scalar, no laws): the active list by membership (`ActSpec`), the
deactivated nodes and `nextTolerance` exactly. -/
set_option linter.unusedSectionVars false
namespace Canvas.C17

section
variable {α : Type} [Add α] [Sub α] [Mul α] [Div α] [Neg α] [LT α] [LE α] [BEq α]
  [DecidableLT α] [DecidableLE α] [NatCast α]

/-- the ratio of the line from the break of `a` to the current one, the term `stepNode` writes out; in the context
`mlCx` of a `mainLoop` call `ratioAt_eq` turns it into `ratioAt` -/
def nodeRatio (cx : Ctx α) (a : Node α) : Option α :=
  adjRatio cx.P cx.lineW cx.it cx.W cx.Y cx.Z a.d.w a.d.y a.d.z

def IsCand (cx : Ctx α) (a : Node α) (cand : Cand α) : Prop :=
  ∃ r, nodeRatio cx a = some r ∧ feasibleR cx r = true ∧
    cand = ⟨lineDemerits cx.P cx.it r (flaggedAt cx.items a.d.pos) a.d.fit + a.d.dem, a, r⟩

def mkNode (cx : Ctx α) (width : α) (s : α × α × α) (c : Nat) (cand : Cand α) : Node α :=
  ⟨⟨cx.b, cand.par.d.line + 1, c, width, s.1, s.2.1, s.2.2, cand.ratio, cand.dem⟩, cand.par.d :: cand.par.anc⟩

/-- `n` is a breakpoint created in this call of `mainLoop` from an active node of `L` -/
def Emitted (cx : Ctx α) (width : α) (s : α × α × α) (L : List (Node α)) (n : Node α) : Prop :=
  ∃ a, a ∈ L ∧ ∃ cand, IsCand cx a cand ∧ n = mkNode cx width s (fitClass cand.ratio) cand

/-- `nextTolerance` only ever becomes a ratio the loop has seen above the tolerance -/
def TolFrom (cx : Ctx α) (L : List (Node α)) (t0 t : Option α) : Prop :=
  t = t0 ∨ ∃ a, a ∈ L ∧ ∃ r, nodeRatio cx a = some r ∧ ltTol cx.tol r = true ∧ t = some r

theorem minOpt_cases (m : Option α) (x : α) : minOpt m x = x ∨ m = some (minOpt m x) := by
  unfold minOpt
  cases m with
  | none => left; rfl
  | some m => simp only; split <;> simp

theorem moveNode_eq (cx : Ctx α) (a : Node α) (r : Option α) (o : MOut α) :
    moveNode cx a r o = { o with
      act := o.act ++ (if deactivates cx a r = true then [] else [a])
      inact := o.inact ++ (if deactivates cx a r = true then [a] else []) } := by
  unfold moveNode
  split <;> simp

theorem updTol_eq (cx : Ctx α) (r : α) (o : MOut α) : updTol cx r o =
    { o with nextTol :=
      if feasibleR cx r = false ∧ ltTol cx.tol r = true then some (minOpt o.nextTol r) else o.nextTol } := by
  unfold updTol
  cases feasibleR cx r <;> cases ltTol cx.tol r <;> simp

/-- what the inner loop does to `nextTolerance` at one active node -/
def tolStep (cx : Ctx α) (nt : Option α) (a : Node α) : Option α :=
  match nodeRatio cx a with
  | some r => if feasibleR cx r = false ∧ ltTol cx.tol r = true then some (minOpt nt r) else nt
  | none => nt

def deactAt (cx : Ctx α) (a : Node α) : Bool := deactivates cx a (nodeRatio cx a)

theorem stepNode_snd (cx : Ctx α) (a : Node α) (g : Grp α) (o : MOut α) : (stepNode cx a g o).2 =
    { act := o.act ++ (if deactAt cx a = true then [] else [a]),
      inact := o.inact ++ (if deactAt cx a = true then [a] else []), nextTol := tolStep cx o.nextTol a } := by
  unfold stepNode tolStep deactAt nodeRatio
  cases adjRatio cx.P cx.lineW cx.it cx.W cx.Y cx.Z a.d.w a.d.y a.d.z with
  | none => simp only [moveNode_eq]
  | some r => simp only [updTol_eq, moveNode_eq]

theorem emptyGrp_slot (i : Nat) (cand : Cand α) : (emptyGrp : Grp α).slots[i]? ≠ some (some cand) := by
  intro h
  have := List.mem_of_getElem? h
  simp [emptyGrp] at this

theorem mem_emit_iff (cx : Ctx α) (width : α) (s : α × α × α) (dm : α) (n : Node α) :
    ∀ (slots : List (Option (Cand α))) (c : Nat), n ∈ emit cx width s dm c slots ↔
      ∃ i cand, slots[i]? = some (some cand) ∧ cand.dem ≤ dm + cx.P.demFitness ∧
        n = mkNode cx width s (c + i) cand := by
  intro slots
  induction slots with
  | nil => intro c; simp [emit]
  | cons x rest ih =>
    intro c
    have hrest : n ∈ emit cx width s dm (c + 1) rest ↔
        ∃ i cand, (x :: rest)[i + 1]? = some (some cand) ∧ cand.dem ≤ dm + cx.P.demFitness ∧
          n = mkNode cx width s (c + (i + 1)) cand := by
      simp only [ih, List.getElem?_cons_succ, Nat.add_assoc, Nat.add_comm 1]
    rw [← Nat.or_exists_add_one, ← hrest]
    cases x with
    | none => simp [emit]
    | some cand0 =>
      simp only [emit]
      split
      · rename_i hle
        -- the head slot passes the test: it is emitted, as `mkNode` of its candidate
        simp [hle, mkNode]
      · rename_i hle
        -- it fails the test: nothing of it on either side
        simp [hle]

theorem flush_eq (cx : Ctx α) (width : α) (s : α × α × α) (g : Grp α) (o : MOut α) :
    flush cx width s g o =
      { o with act := o.act ++ (g.dmin.elim [] fun dm => emit cx width s dm 0 g.slots) } := by
  unfold flush
  cases g.dmin with
  | none => simp
  | some dm => rfl

/-- slots invariant: every filled slot holds a candidate of a node of `L`, of the slot's fitness class -/
def SlotsFrom (cx : Ctx α) (L : List (Node α)) (g : Grp α) : Prop :=
  ∀ i cand, g.slots[i]? = some (some cand) → fitClass cand.ratio = i ∧ ∃ a, a ∈ L ∧ IsCand cx a cand

theorem slotsFrom_empty (cx : Ctx α) (L : List (Node α)) : SlotsFrom cx L emptyGrp :=
  fun i cand h => absurd h (emptyGrp_slot i cand)

theorem stepNode_slotsFrom {cx : Ctx α} {L : List (Node α)} {a : Node α} {g : Grp α} (o : MOut α) (haL : a ∈ L)
    (hg : SlotsFrom cx L g) : SlotsFrom cx L (stepNode cx a g o).1 := by
  unfold stepNode
  cases hr : adjRatio cx.P cx.lineW cx.it cx.W cx.Y cx.Z a.d.w a.d.y a.d.z with
  | none => exact hg
  | some r =>
    show SlotsFrom cx L (updGrp cx a r g)
    unfold updGrp
    split
    · rename_i hfeas
      simp only
      split
      · intro i cand h
        rw [List.getElem?_set] at h
        split at h
        · rename_i hi
          split at h
          · cases h
            exact ⟨hi, a, haL, r, hr, hfeas, rfl⟩
          · cases h
        · exact hg i cand h
      · exact hg
    · exact hg

/-- `out`, which the loops of `mainLoop` make from `o` by going through the nodes `l` of `L`: its active list by
membership, its inactive list and `nextTolerance` exactly -/
structure ActSpec (cx : Ctx α) (width : α) (s : α × α × α) (L l : List (Node α)) (o out : MOut α) : Prop where
  act : ∀ n, n ∈ out.act → n ∈ o.act ∨ (n ∈ L ∧ isForced cx.P cx.it = false) ∨ Emitted cx width s L n
  keep : ∀ n, n ∈ o.act → n ∈ out.act
  surv : ∀ n, n ∈ l → deactAt cx n = false → n ∈ out.act
  inact : out.inact = o.inact ++ l.filter (deactAt cx)
  nextTol : out.nextTol = l.foldl (tolStep cx) o.nextTol

theorem ActSpec.trans {cx : Ctx α} {width : α} {s : α × α × α} {L l1 l2 : List (Node α)} {o o1 out : MOut α}
    (s1 : ActSpec cx width s L l1 o o1) (s2 : ActSpec cx width s L l2 o1 out) :
    ActSpec cx width s L (l1 ++ l2) o out :=
  ⟨fun n hn => (s2.act n hn).elim (s1.act n) Or.inr, fun n h => s2.keep n (s1.keep n h),
    fun n hn hd => (List.mem_append.mp hn).elim (fun h => s2.keep n (s1.surv n h hd)) (fun h => s2.surv n h hd),
    by rw [s2.inact, s1.inact, List.filter_append, List.append_assoc],
    by rw [s2.nextTol, s1.nextTol, List.foldl_append]⟩

theorem flush_actSpec (cx : Ctx α) (width : α) (s : α × α × α) {L : List (Node α)} {g : Grp α} (o : MOut α)
    (hg : SlotsFrom cx L g) : ActSpec cx width s L [] o (flush cx width s g o) := by
  rw [flush_eq]
  refine ⟨fun n hn => ?_, fun n h => List.mem_append_left _ h, fun _ => nofun, (List.append_nil _).symm, rfl⟩
  rcases List.mem_append.mp hn with h | h
  · exact Or.inl h
  · cases hd : g.dmin with
    | none => rw [hd] at h; cases h
    | some dm =>
      rw [hd] at h
      obtain ⟨i, cand, hc, _, hn⟩ := (mem_emit_iff cx width s dm n _ 0).mp h
      obtain ⟨hi, a, ha, hca⟩ := hg i cand hc
      exact Or.inr (Or.inr ⟨a, ha, cand, hca, by rw [hn, Nat.zero_add, hi]⟩)

theorem stepNode_actSpec (cx : Ctx α) (width : α) (s : α × α × α) {L : List (Node α)} {a : Node α} (g : Grp α)
    (o : MOut α) (haL : a ∈ L) : ActSpec cx width s L [a] o (stepNode cx a g o).2 := by
  have e := congrArg MOut.act (stepNode_snd cx a g o)
  refine ⟨fun n hn => ?_, fun n h => e ▸ List.mem_append_left _ h, fun n hn hd => ?_, ?_, ?_⟩
  · rw [e] at hn
    rcases List.mem_append.mp hn with h | h
    · exact Or.inl h
    · split at h
      · cases h
      · rename_i hd
        rcases List.mem_singleton.mp h with rfl
        refine Or.inr (Or.inl ⟨haL, ?_⟩)
        cases hf : isForced cx.P cx.it
        · rfl
        · exact absurd (by simp [deactAt, deactivates, hf]) hd
  · rcases List.mem_singleton.mp hn with rfl
    rw [e, hd]; exact List.mem_append_right _ (by simp)
  · rw [stepNode_snd, List.filter_cons]
    rfl
  · rw [stepNode_snd]
    rfl

theorem mainGo_actSpec (cx : Ctx α) (width : α) (s : α × α × α) (L : List (Node α)) :
    ∀ (l : List (Node α)) (g : Grp α) (o : MOut α), (∀ a, a ∈ l → a ∈ L) → SlotsFrom cx L g →
      ActSpec cx width s L l o (mainGo cx width s l g o) := by
  intro l
  induction l with
  | nil => intro g o _ hg; exact flush_actSpec cx width s o hg
  | cons a rest ih =>
    intro g o hl hg
    have haL : a ∈ L := hl a List.mem_cons_self
    have hrestL : ∀ x, x ∈ rest → x ∈ L := fun x hx => hl x (List.mem_cons_of_mem _ hx)
    have hg1 := stepNode_slotsFrom o haL hg
    have hstep := stepNode_actSpec cx width s g o haL
    have hflush := flush_actSpec cx width s (stepNode cx a g o).2 hg1
    simp only [mainGo]
    cases rest with
    | nil => exact hstep.trans hflush
    | cons nx rest' =>
      simp only
      split
      · exact (hstep.trans hflush).trans (ih emptyGrp _ hrestL (slotsFrom_empty cx L))
      · exact hstep.trans (ih _ _ hrestL hg1)

theorem tolFold_from (cx : Ctx α) : ∀ (l : List (Node α)) (t0 : Option α),
    TolFrom cx l t0 (l.foldl (tolStep cx) t0) := by
  intro l
  induction l with
  | nil => intro t0; exact Or.inl rfl
  | cons a rest ih =>
    intro t0
    rw [List.foldl_cons]
    rcases ih (tolStep cx t0 a) with h | ⟨x, hx, h⟩
    · rw [h]
      unfold tolStep
      split
      · rename_i r hr
        split
        · rename_i hc
          rcases minOpt_cases t0 r with h | h
          · exact Or.inr ⟨a, List.mem_cons_self, r, hr, hc.2, by rw [h]⟩
          · exact Or.inl h.symm
        · exact Or.inl rfl
      · exact Or.inl rfl
    · exact Or.inr ⟨x, List.mem_cons_of_mem _ hx, h⟩

end
end Canvas.C17
