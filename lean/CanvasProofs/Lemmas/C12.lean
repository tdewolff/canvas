import CanvasModel.C12
/-!
C12: the setters of the PDF page-writer cache against the PDF interpreter (`PSim`), the cache each leaves
under lawful `==`, and the lifting of a fact about one call to every program.
-/
namespace Canvas.C12

/-- what the theorems assume about Go's float64 `==`/`<` on the values that occur
(no NaN, no signed zeros): `==` is equality, a positive number is not zero -/
structure Lawful {ν : Type} (N : Num ν) : Prop where
  beq_iff : ∀ x y : ν, N.beq x y = true ↔ x = y
  pos_ne_zero : ∀ x : ν, N.lt N.zero x = true → N.beq x N.zero = false

section
variable {ν : Type} {N : Num ν}

theorem Lawful.beq_false (L : Lawful N) {x y : ν} (h : N.beq x y = false) : x ≠ y := by
  intro e
  have := (L.beq_iff x y).2 e
  simp [this] at h

theorem Lawful.beq_refl (L : Lawful N) (x : ν) : N.beq x x = true := (L.beq_iff x x).2 rfl

theorem listBeq_iff (L : Lawful N) : ∀ a b : List ν, listBeq N a b = true ↔ a = b
  | [], [] => by simp [listBeq]
  | [], _ :: _ => by simp [listBeq]
  | _ :: _, [] => by simp [listBeq]
  | x :: xs, y :: ys => by
    simp [listBeq, L.beq_iff, listBeq_iff L xs ys]

theorem Paint.eq_iff (p q : Paint) : p.eq q = true ↔ (p = q ∧ p ≠ .none) := by
  cases p <;> cases q <;> simp [Paint.eq]

theorem Join.pdfOk_cases {jn : Join ν} (h : jn.pdfOk = true) :
    jn = .bevel ∨ jn = .round ∨ ∃ l, jn = .miter 0 (some l) := by
  cases jn with
  | bevel => exact .inl rfl
  | round => exact .inr (.inl rfl)
  | arcs g l => simp [Join.pdfOk] at h
  | miter g l =>
    cases l with
    | none => simp [Join.pdfOk] at h
    | some l =>
      obtain rfl : g = 0 := by simpa [Join.pdfOk] using h
      exact .inr (.inr ⟨l, rfl⟩)

theorem pdfRun_append (g : PG ν) (a b : List (POp ν)) :
    pdfRun g (a ++ b) = ((pdfRun (pdfRun g a).1 b).1, (pdfRun g a).2 ++ (pdfRun (pdfRun g a).1 b).2) := by
  induction a generalizing g with
  | nil => simp [pdfRun]
  | cons o os ih => simp [pdfRun, ih, List.append_assoc]

theorem psRun_append (g : SG ν) (a b : List (SOp ν)) :
    psRun g (a ++ b) = ((psRun (psRun g a).1 b).1, (psRun g a).2 ++ (psRun (psRun g a).1 b).2) := by
  induction a generalizing g with
  | nil => simp [psRun]
  | cons o os ih => simp [psRun, ih, List.append_assoc]

/-! ### threading a cache through a list of calls
`run` is an interpreter with the append law, `prog` threads the cache through the calls `f` and collects
their operators, `abs` is the interpreter state a cache claims. -/
section Thread
variable {α W G O P : Type} {run : G → List O → G × List P} {f : α → W → W × List O}
  {prog : List α → W → W × List (List O)} {abs : W → G}
  (hrun : ∀ g a b, run g (a ++ b) = ((run (run g a).1 b).1, (run g a).2 ++ (run (run g a).1 b).2))
  (hnil : ∀ g, run g [] = (g, [])) (hprog0 : ∀ w, prog [] w = (w, []))
  (hprog : ∀ x xs w, prog (x :: xs) w = ((prog xs (f x w).1).1, (f x w).2 :: (prog xs (f x w).1).2))
include hrun hnil hprog0 hprog

theorem thread_inv (step : ∀ x w, (run (abs w) (f x w).2).1 = abs (f x w).1) (xs : List α) (w : W) :
    (run (abs w) (prog xs w).2.flatten).1 = abs (prog xs w).1 := by
  induction xs generalizing w with
  | nil => rw [hprog0, List.flatten_nil, hnil]
  | cons x xs ih => rw [hprog, List.flatten_cons, hrun, step, ih]

theorem thread_refines {Inv : W → Prop} {ref : α → List P} (xs : List α)
    (step : ∀ x ∈ xs, ∀ w, Inv w → run (abs w) (f x w).2 = (abs (f x w).1, ref x) ∧ Inv (f x w).1)
    (w : W) (hw : Inv w) : run (abs w) (prog xs w).2.flatten = (abs (prog xs w).1, xs.flatMap ref) := by
  induction xs generalizing w with
  | nil => rw [hprog0, List.flatten_nil, hnil]; rfl
  | cons x xs ih =>
    obtain ⟨h, hw'⟩ := step x (List.mem_cons_self ..) w hw
    rw [hprog, List.flatten_cons, hrun, h, ih (fun y hy => step y (List.mem_cons_of_mem _ hy)) _ hw',
      List.flatMap_cons]

end Thread

def PSim (a : PAct ν) (w : PW ν) (out : List (Painted ν)) : Prop :=
  pdfRun (gOf w.c) (a w).2 = (gOf (a w).1.c, out)

theorem PSim.nil (w : PW ν) : PSim (PAct.seq []) w [] := by
  simp [PSim, PAct.seq, pdfRun]

theorem PSim.cons {a : PAct ν} {as : List (PAct ν)} {w : PW ν} {o1 o2 : List (Painted ν)}
    (h1 : PSim a w o1) (h2 : PSim (PAct.seq as) (a w).1 o2) : PSim (PAct.seq (a :: as)) w (o1 ++ o2) := by
  unfold PSim at *
  simp [PAct.seq, pdfRun_append, h1, h2]

theorem PSim.single {a : PAct ν} {w : PW ν} {o : List (Painted ν)} (h : PSim a w o) : PSim (PAct.seq [a]) w o := by
  have := PSim.cons h (PSim.nil (a w).1)
  simpa using this

theorem PAct.seq_append (as bs : List (PAct ν)) (w : PW ν) :
    PAct.seq (as ++ bs) w =
      ((PAct.seq bs (PAct.seq as w).1).1, (PAct.seq as w).2 ++ (PAct.seq bs (PAct.seq as w).1).2) := by
  induction as generalizing w with
  | nil => simp [PAct.seq]
  | cons a as ih => simp [PAct.seq, ih, List.append_assoc]

theorem PSim.append {as bs : List (PAct ν)} {w : PW ν} {o1 o2 : List (Painted ν)}
    (h1 : PSim (PAct.seq as) w o1) (h2 : PSim (PAct.seq bs) (PAct.seq as w).1 o2) :
    PSim (PAct.seq (as ++ bs)) w (o1 ++ o2) := by
  unfold PSim at *
  simp [PAct.seq_append, pdfRun_append, h1, h2]

theorem setAlpha_sim (a : Nat) (w : PW ν) : PSim (setAlpha a) w [] := by
  unfold PSim setAlpha
  split <;> rfl

theorem gradAlpha_sim (p : Paint) (w : PW ν) : PSim (gradAlpha p) w [] := by
  cases p with
  | grad i => exact setAlpha_sim 255 w
  | none => rfl
  | col c => rfl

/-- the grey operator is written for `r = g = b` only -/
theorem pdfStep_fillCol (c : Col) (g : PG ν) :
    pdfStep g (if c.r == c.g && c.r == c.b then POp.g c else POp.rg c) = ({ g with fill := shadeOf (.col c) }, []) := by
  split
  · rename_i h
    obtain ⟨h1, h2⟩ : c.r = c.g ∧ c.r = c.b := by simpa using h
    simp only [pdfStep, shadeOf, ← h1, ← h2]
  · rfl

theorem pdfStep_strokeCol (c : Col) (g : PG ν) :
    pdfStep g (if c.r == c.g && c.r == c.b then POp.G c else POp.RG c) = ({ g with stroke := shadeOf (.col c) }, []) := by
  split
  · rename_i h
    obtain ⟨h1, h2⟩ : c.r = c.g ∧ c.r = c.b := by simpa using h
    simp only [pdfStep, shadeOf, ← h1, ← h2]
  · rfl

theorem setFillCore_sim (p : Paint) (hp : p.has = true) (w : PW ν) : PSim (setFillCore p) w [] := by
  unfold PSim setFillCore
  cases p with
  | none => cases hp
  | grad i => split <;> rfl
  | col c =>
    split
    · exact setAlpha_sim c.a w
    · simp only [pdfRun, pdfStep_fillCol, setAlpha]
      split <;> rfl

theorem setStrokeCore_sim (p : Paint) (hp : p.has = true) (w : PW ν) : PSim (setStrokeCore p) w [] := by
  unfold PSim setStrokeCore
  cases p with
  | none => cases hp
  | grad i => split <;> rfl
  | col c =>
    split
    · exact setAlpha_sim c.a w
    · simp only [pdfRun, pdfStep_strokeCol, setAlpha]
      split <;> rfl

theorem setFill_sim (p : Paint) (hp : p.has = true) (w : PW ν) : PSim (setFill p) w [] :=
  PSim.cons (gradAlpha_sim p w) (PSim.single (setFillCore_sim p hp _))

theorem setStroke_sim (p : Paint) (hp : p.has = true) (w : PW ν) : PSim (setStroke p) w [] :=
  PSim.cons (gradAlpha_sim p w) (PSim.single (setStrokeCore_sim p hp _))

theorem setLineWidth_sim (x : ν) (w : PW ν) : PSim (setLineWidth N x) w [] := by
  unfold PSim setLineWidth
  split <;> rfl

theorem setLineCap_sim (c : Nat) (w : PW ν) : PSim (setLineCap c) w [] := by
  unfold PSim setLineCap
  split <;> rfl

theorem setLineJoin_sim (jn : Join ν) (h : jn.pdfOk = true) (w : PW ν) : PSim (setLineJoin N jn) w [] := by
  unfold PSim
  rcases Join.pdfOk_cases h with rfl | rfl | ⟨l, rfl⟩
  · simp only [setLineJoin]
    split <;> rfl
  · simp only [setLineJoin]
    split <;> rfl
  · simp only [setLineJoin]
    split <;> split <;> rfl

theorem setDashes_sim (ph : ν) (arr : List ν) (w : PW ν) : PSim (setDashes N ph arr) w [] := by
  unfold PSim setDashes
  simp only []
  split
  · split <;> rfl
  · rfl

theorem say_path_paint_sim (p : PathRef) (k : PK) (w : PW ν) :
    PSim (say [.path p, .paint k]) w (pdfPaint (gOf w.c) p k) := by
  simp only [PSim, say, pdfRun, List.append_nil]
  rfl

-- with lawful `==` a setter that finds its value cached changes nothing: the cache after it is always the same

theorem setAlpha_c (a : Nat) (w : PW ν) : (setAlpha a w).1.c = { w.c with alpha := a } := by
  unfold setAlpha
  split
  · rfl
  · rename_i h
    obtain rfl : a = w.c.alpha := by simpa using h
    rfl

theorem gradAlpha_c (p : Paint) (w : PW ν) :
    (gradAlpha p w).1.c = { w.c with alpha := (match p with | .grad _ => 255 | _ => w.c.alpha) } := by
  cases p with
  | grad i => exact setAlpha_c 255 w
  | none => rfl
  | col c => rfl

theorem setFillCore_c (p : Paint) (w : PW ν) :
    (setFillCore p w).1.c = { w.c with fill := p, alpha := (match p with | .col c => c.a | _ => w.c.alpha) } := by
  obtain ⟨gs, ps, ⟨al, fl, st, lw, cp, jn, ml, ds, phs⟩⟩ := w
  unfold setFillCore
  split
  · rename_i h
    obtain ⟨rfl, hp⟩ : p = fl ∧ _ := (Paint.eq_iff _ _).1 h
    cases p with
    | none => exact absurd rfl hp
    | col c => exact setAlpha_c c.a _
    | grad i => rfl
  · cases p with
    | none => rfl
    | col c => show ({ (setAlpha c.a _).1.c with fill := _ } : PC ν) = _; rw [setAlpha_c]
    | grad i => rfl

theorem setStrokeCore_c (p : Paint) (w : PW ν) :
    (setStrokeCore p w).1.c = { w.c with stroke := p, alpha := (match p with | .col c => c.a | _ => w.c.alpha) } := by
  obtain ⟨gs, ps, ⟨al, fl, st, lw, cp, jn, ml, ds, phs⟩⟩ := w
  unfold setStrokeCore
  split
  · rename_i h
    obtain ⟨rfl, hp⟩ : p = st ∧ _ := (Paint.eq_iff _ _).1 h
    cases p with
    | none => exact absurd rfl hp
    | col c => exact setAlpha_c c.a _
    | grad i => rfl
  · cases p with
    | none => rfl
    | col c => show ({ (setAlpha c.a _).1.c with stroke := _ } : PC ν) = _; rw [setAlpha_c]
    | grad i => rfl

theorem setFill_c (p : Paint) (hp : p.has = true) (w : PW ν) :
    (setFill p w).1.c = { w.c with fill := p, alpha := p.alpha } := by
  show (setFillCore p (gradAlpha p w).1).1.c = _
  rw [setFillCore_c, gradAlpha_c]
  cases p with
  | none => cases hp
  | col c => rfl
  | grad i => rfl

theorem setStroke_c (p : Paint) (hp : p.has = true) (w : PW ν) :
    (setStroke p w).1.c = { w.c with stroke := p, alpha := p.alpha } := by
  show (setStrokeCore p (gradAlpha p w).1).1.c = _
  rw [setStrokeCore_c, gradAlpha_c]
  cases p with
  | none => cases hp
  | col c => rfl
  | grad i => rfl

theorem setLineWidth_c (L : Lawful N) (x : ν) (w : PW ν) : (setLineWidth N x w).1.c = { w.c with lw := x } := by
  unfold setLineWidth
  split
  · rfl
  · rename_i h
    obtain rfl : x = w.c.lw := (L.beq_iff _ _).1 (by simpa using h)
    rfl

theorem setLineCap_c (c : Nat) (w : PW ν) : (setLineCap c w).1.c = { w.c with cap := c } := by
  unfold setLineCap
  split
  · rfl
  · rename_i h
    obtain rfl : c = w.c.cap := by simpa using h
    rfl

theorem setLineJoin_c (L : Lawful N) (jn : Join ν) (h : jn.pdfOk = true) (w : PW ν) :
    (setLineJoin N jn w).1.c =
      { w.c with join := joinCode jn, ml := (match joinLimit jn with | some l => l | none => w.c.ml) } := by
  obtain ⟨gs, ps, ⟨al, fl, st, lw, cp, j0, ml, ds, phs⟩⟩ := w
  rcases Join.pdfOk_cases h with rfl | rfl | ⟨l, rfl⟩
  · simp only [setLineJoin]
    split
    · rfl
    · rename_i h
      obtain rfl : 2 = j0 := by simpa using h
      rfl
  · simp only [setLineJoin]
    split
    · rfl
    · rename_i h
      obtain rfl : 1 = j0 := by simpa using h
      rfl
  · simp only [setLineJoin]
    split <;> split
    · rfl
    · rename_i h
      obtain rfl : l = ml := (L.beq_iff _ _).1 (by simpa using h)
      rfl
    · rename_i h0 _
      obtain rfl : 0 = j0 := by simpa using h0
      rfl
    · rename_i h0 h
      obtain rfl : 0 = j0 := by simpa using h0
      obtain rfl : l = ml := (L.beq_iff _ _).1 (by simpa using h)
      rfl

/-- cache well-formedness: an empty dash array is cached with phase 0 (writer.go 960-962, in `SetDashes`) -/
def PInv (N : Num ν) (c : PC ν) : Prop := c.dashes = [] → c.phase = N.zero

def pdfPhaseOf (N : Num ν) (ph : ν) (arr : List ν) : ν :=
  if (pdfDashArr arr).isEmpty then N.zero else pdfDashPhase N ph arr

theorem pdfRef_eq (d : Draw ν) : pdfRef N d = refPaint N d.join.pdfOk pdfDashArr (pdfPhaseOf N) d := rfl

theorem setDashes_c (L : Lawful N) (ph : ν) (arr : List ν) (w : PW ν) (hi : PInv N w.c) :
    (setDashes N ph arr w).1.c = { w.c with dashes := pdfDashArr arr, phase := pdfPhaseOf N ph arr } := by
  obtain ⟨gs, ps, ⟨al, fl, st, lw, cp, j0, ml, ds, phs⟩⟩ := w
  unfold setDashes pdfPhaseOf
  simp only []
  split
  · split
    · rename_i h
      rw [List.isEmpty_iff.1 h]
    · rfl
  · rename_i h
    have h' : listBeq N (pdfDashArr arr) ds = true ∧ N.beq (pdfDashPhase N ph arr) phs = true := by
      simpa using h
    have e1 := (listBeq_iff L _ _).1 h'.1
    have e2 := (L.beq_iff _ _).1 h'.2
    subst e1; subst e2
    by_cases he : (pdfDashArr arr).isEmpty = true
    · have hz : pdfDashPhase N ph arr = N.zero := hi (by simpa using he)
      simp [he, hz]
    · simp [he]

end
end Canvas.C12
