import CanvasProofs.Lemmas.C13ParseB

/-! C13 serialise-then-parse: stream objects (dictionary with /Length, then the data). -/
namespace C13L
open Canvas.C13 Canvas.C13.Rd Canvas.C13.P

/-- what `v.dict["Length"] = len(b)` does to the dictionary, on values -/
def withLen (kvs : List (Bytes × Val)) (n : Nat) : List (Bytes × Val) :=
  kvs.filter (fun e => e.1 != kLength) ++ [(kLength, .int n)]

theorem serKvs_eq_map (kvs : List (Bytes × Val)) :
    serKvs kvs = kvs.map (fun e => (e.1, e.2.continues, ser e.2)) := by
  induction kvs with
  | nil => simp [serKvs]
  | cons kv r ih => obtain ⟨k, v⟩ := kv; simp [serKvs, ih]

theorem normKvs_eq_map (kvs : List (Bytes × Val)) : normKvs kvs = kvs.map (fun e => (e.1, norm e.2)) := by
  induction kvs with
  | nil => simp [normKvs]
  | cons kv r ih => obtain ⟨k, v⟩ := kv; simp [normKvs, ih]

theorem serKvs_withLen (kvs : List (Bytes × Val)) (n : Nat) :
    serKvs (withLen kvs n) = setLength (serKvs kvs) n := by
  unfold withLen setLength
  rw [serKvs_eq_map, serKvs_eq_map, List.map_append, List.filter_map]
  congr 1

/-- the right side is bracketed as `readStream` walks it -/
theorem ser_stream (kvs : List (Bytes × Val)) (body T : Bytes) :
    ser (.stream kvs body) ++ T = ser (.dict (withLen kvs body.length)) ++
      (asc "stream" ++ 0x0A :: (body ++ 0x0A :: (asc "endstream" ++ 0x0A :: T))) := by
  simp only [ser, streamBytes, serKvs_withLen, show asc "stream\n" = asc "stream" ++ [0x0A] by decide +kernel,
    show asc "\nendstream\n" = 0x0A :: (asc "endstream" ++ [0x0A]) by decide +kernel, List.append_assoc,
    List.cons_append, List.nil_append]

theorem find_filtered {α : Type} (k : Bytes) (L : List (Bytes × α)) :
    (L.filter (fun e => e.1 != k)).find? (fun e => e.1 == k) = none :=
  List.find?_eq_none.mpr fun e he => by simpa using (List.mem_filter.mp he).2

theorem lookupLen_withLen (kvs : List (Bytes × Val)) (n : Nat) :
    lookupLen (normKvs (withLen kvs n)) = some n := by
  unfold lookupLen withLen
  rw [normKvs_eq_map, List.map_append, List.find?_append]
  have hnone : List.find? (fun e => e.1 == kLength)
      ((kvs.filter (fun e => e.1 != kLength)).map (fun e => (e.1, norm e.2))) = none := by
    rw [List.find?_map]
    exact congrArg _ (find_filtered kLength kvs)
  rw [hnone]
  simp only [List.map_cons, List.map_nil, Option.none_or, List.find?_cons, beq_self_eq_true, norm, intBytes]
  have : ¬ ((n : Int) < 0) := by omega
  simp [this, isNatTok_natBytes, natOf_natBytes]

theorem dropPrefix_append (p r : Bytes) : dropPrefix p (p ++ r) = some r := by
  induction p with
  | nil => cases r <;> rfl
  | cons c ps ih => simp [dropPrefix, ih]

theorem readStream_ok (body T : Bytes) :
    readStream body.length (asc "stream" ++ 0x0A :: (body ++ 0x0A :: (asc "endstream" ++ 0x0A :: T)))
      = some (body, 0x0A :: T) := by
  have hs : ∀ X, skipWs (asc "stream" ++ X) = asc "stream" ++ X := fun X => by
    show skipWs (0x73 :: _) = _
    exact skipWs_cons_of_not_ws _ (by decide)
  unfold readStream
  rw [hs, dropPrefix_append]
  simp only [List.length_append, List.length_cons]
  have hlt : ∀ k : Nat, ¬ (body.length + k < body.length) := by intro k; omega
  simp only [hlt, if_false, List.take_left', List.drop_left', dropPrefix_append, Option.map_some]

theorem rt_stream (kvs : List (Bytes × Val)) (body T : Bytes) (f : Nat)
    (hw : wfKvs (withLen kvs body.length) = true) (hc : canonOK (setLength (serKvs kvs) body.length) = true)
    (hf : 1 + sizeKvs (withLen kvs body.length) ≤ f) :
    parseStreamObj f (ser (.stream kvs body) ++ T)
      = some (normKvs (withLen kvs body.length), body, 0x0A :: T) := by
  unfold parseStreamObj
  rw [ser_stream]
  obtain ⟨f, rfl⟩ : ∃ g, f = g + 1 := ⟨f - 1, by omega⟩
  rw [parse_dict f (withLen kvs body.length) _ (by rw [serKvs_withLen]; exact hc) (rt_kvs _ f _ hw (by omega))]
  simp only [lookupLen_withLen]
  rw [readStream_ok]
  rfl

end C13L
