import CanvasGen.CoreK
import Mathlib.Tactic.Ring
import Mathlib.Tactic.LinearCombination
/-! The laws of the generated 2×3 affine matrices of /repo/util.go (`GenK.Matrix.*`) over an ordered
field: `Mul` is associative with unit `⟨1, 0, 0, 0, 1, 0⟩`, `Dot` is its action on points, `Inv` inverts
where `Det ≠ 0`, and every constructor (`Translate`, `Scale`, `Shear`, a rotation, the reflections, the
`…About` variants) multiplies an elementary matrix on from the right, so it moves the point first.
Before them the comparison `Equal` of util.go, which every property over generated code meets. -/
set_option linter.unusedSectionVars false

namespace GenK
open Canvas
variable {K : Type} [Field K] [LinearOrder K] [IsStrictOrderedRing K] [Env K]

theorem equal_iff_abs (a b : K) : Equal a b = true ↔ |a - b| ≤ (Env.epsilon : K) := by
  unfold Equal
  split
  · rename_i h; rw [decide_eq_true_eq, abs_of_neg (sub_neg.2 h), neg_sub]
  · rename_i h; rw [decide_eq_true_eq, abs_of_nonneg (sub_nonneg.2 (not_lt.1 h))]

theorem equal_comm (a b : K) : Equal a b = Equal b a :=
  Bool.eq_iff_iff.mpr (by rw [equal_iff_abs, equal_iff_abs, abs_sub_comm])

theorem equal_self (heps : (0 : K) ≤ Env.epsilon) (a : K) : Equal a a = true :=
  (equal_iff_abs a a).mpr (by rwa [sub_self, abs_zero])

theorem equal_iff_eq (h0 : (Env.epsilon : K) = 0) (a b : K) : Equal a b = true ↔ a = b := by
  rw [equal_iff_abs, h0]
  exact abs_nonpos_iff.trans sub_eq_zero

theorem equal_neg (d : K) : Equal (-d) 0 = Equal d 0 :=
  Bool.eq_iff_iff.2 (by rw [equal_iff_abs, equal_iff_abs, sub_zero, sub_zero, abs_neg])

end GenK

namespace Aff
open Canvas GenK
variable {K : Type} [Field K] [LinearOrder K] [IsStrictOrderedRing K] [Env K]

theorem mul_assoc (m q r : Mat K) : Matrix.Mul (Matrix.Mul m q) r = Matrix.Mul m (Matrix.Mul q r) := by
  simp only [Matrix.Mul]; congr 1 <;> ring

theorem one_mul (m : Mat K) : Matrix.Mul ⟨1, 0, 0, 0, 1, 0⟩ m = m := by
  simp only [Matrix.Mul, _root_.one_mul, zero_mul, add_zero, zero_add]

theorem mul_one (m : Mat K) : Matrix.Mul m ⟨1, 0, 0, 0, 1, 0⟩ = m := by
  simp only [Matrix.Mul, _root_.mul_one, mul_zero, add_zero, zero_add]

theorem one_dot (p : Pt K) : Matrix.Dot ⟨1, 0, 0, 0, 1, 0⟩ p = p := by
  simp only [Matrix.Dot, _root_.one_mul, zero_mul, add_zero, zero_add]

/-- `Mul` composes right to left: `(m·q)·p = m·(q·p)` -/
theorem dot_mul (m q : Mat K) (p : Pt K) : Matrix.Dot (Matrix.Mul m q) p = Matrix.Dot m (Matrix.Dot q p) := by
  simp only [Matrix.Mul, Matrix.Dot]; congr 1 <;> ring

theorem dot_interpolate (m : Mat K) (t : K) (p q : Pt K) :
    Point.Interpolate (Matrix.Dot m p) (Matrix.Dot m q) t = Matrix.Dot m (Point.Interpolate p q t) := by
  simp only [Point.Interpolate, Matrix.Dot]; congr 1 <;> ring

theorem det_mul (m q : Mat K) : Matrix.Det (Matrix.Mul m q) = Matrix.Det m * Matrix.Det q := by
  simp only [Matrix.Mul, Matrix.Det]; ring

/- In `inv_mul` and `mul_inv` every entry is a polynomial in the entries of `m` and `1/det`; the only fact
used about the division is `hD : det · (1/det) = 1`. -/
theorem inv_mul (m : Mat K) (h : Matrix.Det m ≠ 0) : Matrix.Mul (Matrix.Inv m) m = ⟨1, 0, 0, 0, 1, 0⟩ := by
  cases m with | mk a b c d e f =>
  have hD : (a * e - b * d) * (a * e - b * d)⁻¹ = 1 := mul_inv_cancel₀ h
  simp only [Matrix.Mul, Matrix.Inv, Matrix.Det, Mat.mk.injEq]
  exact ⟨by linear_combination hD, by ring, by ring, by ring, by linear_combination hD, by ring⟩

theorem mul_inv (m : Mat K) (h : Matrix.Det m ≠ 0) : Matrix.Mul m (Matrix.Inv m) = ⟨1, 0, 0, 0, 1, 0⟩ := by
  cases m with | mk a b c d e f =>
  have hD : (a * e - b * d) * (a * e - b * d)⁻¹ = 1 := mul_inv_cancel₀ h
  simp only [Matrix.Mul, Matrix.Inv, Matrix.Det, Mat.mk.injEq]
  exact ⟨by linear_combination hD, by ring, by linear_combination (-c) * hD, by ring, by linear_combination hD,
    by linear_combination (-f) * hD⟩

theorem inv_dot (m : Mat K) (p : Pt K) (h : Matrix.Det m ≠ 0) : Matrix.Dot (Matrix.Inv m) (Matrix.Dot m p) = p := by
  rw [← dot_mul, inv_mul m h, one_dot]

theorem dot_inv (m : Mat K) (p : Pt K) (h : Matrix.Det m ≠ 0) : Matrix.Dot m (Matrix.Dot (Matrix.Inv m) p) = p := by
  rw [← dot_mul, mul_inv m h, one_dot]

/-- to compare two images under the same matrix, compare the points -/
theorem dot_congr (m : Mat K) {x y x' y' : K} (hx : x = x') (hy : y = y') :
    Matrix.Dot m ⟨x, y⟩ = Matrix.Dot m ⟨x', y'⟩ := by rw [hx, hy]

/-! Every constructor is `m · E` for an elementary `E` (or a composition of such), so by `dot_mul`
it transforms the point by `E` first. -/

theorem translate_dot (m : Mat K) (x y : K) (p : Pt K) :
    Matrix.Dot (Matrix.Translate m x y) p = Matrix.Dot m ⟨p.x + x, p.y + y⟩ :=
  (dot_mul m _ p).trans (dot_congr m (by ring) (by ring))

theorem scale_dot (m : Mat K) (sx sy : K) (p : Pt K) :
    Matrix.Dot (Matrix.Scale m sx sy) p = Matrix.Dot m ⟨sx * p.x, sy * p.y⟩ :=
  (dot_mul m _ p).trans (dot_congr m (by ring) (by ring))

theorem shear_dot (m : Mat K) (sx sy : K) (p : Pt K) :
    Matrix.Dot (Matrix.Shear m sx sy) p = Matrix.Dot m ⟨p.x + sx * p.y, sy * p.x + p.y⟩ :=
  (dot_mul m _ p).trans (dot_congr m (by ring) (by ring))

/-- the matrix literal of `Matrix.Rotate`, for any sine and cosine -/
theorem rotate_dot (m : Mat K) (sn cs : K) (p : Pt K) :
    Matrix.Dot (Matrix.Mul m ⟨cs, -sn, 0, sn, cs, 0⟩) p =
      Matrix.Dot m ⟨cs * p.x - sn * p.y, sn * p.x + cs * p.y⟩ :=
  (dot_mul m _ p).trans (dot_congr m (by ring) (by ring))

theorem reflectX_dot (m : Mat K) (p : Pt K) : Matrix.Dot (Matrix.ReflectX m) p = Matrix.Dot m ⟨-p.x, p.y⟩ :=
  (scale_dot m _ _ p).trans (dot_congr m (neg_one_mul _) (_root_.one_mul _))

theorem reflectY_dot (m : Mat K) (p : Pt K) : Matrix.Dot (Matrix.ReflectY m) p = Matrix.Dot m ⟨p.x, -p.y⟩ :=
  (scale_dot m _ _ p).trans (dot_congr m (_root_.one_mul _) (neg_one_mul _))

theorem scaleAbout_dot (m : Mat K) (sx sy x y : K) (p : Pt K) :
    Matrix.Dot (Matrix.ScaleAbout m sx sy x y) p = Matrix.Dot m ⟨x + sx * (p.x - x), y + sy * (p.y - y)⟩ := by
  rw [Matrix.ScaleAbout, translate_dot, scale_dot, translate_dot]
  exact dot_congr m (by ring) (by ring)

theorem shearAbout_dot (m : Mat K) (sx sy x y : K) (p : Pt K) :
    Matrix.Dot (Matrix.ShearAbout m sx sy x y) p =
      Matrix.Dot m ⟨x + ((p.x - x) + sx * (p.y - y)), y + (sy * (p.x - x) + (p.y - y))⟩ := by
  rw [Matrix.ShearAbout, translate_dot, shear_dot, translate_dot]
  exact dot_congr m (by ring) (by ring)

theorem reflectXAbout_dot (m : Mat K) (x : K) (p : Pt K) :
    Matrix.Dot (Matrix.ReflectXAbout m x) p = Matrix.Dot m ⟨2 * x - p.x, p.y⟩ := by
  rw [Matrix.ReflectXAbout, translate_dot, scale_dot, translate_dot]
  exact dot_congr m (by ring) (by ring)

theorem reflectYAbout_dot (m : Mat K) (y : K) (p : Pt K) :
    Matrix.Dot (Matrix.ReflectYAbout m y) p = Matrix.Dot m ⟨p.x, 2 * y - p.y⟩ := by
  rw [Matrix.ReflectYAbout, translate_dot, scale_dot, translate_dot]
  exact dot_congr m (by ring) (by ring)

/-! ## `Rect.Transform` -/

/-- on an interval, `u * ·` is monotone or antitone according to the sign of `u` -/
theorem mul_between (u : K) {x0 x x1 : K} (h0 : x0 ≤ x) (h1 : x ≤ x1) :
    (u * x0 ≤ u * x ∧ u * x ≤ u * x1) ∨ (u * x1 ≤ u * x ∧ u * x ≤ u * x0) :=
  (le_total 0 u).imp
    (fun hu => ⟨mul_le_mul_of_nonneg_left h0 hu, mul_le_mul_of_nonneg_left h1 hu⟩)
    (fun hu => ⟨mul_le_mul_of_nonpos_left h1 hu, mul_le_mul_of_nonpos_left h0 hu⟩)

/-- A linear form on a box lies between its values at the corners: the least and the greatest are
taken at the corners picked by the signs of `u` and `v`. -/
theorem corner_bounds {x0 x x1 y0 y y1 : K} (hx0 : x0 ≤ x) (hx1 : x ≤ x1) (hy0 : y0 ≤ y) (hy1 : y ≤ y1)
    (u v w : K) :
    min (u * x0 + v * y0 + w) (min (u * x1 + v * y0 + w) (min (u * x1 + v * y1 + w) (u * x0 + v * y1 + w)))
        ≤ u * x + v * y + w ∧
      u * x + v * y + w ≤
        max (u * x0 + v * y0 + w) (max (u * x1 + v * y0 + w) (max (u * x1 + v * y1 + w) (u * x0 + v * y1 + w))) := by
  have step {a b c d : K} (h1 : a ≤ b) (h2 : c ≤ d) : a + c + w ≤ b + d + w :=
    add_le_add (add_le_add h1 h2) le_rfl
  rcases mul_between u hx0 hx1 with hx | hx <;> rcases mul_between v hy0 hy1 with hy | hy
  · exact ⟨(min_le_left _ _).trans (step hx.1 hy.1),
      (step hx.2 hy.2).trans (le_max_of_le_right (le_max_of_le_right (le_max_left _ _)))⟩
  · exact ⟨(min_le_of_right_le (min_le_of_right_le (min_le_right _ _))).trans (step hx.1 hy.1),
      (step hx.2 hy.2).trans (le_max_of_le_right (le_max_left _ _))⟩
  · exact ⟨(min_le_of_right_le (min_le_left _ _)).trans (step hx.1 hy.1),
      (step hx.2 hy.2).trans (le_max_of_le_right (le_max_of_le_right (le_max_right _ _)))⟩
  · exact ⟨(min_le_of_right_le (min_le_of_right_le (min_le_left _ _))).trans (step hx.1 hy.1),
      (step hx.2 hy.2).trans (le_max_left _ _)⟩

/-- `Rect.Transform` returns a box containing the image of every point of the rectangle. -/
theorem rect_transform_contains (m : Mat K) (r : Rct K) (p : Pt K)
    (hx : r.x0 ≤ p.x ∧ p.x ≤ r.x1) (hy : r.y0 ≤ p.y ∧ p.y ≤ r.y1) :
    (Rect.Transform r m).x0 ≤ (Matrix.Dot m p).x ∧ (Matrix.Dot m p).x ≤ (Rect.Transform r m).x1 ∧
    (Rect.Transform r m).y0 ≤ (Matrix.Dot m p).y ∧ (Matrix.Dot m p).y ≤ (Rect.Transform r m).y1 :=
  have hX := corner_bounds hx.1 hx.2 hy.1 hy.2 m.a m.b m.c
  have hY := corner_bounds hx.1 hx.2 hy.1 hy.2 m.d m.e m.f
  ⟨hX.1, hX.2, hY.1, hY.2⟩

end Aff
