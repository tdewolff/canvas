import CanvasModel.C14
import Mathlib.Data.List.Chain

/-! A fact about a colour table is decided in one pass over the table's list (`IsChain`,
`∀ x ∈ t.toList.zipIdx`) and carried to `t[i]!` by the `getElem!_…` lemmas. -/
namespace Canvas.C14

open Tables in
theorem tables_spec : ∀ t ∈ [srgbToLinear, srgbFromLinear, gamma22ToLinear, gamma22FromLinear],
    t.size = 256 ∧ t.toList.IsChain (· ≤ ·) ∧ t[0]! = 0 ∧ t[255]! = 255 := by decide +kernel

open Tables in
theorem toLinear_le : ∀ t ∈ [srgbToLinear, gamma22ToLinear], ∀ x ∈ t.toList.zipIdx, x.1 ≤ x.2 := by
  decide +kernel

theorem getElem!_le_of_isChain {t : Array Nat} (h : t.toList.IsChain (· ≤ ·)) {i j : Nat} (hij : i ≤ j)
    (hj : j < t.size) : t[i]! ≤ t[j]! := by
  rw [getElem!_pos t i (by omega), getElem!_pos t j hj]
  rcases hij.eq_or_lt with rfl | hlt
  · rfl
  · exact List.pairwise_iff_getElem.mp (List.isChain_iff_pairwise.mp h) i j _ _ hlt

theorem getElem!_of_zipIdx {P : Nat → Nat → Prop} {t : Array Nat} (h : ∀ x ∈ t.toList.zipIdx, P x.1 x.2)
    {i : Nat} (hi : i < t.size) : P t[i]! i :=
  h (_, i) (List.mem_zipIdx_iff_getElem?.mpr (by simp [getElem!_pos t i hi]))

/-- the table `c ↦ g[f[c]]` for a non-decreasing `f` with entries ≥ `k`, from `g` without its first `k`
entries: `g` is only ever advanced, so the kernel evaluates the whole composition in one pass over
each table instead of 256 lookups -/
def composeFrom : List Nat → Nat → List Nat → List Nat
  | [], _, _ => []
  | a :: f, k, g => (g.drop (a - k)).headD 0 :: composeFrom f a (g.drop (a - k))

theorem composeFrom_eq (g : List Nat) : ∀ (f : List Nat) (k : Nat), (k :: f).IsChain (· ≤ ·) →
    composeFrom f k (g.drop k) = f.map (g[·]?.getD 0)
  | [], _, _ => rfl
  | a :: f, k, h => by
    obtain ⟨hka, hf⟩ := List.isChain_cons_cons.mp h
    rw [composeFrom, List.drop_drop, Nat.add_sub_cancel' hka, composeFrom_eq g f a hf,
      List.headD_eq_head?_getD, List.head?_drop, List.map_cons]

theorem getElem!_of_composeFrom {P : Nat → Nat → Prop} {f g : Array Nat} (hf : f.toList.IsChain (· ≤ ·))
    {c x : Nat} (hc : c < f.size) (hx : g[f[c]!]! = x)
    (h : ∀ x ∈ (composeFrom f.toList 0 g.toList).zipIdx, P x.1 x.2) : P x c := by
  subst hx
  have h0 : (0 :: f.toList).IsChain (· ≤ ·) := List.isChain_cons.mpr ⟨fun y _ => Nat.zero_le y, hf⟩
  rw [← g.toList.drop_zero, composeFrom_eq _ _ _ h0] at h
  refine h (_, c) (List.mem_zipIdx_iff_getElem?.mpr ?_)
  simp [Array.getElem!_eq_getD, Array.getD_eq_getD_getElem?, hc]

end Canvas.C14
