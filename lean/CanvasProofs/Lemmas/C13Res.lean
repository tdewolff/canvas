import CanvasProofs.Lemmas.C13Pages

/-! C13: page-local resource names — every name the resource operators emit into a page's content
stream is defined in THAT page's resource dictionaries. Here: one page under one operator. -/
namespace C13L
open Canvas.C13
open Canvas (forall_mem_snoc mem_map_append mem_map_last)

def PageOK (p : Page) : Prop := ∀ u ∈ p.uses, u.2 ∈ p.names u.1

structure Grows (p p' : Page) : Prop where
  fonts : ∀ x ∈ p.fonts.map (·.1), x ∈ p'.fonts.map (·.1)
  gstates : ∀ x ∈ p.gstates.map (·.2.1), x ∈ p'.gstates.map (·.2.1)
  xobjs : ∀ x ∈ p.xobjs.map (·.1), x ∈ p'.xobjs.map (·.1)
  patterns : ∀ x ∈ p.patterns.map (·.2.1), x ∈ p'.patterns.map (·.2.1)

theorem names_mono {p p' : Page} (g : Grows p p') (cat : Nat) (x : Bytes) (hx : x ∈ p.names cat) : x ∈ p'.names cat := by
  match cat with
  | 0 => exact g.fonts x hx
  | 1 => exact g.gstates x hx
  | 2 => exact g.xobjs x hx
  | 3 => exact g.patterns x hx
  | n + 4 => cases hx

theorem Grows.of_eq {p p' : Page} (h1 : p'.fonts = p.fonts) (h2 : p'.gstates = p.gstates) (h3 : p'.xobjs = p.xobjs)
    (h4 : p'.patterns = p.patterns) : Grows p p' :=
  ⟨h1 ▸ fun _ h => h, h2 ▸ fun _ h => h, h3 ▸ fun _ h => h, h4 ▸ fun _ h => h⟩

theorem ok_same {p p' : Page} (h : PageOK p) (g : Grows p p') (hu : p'.uses = p.uses) : PageOK p' :=
  fun u hu' => names_mono g _ _ (h u (hu ▸ hu'))

/-- every resource operator has this shape: one more use, of a name the page (now) defines -/
theorem ok_use {p p' : Page} (h : PageOK p) (g : Grows p p') (cat : Nat) (n : Bytes)
    (hu : p'.uses = p.uses ++ [(cat, n)]) (hn : n ∈ p'.names cat) : PageOK p' := by
  unfold PageOK
  rw [hu]
  exact forall_mem_snoc (fun u h1 => names_mono g _ _ (h u h1)) hn

theorem ok_write {p : Page} (b : Bytes) (h : PageOK p) : PageOK (p.write b) :=
  ok_same h (.of_eq rfl rfl rfl rfl) rfl

/-- What a paint operator does to the page: it may define names and uses only defined ones; fonts,
images and the text state are not its business. -/
structure Paints (p p' : Page) : Prop where
  ok : PageOK p → PageOK p'
  fonts : p'.fonts = p.fonts
  xobjs : p'.xobjs = p.xobjs
  inText : p'.inText = p.inText

theorem Paints.refl {p : Page} : Paints p p := ⟨id, rfl, rfl, rfl⟩

theorem Paints.trans {p q r : Page} (a : Paints p q) (b : Paints q r) : Paints p r :=
  ⟨b.ok ∘ a.ok, b.fonts.trans a.fonts, b.xobjs.trans a.xobjs, b.inText.trans a.inText⟩

theorem paints_setAlpha (p : Page) (k pr : Bytes) : Paints p (p.setAlpha k pr) := by
  unfold Page.setAlpha
  split
  · exact .refl
  · split
    · next a n c heq =>
      exact ⟨fun h => ok_use h (.of_eq rfl rfl rfl rfl) 1 n rfl
        (List.mem_map.mpr ⟨(a, n, c), List.mem_of_find?_eq_some heq, rfl⟩), rfl, rfl, rfl⟩
    · exact ⟨fun h => ok_use h ⟨fun _ h => h, mem_map_append, fun _ h => h, fun _ h => h⟩ 1 _ rfl
        mem_map_last, rfl, rfl, rfl⟩

theorem paints_setGradient (env : Env) (p : Page) (st : Bool) (k a1 : Bytes) :
    Paints p (p.setGradient env st k a1) := by
  refine (paints_setAlpha p env.alpha1 a1).trans ?_
  unfold Page.setGradient
  generalize p.setAlpha env.alpha1 a1 = q
  cases st
  all_goals
    simp only [Bool.false_eq_true, if_false, if_true]
    split
    · exact .refl
    · cases hf : q.patterns.find? (fun e => e.1 == k) with
      | some e =>
        obtain ⟨a, n, v⟩ := e
        exact ⟨fun h => ok_use h (.of_eq rfl rfl rfl rfl) 3 n rfl
          (List.mem_map.mpr ⟨(a, n, v), List.mem_of_find?_eq_some hf, rfl⟩), rfl, rfl, rfl⟩
      | none =>
        exact ⟨fun h => ok_use h ⟨fun _ h => h, fun _ h => h, fun _ h => h, mem_map_append⟩ 3 _ rfl
          mem_map_last, rfl, rfl, rfl⟩

theorem setAlpha_frame (p : Page) (k pr : Bytes) :
    (p.setAlpha k pr).fonts = p.fonts ∧ (p.setAlpha k pr).xobjs = p.xobjs ∧ (p.setAlpha k pr).inText = p.inText :=
  have a := paints_setAlpha p k pr
  ⟨a.fonts, a.xobjs, a.inText⟩

theorem setGradient_frame (env : Env) (p : Page) (st : Bool) (k a1 : Bytes) :
    (p.setGradient env st k a1).fonts = p.fonts ∧ (p.setGradient env st k a1).xobjs = p.xobjs
      ∧ (p.setGradient env st k a1).inText = p.inText :=
  have a := paints_setGradient env p st k a1
  ⟨a.fonts, a.xobjs, a.inText⟩

end C13L
