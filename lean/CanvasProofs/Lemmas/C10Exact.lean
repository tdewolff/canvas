import CanvasModel.Path
import CanvasProofs.Lemmas.Basic
/-! Exact integer instances of the builder oracle: `goGeo` uses the Go code's dominant-axis sign-bit
direction test literally, `fixedGeo` the dot product.  Used for witness theorems and non-vacuity. -/
namespace Canvas.Path

def iperp (p q : Pt Int) : Int := p.x * q.y - p.y * q.x
def idot (p q : Pt Int) : Int := p.x * q.x + p.y * q.y

def iabs (a : Int) : Int := if a < 0 then -a else a

/-- Exact arithmetic (Signbit x = x < 0; Epsilon = 0): `Equal` and the direction and angle tests of
LineTo, QuadTo, CubeTo, Close as in path.go; the arc quantities (`lambda`, `phiOf`, `radToDeg`,
`arcPlan`) are placeholders. -/
def goGeo : Geo Int where
  zero := 0
  eq a b := a == b
  isInf _ := false
  abs := iabs
  lt a b := a < b
  mul a b := a * b
  sub p q := ⟨p.x - q.x, p.y - q.y⟩
  parallel da db := iperp da db == 0
  sameDir da db :=
    if iabs da.y < iabs da.x then decide (da.x < 0) == decide (db.x < 0) else decide (da.y < 0) == decide (db.y < 0)
  angleEq0 p q := iperp p q == 0 && decide (0 ≤ idot p q)
  angleIs0 p q := iperp p q == 0 && decide (0 ≤ idot p q)
  rotPlus90 r := r + 90
  phiOf r := r
  lambda _ _ _ _ _ := 0
  gtOne l := decide (1 < l)
  radToDeg r := r
  arcPlan _ _ _ _ _ s := ⟨false, false, false, false, s, s⟩

/-- The same with the direction test of the line commented out in LineTo (`AngleBetween … = 0`, for
parallel vectors `da · db > 0`) and an angle test that is false for zero vectors. -/
def fixedGeo : Geo Int :=
  { goGeo with
    sameDir := fun da db => decide (0 < idot da db)
    angleEq0 := fun p q => iperp p q == 0 && decide (0 < idot p q)
    angleIs0 := fun p q => iperp p q == 0 && decide (0 < idot p q) }

/-- the command values of path.go as integers -/
def intCodes : Codes Int where
  move := 1
  line := 2
  quad := 4
  cube := 8
  arc := 16
  close := 32
  flag l s := (if l then 1 else 0) + (if s then 2 else 0)

theorem sub_ne_zero_of_pt_ne {a b : Pt Int} (h : a ≠ b) : b.x - a.x ≠ 0 ∨ b.y - a.y ≠ 0 := by
  obtain ⟨ax, ay⟩ := a
  obtain ⟨bx, byy⟩ := b
  show bx - ax ≠ 0 ∨ byy - ay ≠ 0
  by_cases hx : bx - ax = 0
  · exact Or.inr fun hy => h (by rw [show ax = bx by omega, show ay = byy by omega])
  · exact Or.inl hx

theorem idot_rev_neg {a b : Pt Int} (h : a ≠ b) :
    idot ⟨b.x - a.x, b.y - a.y⟩ ⟨a.x - b.x, a.y - b.y⟩ < 0 := by
  -- the second vector is minus the first: the product is minus a sum of squares
  simp only [idot]
  rw [show a.x - b.x = -(b.x - a.x) by omega, show a.y - b.y = -(b.y - a.y) by omega, Int.mul_neg, Int.mul_neg]
  have h1 := int_mul_self_nonneg (b.x - a.x)
  have h2 := int_mul_self_nonneg (b.y - a.y)
  rcases sub_ne_zero_of_pt_ne h with h | h <;> have := Int.mul_ne_zero h h <;> omega

theorem goGeo_ptEq (a b : Pt Int) : goGeo.ptEq a b = true ↔ a = b := by
  cases a; cases b; simp [Geo.ptEq, goGeo]

theorem goGeo_ptEq_false {a b : Pt Int} (h : goGeo.ptEq a b = false) : a ≠ b :=
  fun hab => Bool.false_ne_true (h.symm.trans ((goGeo_ptEq a b).2 hab))

theorem goGeo_sane : Sane goGeo := by
  constructor
  · intro a b
    exact Bool.eq_iff_iff.2 (by rw [goGeo_ptEq, goGeo_ptEq]; exact eq_comm)
  · intro a b hab
    have := idot_rev_neg (goGeo_ptEq_false hab)
    show (_ && decide (0 ≤ idot ⟨b.x - a.x, b.y - a.y⟩ ⟨a.x - b.x, a.y - b.y⟩)) = false
    rw [decide_eq_false (by omega), Bool.and_false]

theorem fixedGeo_ptEq (a b : Pt Int) : fixedGeo.ptEq a b = goGeo.ptEq a b := by
  simp only [Geo.ptEq, fixedGeo]

theorem fixedGeo_sane : Sane fixedGeo := by
  constructor
  · intro a b
    rw [fixedGeo_ptEq, fixedGeo_ptEq]; exact goGeo_sane.ptEq_symm a b
  · intro a b hab
    rw [fixedGeo_ptEq] at hab
    have := idot_rev_neg (goGeo_ptEq_false hab)
    show (_ && decide (0 < idot ⟨b.x - a.x, b.y - a.y⟩ ⟨a.x - b.x, a.y - b.y⟩)) = false
    rw [decide_eq_false (by omega), Bool.and_false]

theorem fixedGeo_mergeSound : MergeSound fixedGeo := by
  intro a s p has _ _ hdir
  rw [fixedGeo_ptEq] at has ⊢
  cases h : goGeo.ptEq a p
  · rfl
  · obtain rfl := (goGeo_ptEq a p).1 h
    have := idot_rev_neg (goGeo_ptEq_false has)
    have hd : 0 < idot ⟨s.x - a.x, s.y - a.y⟩ ⟨a.x - s.x, a.y - s.y⟩ := of_decide_eq_true hdir
    omega

theorem iabs_cases (x : Int) : 0 ≤ x ∧ iabs x = x ∨ x < 0 ∧ iabs x = -x := by
  unfold iabs; split <;> omega

/-- The repaired direction test of LineTo (path.go, commit 219108c) is sound in exact arithmetic: a
line that is parallel to the previous, non-zero one and whose dominant component has the same sign
does not lead back to that line's start. -/
theorem goGeo_mergeSound : MergeSound goGeo := by
  intro a s p has _ _ hdir
  cases h : goGeo.ptEq a p
  · rfl
  · -- back at the start `db = -da`, and the dominant component of `da` is not zero
    rw [goGeo_ptEq] at h; subst h
    have hne := sub_ne_zero_of_pt_ne (goGeo_ptEq_false has)
    have hdir' : (if iabs (s.y - a.y) < iabs (s.x - a.x) then decide (s.x - a.x < 0) == decide (a.x - s.x < 0)
        else decide (s.y - a.y < 0) == decide (a.y - s.y < 0)) = true := hdir
    have h1 := iabs_cases (s.x - a.x)
    have h2 := iabs_cases (s.y - a.y)
    split at hdir' <;> simp only [beq_iff_eq, decide_eq_decide] at hdir' <;> omega

end Canvas.Path
