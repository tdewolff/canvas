import CanvasProofs.Lemmas.C06Chain
import CanvasModel.C06Proto

/-! The rotation at Close and closed subpaths: what `windings` is handed is a permutation of the chain's
hits (`rayHits_perm`) made of whole blocks (`closed_conj`), hence the winding number
(`windingsSub_refines`). -/
namespace Canvas.C06
open Canvas.Wn

theorem rotateStart_cases (p v0 : IPt) (hs : List Hit) :
    rotateStart p v0 hs = hs ∨ ∃ ys hl, hs = ys ++ [hl] ∧ rotateStart p v0 hs = hl :: ys := by
  unfold rotateStart
  split
  · split
    · rename_i hl hget
      split
      · rename_i hc
        obtain ⟨ys, hys⟩ := List.getLast?_eq_some_iff.mp hget
        exact .inr ⟨ys, hl, hys, by rw [hys, List.dropLast_concat]⟩
      · exact .inl rfl
    · exact .inl rfl
  · exact .inl rfl

theorem rotateStart_perm (p v0 : IPt) (hs : List Hit) : (rotateStart p v0 hs).Perm hs := by
  rcases rotateStart_cases p v0 hs with h | ⟨ys, hl, h1, h2⟩
  · rw [h]
  · rw [h2, h1]; exact (List.perm_append_singleton hl ys).symm

theorem rayHits_perm (closed : Bool) (p : IPt) (poly : List IPt) :
    (rayHits closed p poly).Perm (chainHits p (subpathVerts closed poly)) := by
  refine (isort_perm _).trans ?_
  cases poly with
  | nil => exact .refl _
  | cons a r =>
    cases closed with
    | false => exact .refl _
    | true => exact rotateStart_perm p a _

theorem rotateStart_fire (p v0 : IPt) (z0 e : Hit) (t : List Hit) (h0 : z0.tb = .zero) (h1 : e.tb = .one)
    (hy : v0.y = p.y) (hx0 : z0.x = (v0.x : Rat)) (hx1 : e.x = (v0.x : Rat)) :
    rotateStart p v0 (z0 :: (t ++ [e])) = e :: z0 :: t := by
  have hg : (z0 :: (t ++ [e])).getLast? = some e := List.getLast?_concat (l := z0 :: t)
  have hd : (z0 :: (t ++ [e])).dropLast = z0 :: t := List.dropLast_concat (l₁ := z0 :: t)
  cases t with
  | nil =>
    simp only [List.nil_append] at hg hd ⊢
    simp only [rotateStart, hg, h0, h1, hy, hx0, hx1, and_self, if_true, hd]
  | cons t1 t' =>
    simp only [List.cons_append] at hg hd ⊢
    simp only [rotateStart, hg, h0, h1, hy, hx0, hx1, and_self, if_true, hd]

theorem rotateStart_id (p v0 : IPt) {l : List Hit} (h : ∀ h0 t, l = h0 :: t → h0.tb ≠ .zero) :
    rotateStart p v0 l = l := by
  unfold rotateStart
  split
  · rename_i h0 h1 tl
    simp only [h h0 (h1 :: tl) rfl, false_and, if_false]
    split <;> rfl
  · rfl

theorem subpathVerts_closed (a : IPt) (r : List IPt) :
    subpathVerts true (a :: r) = a :: (r ++ [a]) := rfl

theorem subHits_closed (p a : IPt) (r : List IPt) :
    subHits true p (a :: r) = rotateStart p a (chainHits p (a :: (r ++ [a]))) := rfl

theorem getLast_append_self (a : IPt) (r : List IPt) :
    (a :: (r ++ [a])).getLast (by simp) = a := by
  rw [List.getLast_cons (by simp)]; simp

theorem W_closed (p a : IPt) (r : List IPt) (hoff : offChain p (a :: (r ++ [a]))) :
    W ((chainHits p (a :: (r ++ [a]))).map Hit.z) = 2 * wn1 p (a :: r) := by
  rw [(chain_sums p (r ++ [a]) a hoff).1, getLast_append_self]
  show _ = 2 * chainW p (a :: (r ++ [a]))
  omega

/-- A closed subpath off the point hands whole blocks to the sort, and the rotation at Close (847036a)
is a conjugation: with the end hit `pe` of the closing segment in front of the chain's hits and behind
the rotated ones, the two lists are the same. -/
theorem closed_conj (p a : IPt) (r : List IPt) (hoff : offChain p (a :: (r ++ [a]))) :
    Blocks (subHits true p (a :: r)) ∧ ∃ pe, PendOK p a pe ∧
      pe.toList ++ chainHits p (a :: (r ++ [a])) = subHits true p (a :: r) ++ pe.toList := by
  have hup := chain_upto p (r ++ [a]) a
  rw [getLast_append_self] at hup
  by_cases hstart : fR p a = true
  · -- walk with a stand-in for the closing segment's end hit in front
    obtain ⟨body, e, heq, he1, hex, het0, hB⟩ :=
      (hup [⟨(a.x : Rat), false, false, .one, false⟩] hoff (upto_on hstart rfl rfl rfl .nil)).1 hstart
    cases hB with
    | nil =>
      obtain ⟨rfl, hC⟩ : _ = e ∧ chainHits p (a :: (r ++ [a])) = [] := by simpa using heq
      have hS : subHits true p (a :: r) = [] := by rw [subHits_closed, hC]; rfl
      exact ⟨hS ▸ .nil, _, pendOK_some hstart he1 het0, by rw [hC, hS]; rfl⟩
    | mid tb _ =>
      simp only [List.cons_append, List.nil_append, List.cons.injEq] at heq
      rw [← heq.1] at tb; cases tb
    | @pair e0 s t tbe tbs x hl =>
      simp only [List.cons_append, List.nil_append, List.cons.injEq] at heq
      obtain ⟨rfl, hC⟩ := heq
      have hS : subHits true p (a :: r) = e :: s :: t := by
        rw [subHits_closed, hC]
        exact rotateStart_fire p a s e t tbs he1 (of_decide_eq_true hstart).1 x hex
      exact ⟨hS ▸ .pair he1 tbs (x.trans hex.symm) hl, some e, pendOK_some hstart he1 het0,
        by rw [hC, hS]; simp⟩
  · have hstart' : fR p a = false := by simpa using hstart
    have h1 := (hup [] hoff (upto_off hstart' .nil)).2 hstart'
    rw [List.nil_append] at h1
    have hS : subHits true p (a :: r) = chainHits p (a :: (r ++ [a])) := by
      rw [subHits_closed, rotateStart_id p a h1.head_ne_zero]
    exact ⟨hS ▸ h1, none, pendOK_none hstart', by rw [hS]; simp⟩

theorem windingsSub_refines (p a : IPt) (r : List IPt)
    (hoff : offChain p (subpathVerts true (a :: r))) :
    windingsSub true p (a :: r) = .ok (wn1 p (a :: r)) false := by
  have hperm := rayHits_perm true p (a :: r)
  rw [subpathVerts_closed] at hperm hoff
  obtain ⟨hW, hN⟩ := W_nsame_perm (hperm.map Hit.z)
  obtain ⟨-, hpar, hclean⟩ := chain_sums p (r ++ [a]) a hoff
  obtain ⟨m, hm, hval⟩ := go_weight ((rayHits true p (a :: r)).map Hit.z) 0 false (false, false)
    (WPz_of_WP (closed_conj p a r hoff).1.wp_isort)
    (fun z hz => hclean z ((hperm.map Hit.z).mem_iff.mp hz))
  have h2 := hval (by rw [hN]; simp; omega)
  rw [hW, W_closed p a r hoff] at h2
  have hm' : m = wn1 p (a :: r) := by simp [phi] at h2; omega
  rw [windingsSub, windings, hm, hm']

def GoodSub (p : IPt) (s : Sub) : Prop :=
  s.1 = true ∧ ∃ a r, s.2 = a :: r ∧ offChain p (subpathVerts true (a :: r))

theorem goodSub_closed {p a : IPt} {r : List IPt} (h : offChain p (subpathVerts true (a :: r))) :
    GoodSub p (true, a :: r) :=
  ⟨rfl, a, r, rfl, h⟩

theorem windingsSub_good (p : IPt) (s : Sub) (h : GoodSub p s) :
    windingsSub s.1 p s.2 = .ok (wn1 p s.2) false := by
  obtain ⟨hc, a, r, hs, hoff⟩ := h
  rw [hc, hs]; exact windingsSub_refines p a r hoff

theorem windingsPathGo_refines (p : IPt) (subs : List Sub) (h : ∀ s ∈ subs, GoodSub p s) (n : Int) :
    windingsPathGo p subs n false = .ok (n + wn p (subs.map (·.2))) false := by
  induction subs generalizing n with
  | nil => simp [windingsPathGo, wn]
  | cons s rest ih =>
    simp only [windingsPathGo, windingsSub_good p s (h s (by simp))]
    simp only [Bool.false_eq_true, if_false, List.map_cons, wn_cons]
    rw [ih (fun s hs => h s (by simp [hs]))]
    congr 1; omega

theorem othersGo_refines (pos : IPt) (i : Nat) (subs : List Sub) (j : Nat) (n : Int)
    (h : ∀ k (hk : k < subs.length), j + k ≠ i → GoodSub pos subs[k]) :
    othersGo pos i subs j n = n + wnOthers pos i (subs.map (·.2)) j := by
  induction subs generalizing j n with
  | nil => simp [othersGo, wnOthers]
  | cons s rest ih =>
    have hrest : ∀ k (hk : k < rest.length), (j + 1) + k ≠ i → GoodSub pos rest[k] := by
      intro k hk hne
      have := h (k + 1) (by simp; omega) (by omega)
      simpa using this
    simp only [othersGo, List.map_cons, wnOthers]
    by_cases hij : i = j
    · subst hij
      simp only [beq_self_eq_true, if_true]
      rw [ih (i + 1) n hrest]; simp
    · have hb : (i == j) = false := by simpa using hij
      have hg : GoodSub pos s := by
        have := h 0 (by simp) (by omega)
        simpa using this
      have hs1 : s.1 = true := hg.1
      have hgood := windingsSub_good pos s hg
      rw [hs1] at hgood
      simp only [hb, Bool.false_eq_true, if_false, hs1, if_true, hgood]
      rw [ih (j + 1) _ hrest]
      omega

end Canvas.C06
