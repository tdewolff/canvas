import CanvasModel.C14

namespace Canvas.C14

theorem replay_apply {Px Col} (ds : List (Draw Px Col)) (img : Px → Col) (p : Px) :
    replay ds img p = ds.foldl (fun c d => if d.covers p then d.paint else c) (img p) := by
  induction ds generalizing img with
  | nil => rfl
  | cons d ds ih => exact ih _

theorem replay_local {Px Col} (ds : List (Draw Px Col)) (p : Px) (i1 i2 : Px → Col) (h : i1 p = i2 p) :
    replay ds i1 p = replay ds i2 p := by
  rw [replay_apply, replay_apply, h]

theorem replay_append {Px Col} (ds es : List (Draw Px Col)) (img : Px → Col) :
    replay (ds ++ es) img = replay es (replay ds img) :=
  funext fun p => by rw [replay_apply, replay_apply, replay_apply, List.foldl_append]

end Canvas.C14
