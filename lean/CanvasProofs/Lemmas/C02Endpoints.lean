import CanvasModel.C02.Endpoints
/-! Operand preparation: flags of the sweep segments of a subpath, and the balance of a closed
contour across any vertical line (which makes the region above the top of every real column
unfilled). Core Lean only. -/
namespace Canvas.C02
open Canvas.C01 Canvas.Wn

theorem epChain_open (o : Bool) (seg : Nat) (l : List IPt) :
    ∀ e ∈ epChain o seg l, e.flags.open_ = o ∧ e.flags.clipping = false := by
  fun_induction epChain o seg l with
  | case1 seg a b rest ih =>
    intro e he
    rcases List.mem_append.mp he with he | he
    · split at he
      · cases he
      · rw [List.mem_singleton.mp he]; exact ⟨rfl, rfl⟩
    · exact ih e he
  | case2 => intro e he; cases he

def lineSide (c : Int) (v : IPt) : Int := if c < v.x then 1 else 0

theorem crossX_lineSide {a b : IPt} {c : Int} (ha : a.x ≠ c) (hb : b.x ≠ c) :
    crossX a.x b.x c = lineSide c b - lineSide c a := by
  have ha' : a.x < c ↔ ¬ c < a.x := by omega
  have hb' : b.x < c ↔ ¬ c < b.x := by omega
  unfold crossX lineSide
  by_cases h1 : c < a.x <;> by_cases h2 : c < b.x <;> simp [ha', hb', h1, h2]

theorem crossSum_append (c : Int) (l1 l2 : List EP) : crossSum c (l1 ++ l2) = crossSum c l1 + crossSum c l2 := by
  induction l1 with
  | nil => simp [crossSum]
  | cons e l ih => simp only [List.cons_append, crossSum, ih]; omega

theorem crossSum_epChain_cons {c : Int} {o : Bool} {seg : Nat} {a b : IPt} {rest : List IPt}
    (ha : a.x ≠ c) (hb : b.x ≠ c) :
    crossSum c (epChain o seg (a :: b :: rest))
      = lineSide c b - lineSide c a + crossSum c (epChain o (seg + 1) (b :: rest)) := by
  rw [epChain, crossSum_append]
  by_cases hab : a = b
  · subst hab; simp [crossSum]
  · rw [if_neg hab]
    simp only [crossSum, crossDir, mkEP, crossX_lineSide ha hb, Int.add_zero]

theorem crossSum_chain {c : Int} {o : Bool} {seg : Nat} {a : IPt} {l : List IPt} {z : IPt}
    (ha : a.x ≠ c) (hl : ∀ v ∈ l, v.x ≠ c) (hz : z.x ≠ c) :
    crossSum c (epChain o seg (a :: (l ++ [z]))) = lineSide c z - lineSide c a := by
  induction l generalizing a seg with
  | nil =>
    rw [List.nil_append, crossSum_epChain_cons ha hz]
    simp [epChain, crossSum]
  | cons b rest ih =>
    have hb := hl b List.mem_cons_self
    rw [List.cons_append, crossSum_epChain_cons ha hb, ih hb (fun v hv => hl v (List.mem_cons_of_mem _ hv))]
    omega

end Canvas.C02
