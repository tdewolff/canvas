import CanvasProofs.Lemmas.C17Pass
import CanvasProofs.Lemmas.C17WF
/-! C17, towards `optimal`: one call of `mainLoop` seen from a node that stands for a break of a given breaking: the
fitness-class pruning keeps a dominating breakpoint, deactivation is safe, `nextTolerance` is bounded. -/
set_option linter.unusedSectionVars false
namespace Canvas.C17

section field
variable {K : Type} [Field K] [LinearOrder K] [IsStrictOrderedRing K]
variable (P : Params K) (items : List (Item K)) (lineW : K)

def candDem (cx : Ctx K) (a : Node K) (r : K) : K :=
  lineDemerits cx.P cx.it r (flaggedAt cx.items a.d.pos) a.d.fit + a.d.dem

/-- `D[c]` and `Dmin` read in `WithTop K`: `none` is +∞ -/
def slotD (g : Grp K) (c : Nat) : WithTop K := slotDem g c

def dminT (g : Grp K) : WithTop K := g.dmin

theorem ltOpt_iff {x : K} {d : Option K} : ltOpt x d = true ↔ (x : WithTop K) < (d : WithTop K) := by
  cases d with
  | none => exact iff_of_true rfl (WithTop.coe_lt_top x)
  | some y => exact decide_eq_true_iff.trans WithTop.coe_lt_coe.symm

theorem slotDem_eq_some {g : Grp K} {c : Nat} {x : K} :
    slotDem g c = some x ↔ ∃ cand, g.slots[c]? = some (some cand) ∧ cand.dem = x := by
  unfold slotDem
  constructor
  · intro h
    split at h
    · rename_i cand hc; exact ⟨cand, hc, Option.some.inj h⟩
    · cases h
  · rintro ⟨cand, hc, rfl⟩
    rw [hc]

/-- invariant of the class slots of one line group after the nodes `proc` have been processed -/
structure SlotInv (cx : Ctx K) (g : Grp K) (proc : List (Node K)) : Prop where
  len : g.slots.length = 4
  best : ∀ a, a ∈ proc → ∀ r, nodeRatio cx a = some r → feasibleR cx r = true →
    slotD g (fitClass r) ≤ ↑(candDem cx a r)
  dminLe : ∀ c, dminT g ≤ slotD g c
  dminAt : dminT g = ⊤ ∨ ∃ c, slotD g c = dminT g

theorem slotInv_empty (cx : Ctx K) : SlotInv cx emptyGrp [] := by
  refine ⟨rfl, fun a ha => (by cases ha), fun c => ?_, Or.inl rfl⟩
  unfold slotD slotDem
  split
  · rename_i cand hc; exact absurd hc (emptyGrp_slot c cand)
  · exact le_refl _

theorem updGrp_eq (cx : Ctx K) (a : Node K) (r : K) (g : Grp K) :
    updGrp cx a r g =
      if feasibleR cx r = true then
        (if ltOpt (candDem cx a r) (slotDem g (fitClass r)) = true then
          ⟨g.slots.set (fitClass r) (some ⟨candDem cx a r, a, r⟩),
            if ltOpt (candDem cx a r) g.dmin = true then some (candDem cx a r) else g.dmin⟩
        else g)
      else g := rfl

/-- `Dmin` becomes `min(Dmin, d)` also when `d` is not below `D[c]`: then it is not below `Dmin ≤ D[c]` either. -/
theorem updGrp_min {cx : Ctx K} {g : Grp K} (a : Node K) {r : K} (hlen : g.slots.length = 4)
    (hfe : feasibleR cx r = true) (hle : dminT g ≤ slotD g (fitClass r)) :
    (updGrp cx a r g).slots.length = 4 ∧
    (∀ i, slotD (updGrp cx a r g) i = if i = fitClass r then slotD g i ⊓ ↑(candDem cx a r) else slotD g i) ∧
    dminT (updGrp cx a r g) = dminT g ⊓ ↑(candDem cx a r) := by
  rw [updGrp_eq, if_pos hfe]
  by_cases hlt : ltOpt (candDem cx a r) (slotDem g (fitClass r)) = true
  · have h : (↑(candDem cx a r) : WithTop K) < slotD g (fitClass r) := ltOpt_iff.mp hlt
    rw [if_pos hlt]
    refine ⟨(List.length_set ..).trans hlen, fun i => ?_, ?_⟩
    · by_cases hi : i = fitClass r
      · subst hi
        rw [if_pos rfl, inf_eq_right.mpr h.le]
        unfold slotD slotDem
        rw [List.getElem?_set_self (by rw [hlen]; exact fitClass_lt r)]
        rfl
      · rw [if_neg hi]
        unfold slotD slotDem
        rw [List.getElem?_set_ne (Ne.symm hi)]
    · unfold dminT
      by_cases hd : ltOpt (candDem cx a r) g.dmin = true
      · rw [if_pos hd]
        exact (inf_eq_right.mpr (le_of_lt (ltOpt_iff.mp hd))).symm
      · rw [if_neg hd]
        exact (inf_eq_left.mpr (not_lt.mp fun h => hd (ltOpt_iff.mpr h))).symm
  · have h : slotD g (fitClass r) ≤ ↑(candDem cx a r) := not_lt.mp fun h => hlt (ltOpt_iff.mpr h)
    rw [if_neg hlt]
    refine ⟨hlen, fun i => ?_, (inf_eq_left.mpr (hle.trans h)).symm⟩
    split
    · rename_i hi
      subst hi
      exact (inf_eq_left.mpr h).symm
    · rfl

theorem updGrp_inv {cx : Ctx K} {g : Grp K} {proc : List (Node K)} {a : Node K} {r : K}
    (hr : nodeRatio cx a = some r) (hI : SlotInv cx g proc) : SlotInv cx (updGrp cx a r g) (a :: proc) := by
  have hrr : ∀ {r'}, nodeRatio cx a = some r' → r' = r :=
    fun h => (Option.some.inj (hr.symm.trans h)).symm
  by_cases hfe : feasibleR cx r = true
  · obtain ⟨hlen, hD, hm⟩ := updGrp_min (cx := cx) a hI.len hfe (hI.dminLe (fitClass r))
    refine ⟨hlen, ?_, ?_, ?_⟩
    · intro a' ha' r' hr' hf'
      rw [hD]
      rcases List.mem_cons.mp ha' with rfl | ha'
      · obtain rfl := hrr hr'
        rw [if_pos rfl]
        exact inf_le_right
      · -- slots only get cheaper
        refine le_trans ?_ (hI.best a' ha' r' hr' hf')
        split
        · exact inf_le_left
        · exact le_refl _
    · intro i
      rw [hm, hD]
      split
      · exact inf_le_inf_right _ (hI.dminLe i)
      · exact inf_le_left.trans (hI.dminLe i)
    · rw [hm]
      rcases le_total (↑(candDem cx a r) : WithTop K) (dminT g) with h | h
      · -- the new candidate is the least
        refine Or.inr ⟨fitClass r, ?_⟩
        rw [hD, if_pos rfl, inf_eq_right.mpr h, inf_eq_right.mpr (h.trans (hI.dminLe _))]
      · rw [inf_eq_left.mpr h]
        rcases hI.dminAt with h0 | ⟨i, hi⟩
        · rw [h0] at h
          exact absurd h (WithTop.not_top_le_coe _)
        · refine Or.inr ⟨i, ?_⟩
          rw [hD]
          split
          · rw [hi, inf_eq_left.mpr h]
          · exact hi
  · rw [updGrp_eq, if_neg hfe]
    refine ⟨hI.len, ?_, hI.dminLe, hI.dminAt⟩
    intro a' ha' r' hr' hf'
    rcases List.mem_cons.mp ha' with rfl | ha'
    · have : r' = r := hrr hr'
      subst this; exact absurd hf' hfe
    · exact hI.best a' ha' r' hr' hf'

/-- continuing from `n` costs no more than continuing from a break of class `fit` with `acc` demerits -/
def Dom (P : Params K) (n : Node K) (fit : Nat) (acc : K) : Prop :=
  (n.d.fit = fit ∧ n.d.dem ≤ acc) ∨ n.d.dem + P.demFitness ≤ acc

theorem Dom.mono {P : Params K} {n : Node K} {fit : Nat} {acc acc' : K} (h : Dom P n fit acc) (hle : acc ≤ acc') :
    Dom P n fit acc' :=
  h.imp (fun h => ⟨h.1, le_trans h.2 hle⟩) (fun h => le_trans h hle)

theorem dom_le {n : Node K} {fit : Nat} {acc : K} (hDF : 0 ≤ P.demFitness) (h : Dom P n fit acc) :
    n.d.dem ≤ acc := by
  rcases h with ⟨_, h⟩ | h
  · exact h
  · exact le_trans (le_add_of_nonneg_right hDF) h

def DomNode (cx : Ctx K) (width : K) (s : K × K × K) (n' : Node K) (a : Node K) (r : K) : Prop :=
  ∃ c cand, n' = mkNode cx width s c cand ∧ Dom cx.P n' (fitClass r) (candDem cx a r)

theorem flush_dom (cx : Ctx K) (width : K) (s : K × K × K) (g : Grp K) (o : MOut K) (proc : List (Node K))
    (hDF : 0 ≤ cx.P.demFitness) (hI : SlotInv cx g proc) (a : Node K) (ha : a ∈ proc) (r : K)
    (hr : nodeRatio cx a = some r) (hf : feasibleR cx r = true) :
    ∃ n', n' ∈ (flush cx width s g o).act ∧ DomNode cx width s n' a r := by
  obtain ⟨y, hy, hle⟩ := WithTop.le_coe_iff.mp (hI.best a ha r hr hf)
  obtain ⟨cand, hc, rfl⟩ := slotDem_eq_some.mp hy
  obtain ⟨dm, hdm, hdmle⟩ := WithTop.le_coe_iff.mp ((hI.dminLe (fitClass r)).trans_eq hy)
  unfold flush
  rw [show g.dmin = some dm from hdm]
  simp only
  -- the candidate in the slot of the class passes the test `D[c] ≤ Dmin + DemeritsFitness` and is emitted; or
  -- the one that holds `Dmin` is emitted, cheaper by more than `DemeritsFitness`, which pays for any class
  by_cases hk : cand.dem ≤ dm + cx.P.demFitness
  · refine ⟨mkNode cx width s (0 + fitClass r) cand,
      List.mem_append_right _ ((mem_emit_iff cx width s dm _ _ 0).mpr ⟨_, cand, hc, hk, rfl⟩), ?_⟩
    exact ⟨0 + fitClass r, cand, rfl, Or.inl ⟨Nat.zero_add _, hle⟩⟩
  · obtain ⟨i0, cand0, hc0, hd0⟩ : ∃ i, ∃ cand : Cand K, g.slots[i]? = some (some cand) ∧ cand.dem = dm := by
      rcases hI.dminAt with h0 | ⟨i, hi⟩
      · rw [hdm] at h0; exact absurd h0 WithTop.coe_ne_top
      · obtain ⟨cand0, hc0, hd0⟩ := slotDem_eq_some.mp (hi.trans hdm)
        exact ⟨i, cand0, hc0, hd0⟩
    have hk0 : cand0.dem ≤ dm + cx.P.demFitness := by rw [hd0]; exact le_add_of_nonneg_right hDF
    refine ⟨mkNode cx width s (0 + i0) cand0,
      List.mem_append_right _ ((mem_emit_iff cx width s dm _ _ 0).mpr ⟨_, cand0, hc0, hk0, rfl⟩), ?_⟩
    refine ⟨0 + i0, cand0, rfl, Or.inr ?_⟩
    show cand0.dem + cx.P.demFitness ≤ _
    rw [hd0]
    exact le_trans (not_le.mp hk).le hle

theorem stepNode_slotInv (cx : Ctx K) (x : Node K) (g : Grp K) (o : MOut K) (proc : List (Node K))
    (hI : SlotInv cx g proc) : SlotInv cx (stepNode cx x g o).1 (x :: proc) := by
  unfold stepNode
  cases hr : adjRatio cx.P cx.lineW cx.it cx.W cx.Y cx.Z x.d.w x.d.y x.d.z with
  | none =>
    simp only
    refine ⟨hI.len, ?_, hI.dminLe, hI.dminAt⟩
    intro a ha r hr' hf
    rcases List.mem_cons.mp ha with rfl | ha
    · cases hr.symm.trans hr'
    · exact hI.best a ha r hr' hf
  | some r => exact updGrp_inv hr hI

/-- pruning is safe: every feasible candidate is dominated by a breakpoint that `mainLoop` creates -/
theorem mainGo_dom (cx : Ctx K) (width : K) (s : K × K × K) (hDF : 0 ≤ cx.P.demFitness) :
    ∀ (l : List (Node K)) (g : Grp K) (o : MOut K) (proc : List (Node K)), SlotInv cx g proc →
      ∀ a, (a ∈ proc ∨ a ∈ l) → ∀ r, nodeRatio cx a = some r → feasibleR cx r = true →
        ∃ n', n' ∈ (mainGo cx width s l g o).act ∧ DomNode cx width s n' a r := by
  intro l
  induction l with
  | nil =>
    intro g o proc hI a ha r hr hf
    simp only [mainGo]
    rcases ha with ha | ha
    · exact flush_dom cx width s g o proc hDF hI a ha r hr hf
    · cases ha
  | cons x rest ih =>
    intro g o proc hI a ha r hr hf
    simp only [mainGo]
    have hI1 := stepNode_slotInv cx x g o proc hI
    have ha1 : a ∈ x :: proc ∨ a ∈ rest := by
      rcases ha with ha | ha
      · exact Or.inl (List.mem_cons_of_mem _ ha)
      · rcases List.mem_cons.mp ha with rfl | ha
        · exact Or.inl List.mem_cons_self
        · exact Or.inr ha
    cases rest with
    | nil =>
      rcases ha1 with h | h
      · exact flush_dom cx width s _ _ (x :: proc) hDF hI1 a h r hr hf
      · cases h
    | cons nx rest' =>
      simp only
      split
      · rcases ha1 with h | h
        · obtain ⟨n', hn', hd⟩ := flush_dom cx width s (stepNode cx x g o).1 (stepNode cx x g o).2 (x :: proc) hDF hI1 a h r hr hf
          exact ⟨n', (mainGo_actSpec cx width s (nx :: rest') (nx :: rest') emptyGrp _ (fun _ h => h)
            (slotsFrom_empty _ _)).keep n' hn', hd⟩
        · exact ih emptyGrp _ [] (slotInv_empty cx) a (Or.inr h) r hr hf
      · exact ih _ _ (x :: proc) hI1 a ha1 r hr hf

/-- a node that `mainLoop` deactivates at a break that is not forced has a line whose least length
(without the width of the penalty) exceeds the line width -/
theorem deact_imp (cx : Ctx K) (a : Node K) (hnf : isForced cx.P cx.it = false)
    (hZ : a.d.z ≤ cx.Z) (hinf : 0 < cx.P.infinity) (hW : 0 < cx.lineW) (heps : 0 ≤ cx.P.eps)
    (hs : nodeRatio cx a = adjRatio0 cx.P cx.lineW cx.it cx.W cx.Y cx.Z a.d.w a.d.y a.d.z)
    (h : deactAt cx a = true) : cx.lineW < (cx.W - a.d.w) - (cx.Z - a.d.z) := by
  unfold deactAt at h
  rw [hs] at h
  unfold deactivates at h
  rw [hnf, Bool.or_false] at h
  by_cases hp : (cx.it.ty = Ty.penalty && !(cx.it.width == k 0)) = true
  · rw [if_pos hp] at h
    have h' : cx.lineW * (1 + cx.P.eps) < cx.W - a.d.w - (cx.Z - a.d.z) := by simpa [k_one] using h
    exact lt_of_le_of_lt (le_mul_of_one_le_right hW.le (le_add_of_nonneg_right heps)) h'
  · rw [if_neg hp] at h
    have hpen : cx.it.ty = Ty.penalty → cx.it.width = 0 := by
      intro ht
      simpa [ht, k_zero] using hp
    rw [← lineLen_eq hpen cx.W a.d.w]
    apply (tooLong_iff cx.P cx.lineW _ (cx.Y - a.d.y) _ hinf hW (sub_nonneg.mpr hZ)).mp
    show TooLong (adjRatio0 cx.P cx.lineW cx.it cx.W cx.Y cx.Z a.d.w a.d.y a.d.z)
    cases hr : adjRatio0 cx.P cx.lineW cx.it cx.W cx.Y cx.Z a.d.w a.d.y a.d.z with
    | none => exact Or.inl rfl
    | some r =>
      rw [hr] at h
      exact Or.inr ⟨r, rfl, by simpa using h⟩

/-- the node stands for the break `prev`: it carries the sums after it and its flag -/
def AtPrev (P : Params K) (items : List (Item K)) (n : Node K) (prev : Option Nat) : Prop :=
  (n.d.w, n.d.y, n.d.z) = afterSums P items prev ∧ flaggedAt items n.d.pos = flaggedAtOpt items prev

/-- Not deactivated at `b` while a later break `x` can still end a line that is not too long: the least length
of the line only grows with the break position. -/
theorem survives (hwf : WF P items lineW) (tol : Option K) (rest : List (Item K))
    {b : Nat} {it : Item K} {lb : LB K} {n : Node K} {prev : Option Nat} {x : Nat}
    {itx : Item K} {r : K} (hit : items[b]? = some it) (hs : (lb.W, lb.Y, lb.Z) = pre items b) (hn : n ∈ lb.act)
    (hat : AtPrev P items n prev) (hprev : ∀ a, prev = some a → a < b ∧ legalAt P items a = true)
    (hleg : legalAt P items b = true) (hnf : isForced P it = false) (hbx : b < x) (hix : items[x]? = some itx)
    (hr : ratioAt P items lineW x itx (afterSums P items prev) = some r) (hge : -1 ≤ r) : n ∈ (mainLoop P items lineW tol b it rest lb).act := by
  refine (mainLoop_loopSpec P items lineW tol b it rest lb).surv n hn ?_
  obtain ⟨hW, hY, hZ⟩ := sums_eq hs
  obtain ⟨hw, hy, hz⟩ := sums_eq hat.1
  have hpl : ∀ a, prev = some a → a < items.length := fun a ha => legalAt_lt (hprev a ha).2
  have hzb := afterSums_shrink_le P items lineW hwf hprev hleg
  cases hd : deactAt (mlCx P items lineW tol b it lb) n with
  | false => rfl
  | true =>
    exfalso
    have h1 : lineW < (lb.W - n.d.w) - (lb.Z - n.d.z) :=
      deact_imp (mlCx P items lineW tol b it lb) n hnf (by rw [hz]; show _ ≤ lb.Z; rw [hZ]; exact hzb) hwf.inf hwf.lw hwf.epsNonneg
        ((ratioAt_eq P items it hs hat.1).trans
          ((hwf.snap prev b it hit hpl).trans (by rw [← hs, ← hat.1]; rfl))) hd
    rw [hW, hZ, hw, hz] at h1
    obtain ⟨_, _, hzmono, hmono⟩ := pre_mono items hwf.itemsOK (Nat.le_of_lt hbx)
    -- the least length of the line to `x` exceeds the line width as well
    have hL := lineLen_ge (hwf.itemsOK itx (List.mem_of_getElem? hix)).1 (pre items x).1 (afterSums P items prev).1
    have h3 := (tooLong_iff P lineW _ ((pre items x).2.1 - (afterSums P items prev).2.1) _ hwf.inf hwf.lw
      (sub_nonneg.mpr (hzb.trans hzmono))).mpr (show lineW < lineLen itx (pre items x).1 (afterSums P items prev).1 -
        ((pre items x).2.2 - (afterSums P items prev).2.2) by linarith)
    rw [ratioAt, hwf.snap prev x itx hix hpl] at hr
    exact absurd ((tooLong_some r).mp (hr ▸ h3)) (not_lt.mpr hge)

theorem dom_step {tol : Option K} {b : Nat}
    {it : Item K} {rest : List (Item K)} {lb : LB K} {n : Node K} {prev : Option Nat} {fit : Nat} {acc r : K}
    (hDF : 0 ≤ P.demFitness) (hdrop : items.drop b = it :: rest)
    (hs : (lb.W, lb.Y, lb.Z) = pre items b) (hn : n ∈ lb.act) (hat : AtPrev P items n prev)
    (hdom : Dom P n fit acc)
    (hr : ratioAt P items lineW b it (afterSums P items prev) = some r) (hf : feasAt tol r = true) :
    ∃ n', n' ∈ (mainLoop P items lineW tol b it rest lb).act ∧ AtPrev P items n' (some b) ∧
      Dom P n' (fitClass r) (lineDemerits P it r (flaggedAtOpt items prev) fit + acc) := by
  obtain ⟨n', hn', c, cand, rfl, hd⟩ := mainGo_dom (mlCx P items lineW tol b it lb) (mlWidth it lb)
    (mlS P it rest lb) hDF lb.act emptyGrp ⟨[], lb.inact, lb.nextTol⟩ [] (slotInv_empty _) n (Or.inr hn) r
    ((ratioAt_eq P items it hs hat.1).trans hr) ((feasibleR_eq _ r).trans hf)
  refine ⟨_, hn', ⟨(ml_at P items hdrop hs).1, rfl⟩, hd.mono ?_⟩
  -- the candidate of `n` costs no more than the sequence's line
  show lineDemerits P it r (flaggedAt items n.d.pos) n.d.fit + n.d.dem ≤ _
  rw [hat.2]
  rcases hdom with ⟨hfit, hle⟩ | hle
  · rw [hfit]; exact add_le_add_right hle _
  · have := lineDemerits_fit_le P it r (flaggedAtOpt items prev) n.d.fit fit hDF
    linarith

theorem minOpt_le_right (m : Option K) (r : K) : minOpt m r ≤ r := by
  unfold minOpt
  cases m with
  | none => exact le_refl _
  | some m => simp only; split
              · exact le_refl _
              · rename_i h; exact not_lt.mp h

theorem minOpt_le_left (m r : K) : minOpt (some m) r ≤ m := by
  unfold minOpt
  simp only; split
  · rename_i h; exact le_of_lt h
  · exact le_refl _

/-- `nt` is finite and at most `t` (`nextTolerance`, where `none` is +∞) -/
def SomeLe (t : K) (nt : Option K) : Prop := ∃ x, nt = some x ∧ x ≤ t

theorem tolStep_le (cx : Ctx K) (a : Node K) (t : K) {nt : Option K} (h : SomeLe t nt) : SomeLe t (tolStep cx nt a) := by
  obtain ⟨x, rfl, hle⟩ := h
  unfold tolStep
  split
  · split
    · exact ⟨_, rfl, le_trans (minOpt_le_left x _) hle⟩
    · exact ⟨x, rfl, hle⟩
  · exact ⟨x, rfl, hle⟩

theorem tolFold_le (cx : Ctx K) (t : K) : ∀ (l : List (Node K)) (nt : Option K), SomeLe t nt →
    SomeLe t (l.foldl (tolStep cx) nt) := by
  intro l
  induction l with
  | nil => intro nt h; exact h
  | cons a rest ih => intro nt h; exact ih _ (tolStep_le cx a t h)

theorem tolFold_hit (cx : Ctx K) (a : Node K) (r : K) (hr : nodeRatio cx a = some r)
    (hnf : feasibleR cx r = false) (hlt : ltTol cx.tol r = true) :
    ∀ (l : List (Node K)) (nt : Option K), a ∈ l → SomeLe r (l.foldl (tolStep cx) nt) := by
  intro l
  induction l with
  | nil => intro nt h; cases h
  | cons y rest ih =>
    intro nt hm
    rcases List.mem_cons.mp hm with rfl | hm
    · refine tolFold_le cx r rest _ ?_
      unfold tolStep
      rw [hr]
      exact ⟨_, if_pos ⟨hnf, hlt⟩, minOpt_le_right nt r⟩
    · exact ih _ hm

theorem mainLoop_tol_le (tol : Option K) (b : Nat)
    (it : Item K) (rest : List (Item K)) (lb : LB K) (t : K) (h : SomeLe t lb.nextTol) :
    SomeLe t (mainLoop P items lineW tol b it rest lb).nextTol := by
  rw [(mainLoop_loopSpec P items lineW tol b it rest lb).nextTol]
  exact tolFold_le _ t _ _ h

theorem mainLoop_tol_hit (tol : Option K) (b : Nat) (it : Item K) (rest : List (Item K)) (lb : LB K)
    (n : Node K) (hn : n ∈ lb.act) (r : K)
    (hr : adjRatio P lineW it lb.W lb.Y lb.Z n.d.w n.d.y n.d.z = some r) (hnf : feasAt tol r = false)
    (hlt : ltTol tol r = true) : SomeLe r (mainLoop P items lineW tol b it rest lb).nextTol := by
  rw [(mainLoop_loopSpec P items lineW tol b it rest lb).nextTol]
  exact tolFold_hit (mlCx P items lineW tol b it lb) n r hr ((feasibleR_eq _ r).trans hnf) hlt _ _ hn

end field
end Canvas.C17
