/-! General facts about `if … then … else`, `Option`, `List`, `Nat` and `Int` that core Lean lacks and that mention
nothing of the model; any region may use them. Core Lean only. -/
namespace Canvas
universe u v
variable {α : Type u} {β : Type v}

theorem ite_eq_of_ne {c : Prop} [Decidable c] {v e t : α} (hv : v ≠ t) (h : (if c then v else e) = t) :
    ¬ c ∧ e = t := by
  split at h
  · exact absurd h hv
  · next hc => exact ⟨hc, h⟩

theorem ite_some_eq_none {c : Prop} [Decidable c] {a : α} {x : Option α} :
    (if c then some a else x) = none ↔ ¬ c ∧ x = none :=
  ⟨ite_eq_of_ne nofun, fun h => (if_neg h.1).trans h.2⟩

theorem ite_eq_some {p : Prop} [Decidable p] {a b : Option α} {x : α}
    (h : (if p then a else b) = some x) : p ∧ a = some x ∨ ¬p ∧ b = some x := by
  by_cases hp : p
  · rw [if_pos hp] at h; exact Or.inl ⟨hp, h⟩
  · rw [if_neg hp] at h; exact Or.inr ⟨hp, h⟩

theorem ite_le {p : Prop} [Decidable p] {a b n : Nat} (ha : a ≤ n) (hb : b ≤ n) :
    (if p then a else b) ≤ n := by
  split <;> assumption

theorem rev_ind {motive : List α → Prop} (nil : motive [])
    (snoc : ∀ xs y, motive xs → motive (xs ++ [y])) (l : List α) : motive l := by
  have h : ∀ l : List α, motive l.reverse := by
    intro l
    induction l with
    | nil => exact nil
    | cons x xs ih => rw [List.reverse_cons]; exact snoc _ _ ih
  have := h l.reverse
  rwa [List.reverse_reverse] at this

theorem forall_mem_snoc {P : α → Prop} {L : List α} {a : α} (h : ∀ x ∈ L, P x) (ha : P a) :
    ∀ x ∈ L ++ [a], P x :=
  List.forall_mem_append.mpr ⟨h, List.forall_mem_singleton.mpr ha⟩

theorem mem_map_append {f : α → β} {L : List α} {e : α} : ∀ x ∈ L.map f, x ∈ (L ++ [e]).map f :=
  fun x hx => by rw [List.map_append]; exact List.mem_append_left _ hx

theorem mem_map_last {f : α → β} {L : List α} {e : α} : f e ∈ (L ++ [e]).map f :=
  List.mem_map.mpr ⟨e, List.mem_append_right _ (List.mem_singleton_self _), rfl⟩

theorem drop_getElem? {l : List α} {b : Nat} {x : α} {rest : List α} (h : l.drop b = x :: rest) :
    l[b]? = some x := by
  have := List.getElem?_drop (xs := l) (i := b) (j := 0)
  rw [h] at this
  simpa using this.symm

theorem drop_succ_of_drop {l : List α} {b : Nat} {x : α} {rest : List α} (h : l.drop b = x :: rest) :
    l.drop (b + 1) = rest := by
  have : l.drop (b + 1) = (l.drop b).drop 1 := by rw [List.drop_drop]
  rw [this, h]; rfl

theorem drop_lt_length {l : List α} {b : Nat} {x : α} {rest : List α} (h : l.drop b = x :: rest) :
    b < l.length := by
  have := drop_getElem? h
  exact (List.getElem?_eq_some_iff.mp this).1

theorem drop_eq_cons {l : List α} {k : Nat} {x : α} {t : List α} (h : l.drop k = x :: t) :
    l = l.take k ++ x :: t ∧ (l.take k).length = k :=
  ⟨by rw [← h, List.take_append_drop], List.length_take_of_le (Nat.le_of_lt (drop_lt_length h))⟩

theorem takeWhile_append_drop (p : α → Bool) (l : List α) :
    l.takeWhile p ++ l.drop (l.takeWhile p).length = l := by
  induction l with
  | nil => simp
  | cons a r ih => simp only [List.takeWhile]; split <;> simp [ih]

theorem getElem?_of_prefix {l l' : List α} (hp : l <+: l') {c : Nat} {g : α} (h : l[c]? = some g) : l'[c]? = some g := by
  obtain ⟨t, rfl⟩ := hp
  have := List.getElem?_eq_some_iff.1 h
  rw [List.getElem?_append_left this.1]
  exact h

theorem getD_append_left (l t : List α) {d : α} {a : Nat} (ha : a < l.length) :
    (l ++ t).getD a d = l.getD a d := by
  rw [List.getD_eq_getElem?_getD, List.getD_eq_getElem?_getD, List.getElem?_append_left ha]

theorem all_range_at {l : List α} {f : Nat → Bool} (h : (List.range l.length).all f = true) {k : Nat}
    {x : α} (hk : l[k]? = some x) : f k = true :=
  List.all_eq_true.mp h k (List.mem_range.mpr (List.getElem?_eq_some_iff.mp hk).1)

theorem mem_of_all_contains [BEq α] [LawfulBEq α] {l a : List α} (h : l.all a.contains = true) :
    ∀ x, x ∈ l → x ∈ a :=
  fun x hx => List.contains_iff_mem.mp (List.all_eq_true.mp h x hx)

theorem sum_map_const {l : List α} {f : α → Nat} (c : Nat) (h : ∀ x ∈ l, f x = c) :
    (l.map f).sum = c * l.length := by
  rw [List.map_congr_left h, List.map_const', List.sum_replicate_nat, Nat.mul_comm]

theorem nodup_bounded_length (n : Nat) (l : List Nat) (hnd : l.Nodup) (hb : ∀ x ∈ l, x < n) : l.length ≤ n := by
  have := hnd.length_le_of_subset (l₂ := List.range n) (fun x hx => List.mem_range.2 (hb x hx))
  rwa [List.length_range] at this

theorem length_flatMap_le (f : α → List β) (c : Nat) (hf : ∀ x, (f x).length ≤ c) :
    ∀ l : List α, (l.flatMap f).length ≤ l.length * c := by
  intro l
  induction l with
  | nil => simp
  | cons a rest ih =>
    simp only [List.flatMap_cons, List.length_append, List.length_cons]
    have := hf a
    rw [Nat.succ_mul]; omega

theorem countP_lt_of (p q : α → Bool) (hpq : ∀ x, p x = true → q x = true) (r : α) :
    ∀ l : List α, r ∈ l → q r = true → p r = false → l.countP p < l.countP q := by
  intro l
  induction l with
  | nil => intro h; cases h
  | cons a rest ih =>
    intro hr hq hp
    have hle : rest.countP p ≤ rest.countP q := List.countP_mono_left (fun x _ => hpq x)
    rw [List.countP_cons, List.countP_cons]
    rcases List.mem_cons.mp hr with rfl | hr
    · rw [if_pos hq, if_neg (Bool.eq_false_iff.mp hp)]
      exact Nat.lt_succ_of_le hle
    · have := ih hr hq hp
      -- the head counts for `q` whenever it counts for `p`
      have : (if p a = true then 1 else 0) ≤ (if q a = true then 1 else 0) := by
        split
        · exact Nat.le_of_eq (if_pos (hpq a ‹_›)).symm
        · exact Nat.zero_le _
      exact Nat.add_lt_add_of_lt_of_le ‹_› this

theorem be16 (x : Nat) : x / 256 % 256 * 256 + x % 256 = x % 65536 := by
  rw [show 65536 = 256 * 256 from rfl, Nat.mod_mul, Nat.add_comm, Nat.mul_comm]

theorem int_mul_self_nonneg (x : Int) : 0 ≤ x * x :=
  (Int.le_total 0 x).elim (fun h => Int.mul_nonneg h h) fun h => Int.mul_nonneg_of_nonpos_of_nonpos h h

end Canvas
