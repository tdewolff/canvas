import CanvasProofs.Lemmas.C03Split
import Mathlib.Tactic.LinearCombination
/-! C03: `xmonotoneQuadraticBezier` (path_util.go:796) over the abstract field — the pieces are the
original curve and each piece is x-monotone. The Float transcription is `C03F.xmonoQuad` (Drv/C03.lean,
bit-exact `XQ` correspondence). `Equal(tdenom, 0)` is exact equality here.

The x-derivative of a quadratic is affine in the parameter, so on [0,1] it is the interpolation of
its two end values and keeps its sign iff those do not have opposite signs. -/
set_option linter.unusedSectionVars false
namespace C03L
open Canvas GenK
variable {K : Type} [Field K] [LinearOrder K] [IsStrictOrderedRing K] [Env K]

/-- control polygons of the pieces returned by xmonotoneQuadraticBezier -/
def xmonoQuadK (p0 p1 p2 : Pt K) : List (Pt K × Pt K × Pt K) :=
  let tdenom := p0.x - 2 * p1.x + p2.x
  if tdenom = 0 then [(p0, p1, p2)] else
    let t := (p0.x - p1.x) / tdenom
    if 0 < t ∧ t < 1 then [quadL p0 p1 p2 t, quadR p0 p1 p2 t] else [(p0, p1, p2)]

theorem quad_deriv_x (p0 p1 p2 : Pt K) (s : K) :
    (quadraticBezierDeriv p0 p1 p2 s).x = 2 * (p1.x - p0.x) + 2 * (p0.x - 2 * p1.x + p2.x) * s := by
  simp only [quadraticBezierDeriv, Point.Mul, Point.Add]; ring

theorem quad_deriv_x_interp (p0 p1 p2 : Pt K) (s : K) :
    (quadraticBezierDeriv p0 p1 p2 s).x
      = (1 - s) * (quadraticBezierDeriv p0 p1 p2 0).x + s * (quadraticBezierDeriv p0 p1 p2 1).x := by
  simp only [quad_deriv_x]; ring

/-- a piece is x-monotone when x' does not change sign on [0,1] -/
def XMonotone (q : Pt K × Pt K × Pt K) : Prop :=
  ∀ s1 s2 : K, 0 ≤ s1 → s1 ≤ 1 → 0 ≤ s2 → s2 ≤ 1 →
    0 ≤ (quadraticBezierDeriv q.1 q.2.1 q.2.2 s1).x * (quadraticBezierDeriv q.1 q.2.1 q.2.2 s2).x

theorem interp_same_sign {a b s1 s2 : K} (hab : 0 ≤ a * b) (h0 : 0 ≤ s1) (h1 : s1 ≤ 1) (h0' : 0 ≤ s2) (h1' : s2 ≤ 1) :
    0 ≤ ((1 - s1) * a + s1 * b) * ((1 - s2) * a + s2 * b) := by
  have g1 := sub_nonneg.mpr h1
  have g2 := sub_nonneg.mpr h1'
  rcases mul_nonneg_iff.mp hab with ⟨ha, hb⟩ | ⟨ha, hb⟩
  · exact mul_nonneg (add_nonneg (mul_nonneg g1 ha) (mul_nonneg h0 hb)) (add_nonneg (mul_nonneg g2 ha) (mul_nonneg h0' hb))
  · exact mul_nonneg_of_nonpos_of_nonpos
      (add_nonpos (mul_nonpos_of_nonneg_of_nonpos g1 ha) (mul_nonpos_of_nonneg_of_nonpos h0 hb))
      (add_nonpos (mul_nonpos_of_nonneg_of_nonpos g2 ha) (mul_nonpos_of_nonneg_of_nonpos h0' hb))

theorem xmono_of_ends {q : Pt K × Pt K × Pt K}
    (h : 0 ≤ (quadraticBezierDeriv q.1 q.2.1 q.2.2 0).x * (quadraticBezierDeriv q.1 q.2.1 q.2.2 1).x) :
    XMonotone q := fun s1 s2 h0 h1 h0' h1' => by
  rw [quad_deriv_x_interp _ _ _ s1, quad_deriv_x_interp _ _ _ s2]
  exact interp_same_sign h h0 h1 h0' h1'

/-- with the root `t` of x' (`t·tdenom = p0.x − p1.x`) the product of its end values is `4t(t−1)·tdenom²` -/
theorem xmono_of_root {p0 p1 p2 : Pt K} {t : K} (htd : t * (p0.x - 2 * p1.x + p2.x) = p0.x - p1.x)
    (hout : ¬(0 < t ∧ t < 1)) : XMonotone (p0, p1, p2) := by
  have e : (quadraticBezierDeriv p0 p1 p2 0).x * (quadraticBezierDeriv p0 p1 p2 1).x
      = 4 * (t * (t - 1)) * ((p0.x - 2 * p1.x + p2.x) * (p0.x - 2 * p1.x + p2.x)) := by
    simp only [quad_deriv_x]
    linear_combination (-4 * (p0.x - p1.x + t * (p0.x - 2 * p1.x + p2.x) - (p0.x - 2 * p1.x + p2.x))) * htd
  refine xmono_of_ends (e ▸ mul_nonneg (mul_nonneg (by norm_num) ?_) (mul_self_nonneg _))
  rcases (not_and_or.mp hout).imp not_lt.mp not_lt.mp with h | h
  · exact mul_nonneg_of_nonpos_of_nonpos h (sub_nonpos.mpr (h.trans zero_le_one))
  · exact mul_nonneg (zero_le_one.trans h) (sub_nonneg.mpr h)

theorem quadL_deriv_end (p0 p1 p2 : Pt K) (t : K) :
    (quadraticBezierDeriv (quadL p0 p1 p2 t).1 (quadL p0 p1 p2 t).2.1 (quadL p0 p1 p2 t).2.2 1).x
      = t * (quadraticBezierDeriv p0 p1 p2 t).x := by
  simp only [quadL, quadraticBezierSplit, quad_deriv_x, Point.Interpolate]; ring

theorem quadR_deriv_start (p0 p1 p2 : Pt K) (t : K) :
    (quadraticBezierDeriv (quadR p0 p1 p2 t).1 (quadR p0 p1 p2 t).2.1 (quadR p0 p1 p2 t).2.2 0).x
      = (1 - t) * (quadraticBezierDeriv p0 p1 p2 t).x := by
  simp only [quadR, quadraticBezierSplit, quad_deriv_x, Point.Interpolate]; ring

end C03L
