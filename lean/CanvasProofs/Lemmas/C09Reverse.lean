import CanvasProofs.Lemmas.C09Chain
/-! C09 helper lemmas: the backward loop of `Reverse` on a structured path; `Reverse` of a structured
path is the reversed list of reversed subpaths; involution. -/
namespace C09L
open Canvas Canvas.Path Canvas.C09
variable {α : Type}

theorem headEnd_reverse_append (z : Pt α) (xs tail : List (Cmd α)) :
    headEnd z (xs.reverse ++ tail) = chainEnd (headEnd z tail) xs := by
  induction xs using rev_ind with
  | nil => rfl
  | snoc xs y _ => simp [headEnd]

variable (eq : Pt α → Pt α → Bool) (z : Pt α)

/-- a drawing record: only a LineTo consults `closed && prevIsMoveOrNone` - as the oldest command of a closed
subpath it becomes the Close -/
theorem revLoop_draw (cl : Bool) (first : Pt α) (c : Cmd α) (rest : RPath α) (hc : c.isDraw = true) :
    revLoop eq z cl first (c :: rest) =
      if (cl && prevIsMoveOrNone rest && isLine c) = true then .close first :: revLoop eq z false first rest
      else retarget c (headEnd z rest) :: revLoop eq z cl first rest := by
  cases c with
  | move p | close p => cases hc
  | _ => simp [revLoop, isLine, retarget]

theorem revLoop_chain (cl : Bool) (first : Pt α) (xs : List (Cmd α)) : ∀ tail : List (Cmd α),
    xs.all Cmd.isDraw = true → (cl = true → prevIsMoveOrNone tail = false) →
    revLoop eq z cl first (xs.reverse ++ tail) = revChain (headEnd z tail) xs ++ revLoop eq z cl first tail := by
  induction xs with
  | nil => intro tail _ _; rfl
  | cons x xs ih =>
    intro tail hx ht
    simp only [List.all_cons, Bool.and_eq_true] at hx
    rw [List.reverse_cons, List.append_assoc, List.singleton_append,
      ih (x :: tail) hx.2 fun _ => isDraw_not_move x hx.1, revLoop_draw eq z cl first x tail hx.1,
      if_neg (by cases cl <;> simp [ht]), revChain_cons, List.append_assoc]
    rfl

theorem revLoop_move (cl : Bool) (first a : Pt α) (older : RPath α) :
    revLoop eq z cl first (.move a :: older) =
      (if cl then [.close first] else []) ++ reverseF eq z older := by
  cases older with
  | nil => simp [revLoop, reverseF]
  | cons c r => simp [revLoop, reverseF, headEnd]

theorem revLoop_close (cl : Bool) (first p : Pt α) (rest : RPath α) :
    revLoop eq z cl first (.close p :: rest) =
      (if eq p (headEnd z rest) then [] else [.line (headEnd z rest)]) ++ revLoop eq z true first rest := by
  simp [revLoop]

theorem reverseF_eq (eq : Pt α → Pt α → Bool) (z : Pt α) (cs : RPath α) :
    reverseF eq z cs = match cs with
      | [] => []
      | c :: r => .move c.endp :: revLoop eq z false c.endp (c :: r) := by
  cases cs <;> rfl

theorem tail_match (older : RPath α) :
    (match older with
      | [] => []
      | c :: r => Cmd.move c.endp :: revLoop eq z false c.endp (c :: r)) = reverseF eq z older :=
  (reverseF_eq eq z older).symm

theorem reverseF_ne_nil {cs : RPath α} (h : cs ≠ []) :
    reverseF eq z cs = .move (headEnd z cs) :: revLoop eq z false (headEnd z cs) cs := by
  cases cs with
  | nil => exact absurd rfl h
  | cons c r => rfl

theorem revSub_open (start : Pt α) (segs : List (Cmd α)) :
    revSub eq ⟨start, segs, false⟩ = ⟨chainEnd start segs, revChain start segs, false⟩ := rfl

theorem revSub_closed (start : Pt α) (segs : List (Cmd α)) :
    revSub eq ⟨start, segs, true⟩ =
      ⟨start, (if eq start (chainEnd start segs) then [] else [.line (chainEnd start segs)]) ++
        revClosedBody start segs, true⟩ := by
  simp [revSub]

/-- the body of a closed subpath, met after its Close: the oldest command becomes the Close when it is a LineTo -/
theorem revLoop_closedBody {first start : Pt α} {segs : List (Cmd α)} {older : RPath α}
    (hd : segs.all Cmd.isDraw = true) :
    revLoop eq z true first (segs.reverse ++ .move start :: older) =
      revClosedBody start segs ++ .close first :: reverseF eq z older := by
  cases segs with
  | nil => exact revLoop_move eq z true first start older
  | cons c1 rest =>
    simp only [List.all_cons, Bool.and_eq_true] at hd
    rw [List.reverse_cons, List.append_assoc, List.singleton_append,
      revLoop_chain eq z true _ rest (c1 :: .move start :: older) hd.2 (fun _ => isDraw_not_move c1 hd.1),
      revLoop_draw eq z _ _ c1 _ hd.1, revLoop_move, revLoop_move, revClosedBody]
    by_cases hl : isLine c1 = true
    · rw [if_pos hl, if_pos (by rw [hl]; rfl)]
      rfl
    · rw [if_neg hl, if_neg (by simp [hl]), revChain_cons, List.append_assoc]
      rfl

theorem reverseF_sub (s : SubPath α) (older : RPath α) (hd : s.drawOnly = true) :
    reverseF eq z ((SubPath.flat s).reverse ++ older) = SubPath.flat (revSub eq s) ++ reverseF eq z older := by
  obtain ⟨start, segs, closed⟩ := s
  cases closed with
  | false =>
    have e : (SubPath.flat ⟨start, segs, false⟩).reverse ++ older = segs.reverse ++ (.move start :: older) := by
      simp [SubPath.flat]
    rw [e, reverseF_ne_nil eq z (by simp), headEnd_reverse_append,
      revLoop_chain eq z false _ segs _ hd (fun h => nomatch h), revLoop_move, revSub_open]
    simp [SubPath.flat, headEnd, Cmd.endp]
  | true =>
    have e : (SubPath.flat ⟨start, segs, true⟩).reverse ++ older
        = .close start :: (segs.reverse ++ (.move start :: older)) := by simp [SubPath.flat]
    rw [e, reverseF_ne_nil eq z (List.cons_ne_nil _ _), revLoop_close, revLoop_closedBody eq z hd,
      headEnd_reverse_append, revSub_closed]
    -- `simp` leaves two `if`s that differ in their `Decidable` instances only
    simp [SubPath.flat, headEnd, Cmd.endp]
    rfl

theorem reverseF_flat (subs : List (SubPath α)) (hd : ∀ s ∈ subs, s.drawOnly = true) :
    reverseF eq z (flatR subs) = flatF ((subs.map (revSub eq)).reverse) := by
  induction subs using rev_ind with
  | nil => rfl
  | snoc xs s ih =>
    have e : flatR (xs ++ [s]) = (SubPath.flat s).reverse ++ flatR xs := by simp [flatR, flatF]
    rw [e, reverseF_sub eq z s _ (hd s (by simp)), ih fun t ht => hd t (by simp [ht])]
    simp [flatF]

theorem revSub_drawOnly (s : SubPath α) (h : s.drawOnly = true) : (revSub eq s).drawOnly = true := by
  obtain ⟨start, segs, closed⟩ := s
  cases closed with
  | false => exact revChain_all_draw start segs h
  | true =>
    rw [revSub_closed, SubPath.drawOnly, List.all_append, Bool.and_eq_true]
    refine ⟨by split <;> rfl, ?_⟩
    cases segs with
    | nil => rfl
    | cons c1 rest =>
      rw [revClosedBody]
      split
      · exact revChain_all_draw _ rest (Bool.and_eq_true_iff.mp h).2
      · exact revChain_all_draw start _ h

theorem revSubs_drawOnly (subs : List (SubPath α)) (hd : ∀ s ∈ subs, s.drawOnly = true) :
    ∀ t ∈ (subs.map (revSub eq)).reverse, t.drawOnly = true := by
  intro t ht
  simp only [List.mem_reverse, List.mem_map] at ht
  obtain ⟨s, hs, rfl⟩ := ht
  exact revSub_drawOnly eq s (hd s hs)

theorem revClosedBody_line (a : Pt α) (c : Cmd α) (cs : List (Cmd α)) (h : isLine c = true) :
    revClosedBody a (c :: cs) = revChain c.endp cs := by
  simp [revClosedBody, h]

theorem revClosedBody_not_line (a : Pt α) (l : List (Cmd α)) (h : firstIsLine l = false) :
    revClosedBody a l = revChain a l := by
  cases l with
  | nil => rfl
  | cons c cs =>
    simp only [firstIsLine] at h
    simp [revClosedBody, h]

/-- the explicit closing line takes the pen to the old end point `en`; when it is left out the pen is
there already -/
theorem chainEnd_closing {start en : Pt α} {xs : List (Cmd α)} (hz : eq start en = true → en = start) :
    chainEnd start ((if eq start en then [] else [.line en]) ++ xs) = chainEnd en xs := by
  by_cases he : eq start en = true
  · rw [if_pos he, hz he]; rfl
  · rw [if_neg he]; rfl

/-- reversing the body again after the closing line: the closing line, when explicit, is the first
LineTo and becomes the Close; when left out, the chain `ys` does not end with a LineTo, so the reversed
chain does not begin with one -/
theorem revClosedBody_closing (start b : Pt α) (ys : List (Cmd α))
    (hz : eq start (chainEnd b ys) = true → chainEnd b ys = start)
    (hl : eq start (chainEnd b ys) = true → lastIsLine ys = false) :
    revClosedBody start ((if eq start (chainEnd b ys) then [] else [.line (chainEnd b ys)]) ++ revChain b ys) = ys := by
  by_cases he : eq start (chainEnd b ys) = true
  · rw [if_pos he, List.nil_append, revClosedBody_not_line _ _ (by rw [firstIsLine_revChain]; exact hl he),
      ← hz he, revChain_revChain]
  · rw [if_neg he]
    exact revChain_revChain b ys

theorem revSub_revSub (s : SubPath α) (h : s.RevOK eq) : revSub eq (revSub eq s) = s := by
  obtain ⟨start, segs, closed⟩ := s
  obtain ⟨_, hc⟩ := h
  cases closed with
  | false => rw [revSub_open, revSub_open, chainEnd_revChain_self, revChain_revChain]
  | true =>
    obtain ⟨hrefl, hfirst, hlast, hzero⟩ := hc rfl
    simp only at hrefl hfirst hlast hzero
    have hnl : eq start (chainEnd start segs) = true → lastIsLine segs = false := fun he => by
      cases hll : lastIsLine segs with
      | false => rfl
      | true => rw [hlast hll] at he; cases he
    rw [revSub_closed, revSub_closed, chainEnd_closing eq hzero]
    cases segs with
    | nil => simp [revClosedBody, hrefl]
    | cons c1 rest =>
      by_cases hl : isLine c1 = true
      · have hc1 : eq start c1.endp = false := hfirst c1 rest rfl hl
        rw [revClosedBody_line start c1 rest hl, chainEnd_cons, chainEnd_revChain_self, hc1,
          revClosedBody_closing eq start c1.endp rest hzero fun he => lastIsLine_tail c1 rest (hnl he), isLine_eq c1 hl]
        rfl
      · rw [revClosedBody_not_line _ _ (by simpa [firstIsLine] using hl), chainEnd_revChain _ _ _ (by simp),
          hrefl, revClosedBody_closing eq start start (c1 :: rest) hzero hnl]
        rfl

theorem revSub_RevOK_drawOnly (s : SubPath α) (h : s.RevOK eq) : (revSub eq s).drawOnly = true :=
  revSub_drawOnly eq s h.1

end C09L
