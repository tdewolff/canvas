import CanvasModel.C06Proto
import CanvasProofs.Lemmas.Wn
import CanvasProofs.Lemmas.Basic

/-! CCW: the search loop finds the bottom-right-most vertex; at such a vertex the angle comparison is
the sign of a cross product; for triangles that is the sign of the area. -/
namespace Canvas.C06
open Canvas.Wn

theorem better_iff (b v : IPt) : better b v = true ↔ (b.x < v.x ∨ (b.x = v.x ∧ v.y < b.y)) := by
  simp [better]

theorem better_false_iff (b v : IPt) :
    better b v = false ↔ ¬ (b.x < v.x ∨ (b.x = v.x ∧ v.y < b.y)) := by
  rw [← better_iff]; simp

theorem better_irrefl (v : IPt) : better v v = false := by
  rw [better_false_iff]; omega

theorem better_neg_trans {u v w : IPt} (h1 : better u v = false) (h2 : better u w = true) :
    better w v = false := by
  rw [better_false_iff] at h1 ⊢
  rw [better_iff] at h2
  omega

/-- loop invariant of the search: `pre` are the vertices already passed, the best so far is the one at
index `k` and none of them beats it -/
theorem extremeGo_best (d : IPt) (rest : List IPt) : ∀ (pre : List IPt) (k : Nat) (bv : IPt),
    k < pre.length → pre.getD k d = bv → (∀ u ∈ pre, better bv u = false) →
    extremeGo rest pre.length k bv < (pre ++ rest).length ∧
      ∀ u ∈ pre ++ rest, better ((pre ++ rest).getD (extremeGo rest pre.length k bv) d) u = false := by
  induction rest with
  | nil =>
    intro pre k bv hk hb hs
    simp only [extremeGo, List.append_nil]
    exact ⟨hk, hb ▸ hs⟩
  | cons v rest ih =>
    intro pre k bv hk hb hs
    have hl : (pre ++ [v]).length = pre.length + 1 := by simp
    rw [show pre ++ v :: rest = (pre ++ [v]) ++ rest by simp, extremeGo, ← hl]
    split
    · rename_i hbt
      refine ih (pre ++ [v]) pre.length v (by omega) (by simp) fun u hu => ?_
      rcases List.mem_append.mp hu with hu | hu
      · exact better_neg_trans (hs u hu) hbt
      · rw [List.mem_singleton.mp hu]; exact better_irrefl v
    · rename_i hbf
      refine ih (pre ++ [v]) k bv (by omega)
        ((getD_append_left pre [v] hk).trans hb) fun u hu => ?_
      rcases List.mem_append.mp hu with hu | hu
      · exact hs u hu
      · rw [List.mem_singleton.mp hu]; simpa using hbf

/-- a direction from the bottom-right-most vertex to another vertex: into the left half plane, or
straight up -/
def leftward (d : IPt) : Prop := d.x < 0 ∨ (d.x = 0 ∧ 0 < d.y)

theorem leftward_of_not_better (v u : IPt) (h : better v u = false) (hne : u ≠ v) :
    leftward (vsub u v) := by
  obtain ⟨vx, vy⟩ := v
  obtain ⟨ux, uy⟩ := u
  have hne' : ¬ (ux = vx ∧ uy = vy) := by intro h; apply hne; simp [h.1, h.2]
  rw [better_false_iff] at h
  simp only [leftward, vsub] at h ⊢
  omega

theorem leftward_ne_zero {d : IPt} (h : leftward d) : d ≠ ⟨0, 0⟩ := by
  rintro rfl; simp [leftward] at h

theorem upper_leftward {d : IPt} (h : leftward d) : upper d = decide (0 < d.y) := by
  simp only [leftward] at h
  by_cases hy : 0 < d.y
  · simp [upper, hy]
  · simp [upper, hy]; omega

/-- what `angleNext - anglePrev < 0` computes at the bottom-right-most vertex -/
theorem angLt_leftward {d2 d1 : IPt} (h2 : leftward d2) (h1 : leftward d1) :
    angLt d2 d1 = decide (0 < cross d2 d1) := by
  simp only [angLt, if_neg (leftward_ne_zero h2), if_neg (leftward_ne_zero h1), upper_leftward h2,
    upper_leftward h1, cross]
  simp only [leftward] at h1 h2
  by_cases hy2 : 0 < d2.y <;> by_cases hy1 : 0 < d1.y
  · simp [hy2, hy1]
  · -- d2 above, d1 below: d2 comes first and the cross product is positive
    have a : 0 ≤ d2.x * d1.y := mul_nonneg_of_nonpos_of_nonpos (by omega) (by omega)
    have b : d2.y * d1.x < 0 := mul_neg_of_pos_of_neg hy2 (by omega)
    simp [hy2, hy1]; omega
  · have a : d2.x * d1.y < 0 := mul_neg_of_neg_of_pos (by omega) hy1
    have b : 0 ≤ d2.y * d1.x := mul_nonneg_of_nonpos_of_nonpos (by omega) (by omega)
    simp [hy2, hy1]; omega
  · simp [hy2, hy1]

theorem cross_vsub_area (a b c : IPt) :
    cross (vsub b a) (vsub c a) = area2 [a, b, c] := by
  simp only [cross, vsub, area2, area2Chain, List.cons_append, List.nil_append]
  ring

theorem area2_triangle_rotate (a b c : IPt) : area2 [b, c, a] = area2 [a, b, c] := by
  simp only [area2, area2Chain, List.cons_append, List.nil_append]
  ring

theorem sameDir_false_of_cross {d2 d1 : IPt} (h2 : leftward d2) (h1 : leftward d1)
    (hc : cross d2 d1 ≠ 0) : sameDir d2 d1 = false := by
  simp [sameDir, if_neg (leftward_ne_zero h2), if_neg (leftward_ne_zero h1), hc]

/-- `w` is the next vertex, `u` the previous one -/
theorem ccw_at_extreme (v u w : IPt) {A : Int} (hu : better v u = false) (hw : better v w = false)
    (hc : cross (vsub w v) (vsub u v) = A) (hA : A ≠ 0) :
    (if sameDir (vsub w v) (vsub u v) = true then none else some (angLt (vsub w v) (vsub u v))) =
      some (decide (0 < A)) := by
  have hwne : w ≠ v := fun h => hA (by rw [← hc, h]; simp [cross, vsub])
  have hune : u ≠ v := fun h => hA (by rw [← hc, h]; simp [cross, vsub])
  have l1 := leftward_of_not_better v w hw hwne
  have l2 := leftward_of_not_better v u hu hune
  rw [sameDir_false_of_cross l1 l2 (hc ▸ hA), if_neg Bool.false_ne_true,
    angLt_leftward l1 l2, hc]

end Canvas.C06
