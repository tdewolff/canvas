import CanvasModel.C14

namespace Canvas.C14

theorem spanBlend_eq (c ca ma d : Nat) : spanBlend c ca ma d = spanBlendNum c ca ma d / mp16 := by
  unfold spanBlend spanBlendNum
  split
  next h =>
    -- opaque paint at full coverage: the destination's weight `m16 - ca * ma / m16` is 0
    rw [h, Nat.mul_div_cancel _ (by decide : 0 < m16), Nat.sub_self, Nat.zero_mul, Nat.mul_zero, Nat.zero_add]
  next => rfl

theorem spanBlend_of_zero {c ca ma d : Nat} (h1 : ca * ma = 0) (h2 : c * ma = 0) (hd : d < 256) :
    spanBlend c ca ma d = d := by
  unfold spanBlend m16 mp16
  rw [h1, h2, if_neg (by decide)]
  omega

theorem spanBlendNum_lt (c ca ma d : Nat) (hc : c ≤ ca) (hca : ca ≤ 65535) (hma : ma ≤ 65535) (hd : d ≤ 255) :
    spanBlendNum c ca ma d < 65535 * 65536 := by
  unfold spanBlendNum m16
  have hx : c * ma ≤ ca * ma := Nat.mul_le_mul_right ma hc
  have ht : ca * ma ≤ 65535 * 65535 := Nat.mul_le_mul hca hma
  generalize ca * ma = t at hx ht
  generalize c * ma = x at hx
  have h1 : d * ((65535 - t / 65535) * 257) ≤ 255 * ((65535 - t / 65535) * 257) := Nat.mul_le_mul_right _ hd
  generalize d * ((65535 - t / 65535) * 257) = y at h1
  omega

end Canvas.C14
