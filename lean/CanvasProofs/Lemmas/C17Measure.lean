import CanvasProofs.Lemmas.C17Base
import Mathlib.Tactic.Ring
import Mathlib.Tactic.Linarith.Frontend
/-! C17, over an ordered field: the measures of a line — running sums against direct sums, their monotonicity, the
case distinction of `computeAdjustmentRatio` (`tooLong_iff`, `keepFeas_ratio`), line demerits and fitness classes. -/
set_option linter.unusedSectionVars false
namespace Canvas.C17

section field
variable {K : Type} [Field K] [LinearOrder K] [IsStrictOrderedRing K]
variable (P : Params K) (items : List (Item K)) (lineW : K)

theorem foldl_addItem (l : List (Item K)) : ∀ s : K × K × K,
    l.foldl addItem s = (s.1 + (l.foldl addItem (0, 0, 0)).1, s.2.1 + (l.foldl addItem (0, 0, 0)).2.1,
      s.2.2 + (l.foldl addItem (0, 0, 0)).2.2) := by
  induction l with
  | nil => intro s; simp
  | cons it rest ih =>
    intro s
    simp only [List.foldl_cons]
    rw [ih (addItem s it), ih (addItem (0, 0, 0) it)]
    cases hty : it.ty <;> simp [addItem, hty, add_assoc]

theorem pre_eq_add_range {s b : Nat} (h : s ≤ b) :
    pre items b = ((pre items s).1 + (sumRange items s b).1, (pre items s).2.1 + (sumRange items s b).2.1,
      (pre items s).2.2 + (sumRange items s b).2.2) := by
  unfold pre sumRange k
  have : items.take b = items.take s ++ (items.drop s).take (b - s) := by
    have hb : b = s + (b - s) := by omega
    conv_lhs => rw [hb]
    rw [List.take_add]
  rw [this, List.foldl_append]
  simp only [Nat.cast_zero]
  exact foldl_addItem _ _

def ItemsOK (items : List (Item K)) : Prop :=
  ∀ it, it ∈ items → 0 ≤ it.width ∧ (it.ty = Ty.glue → 0 ≤ it.shrink ∧ it.shrink ≤ it.width ∧ 0 ≤ it.stretch)

theorem k_zero : (k 0 : K) = 0 := by simp [k]

theorem k_one : (k 1 : K) = 1 := by simp [k]

/-- the running sums, and the least length `Σw − Σz` of the text so far, only grow -/
theorem pre_step (h : ItemsOK items) (b : Nat) :
    (pre items b).1 ≤ (pre items (b + 1)).1 ∧ (pre items b).2.1 ≤ (pre items (b + 1)).2.1 ∧
    (pre items b).2.2 ≤ (pre items (b + 1)).2.2 ∧
    (pre items b).1 - (pre items b).2.2 ≤ (pre items (b + 1)).1 - (pre items (b + 1)).2.2 := by
  cases hb : items[b]? with
  | none =>
    have : pre items (b + 1) = pre items b := by
      unfold pre
      have hl : items.length ≤ b := List.getElem?_eq_none_iff.mp hb
      rw [List.take_of_length_le hl, List.take_of_length_le (by omega)]
    rw [this]; exact ⟨le_refl _, le_refl _, le_refl _, le_refl _⟩
  | some it =>
    rw [pre_succ items b it hb]
    obtain ⟨hw, hg⟩ := h it (List.mem_of_getElem? hb)
    obtain ⟨w, y, z⟩ := pre items b
    cases hty : it.ty with
    | box =>
      simp only [addItem, hty]
      exact ⟨le_add_of_nonneg_right hw, le_refl _, le_refl _, sub_le_sub_right (le_add_of_nonneg_right hw) z⟩
    | glue =>
      obtain ⟨h1, h2, h3⟩ := hg hty
      simp only [addItem, hty]
      refine ⟨le_add_of_nonneg_right hw, le_add_of_nonneg_right h3, le_add_of_nonneg_right h1, ?_⟩
      rw [add_sub_add_comm]
      exact le_add_of_nonneg_right (sub_nonneg.mpr h2)
    | penalty => simp only [addItem, hty]; exact ⟨le_refl _, le_refl _, le_refl _, le_refl _⟩

theorem pre_mono (h : ItemsOK items) {b c : Nat} (hbc : b ≤ c) :
    (pre items b).1 ≤ (pre items c).1 ∧ (pre items b).2.1 ≤ (pre items c).2.1 ∧
    (pre items b).2.2 ≤ (pre items c).2.2 ∧
    (pre items b).1 - (pre items b).2.2 ≤ (pre items c).1 - (pre items c).2.2 := by
  induction hbc with
  | refl => exact ⟨le_refl _, le_refl _, le_refl _, le_refl _⟩
  | step _ ih =>
    obtain ⟨a1, a2, a3, a4⟩ := ih
    obtain ⟨b1, b2, b3, b4⟩ := pre_step items h _
    exact ⟨le_trans a1 b1, le_trans a2 b2, le_trans a3 b3, le_trans a4 b4⟩

theorem lineNat_eq (prev : Option Nat) (b : Nat) (it : Item K)
    (hit : items[b]? = some it) (h : lineStart P items prev ≤ b) :
    lineNat P items prev b =
      ((if it.ty = Ty.penalty then (pre items b).1 - (afterSums P items prev).1 + it.width
        else (pre items b).1 - (afterSums P items prev).1),
       (pre items b).2.1 - (afterSums P items prev).2.1, (pre items b).2.2 - (afterSums P items prev).2.2) := by
  -- both sides become the same sums over `[lineStart, b)` once `pre items b` is split at the line start
  rw [afterSums_eq_pre, pre_eq_add_range items h]
  unfold lineNat
  simp only [h, if_true, hit]
  split <;> exact Prod.ext (by simp only; ring) (Prod.ext (by simp only; ring) (by simp only; ring))

/-- `computeAdjustmentRatio` without the exact-fit guard of bb6487a (the mathematical ratio) -/
def adjRatio0 (P : Params K) (lineW : K) (it : Item K) (W Y Z aw ay az : K) : Option K :=
  ratioCore P lineW (lineLen it W aw) (Y - ay) (Z - az) id

theorem absS_nonpos {x : K} (h : absS x ≤ 0) : x = 0 := by
  unfold absS at h
  rw [k_zero] at h
  split at h
  · rename_i hx; exact absurd hx (not_lt.mpr (neg_nonpos.mp h))
  · rename_i hx; exact le_antisymm h (not_lt.mp hx)

/-- the guard is the identity: with `eps = 0` it only rewrites a value by itself -/
theorem adjRatio_eps0 {it : Item K} {W Y Z aw ay az : K} (h : P.eps = 0) :
    adjRatio P lineW it W Y Z aw ay az = adjRatio0 P lineW it W Y Z aw ay az := by
  unfold adjRatio adjRatio0
  have h1 : snapL P lineW (lineLen it W aw) = lineLen it W aw := by
    unfold snapL
    rw [h, zero_mul]
    split
    · rename_i hc; exact (sub_eq_zero.mp (absS_nonpos hc)).symm
    · rfl
  have h2 : snapR P = id := by
    funext r
    unfold snapR
    rw [h, k_one]
    split
    · rename_i hc; exact (eq_neg_of_add_eq_zero_left (absS_nonpos hc)).symm
    · rfl
  rw [h1, h2]

theorem lineLen_eq {it : Item K} (hpen : it.ty = Ty.penalty → it.width = 0) (W aw : K) : lineLen it W aw = W - aw := by
  unfold lineLen
  split
  · rename_i hp; rw [hpen hp, add_zero]
  · rfl

theorem lineLen_ge {it : Item K} (hw : 0 ≤ it.width) (W aw : K) : W - aw ≤ lineLen it W aw := by
  unfold lineLen
  split
  · exact le_add_of_nonneg_right hw
  · exact le_refl _

/-- the node would be deactivated: ratio −∞ or below −1 -/
def TooLong (o : Option K) : Prop := o = none ∨ ∃ r, o = some r ∧ r < -(k 1 : K)

theorem tooLong_some (r : K) : TooLong (some r) ↔ r < -1 := by simp [TooLong, k_one]

theorem not_lt_neg_one {v : K} (hv : 0 ≤ v) : ¬ v < -1 := not_lt.mpr (le_trans (neg_nonpos.mpr zero_le_one) hv)

theorem cap_lt (i r : K) (hi : 0 < i) : (if r < i then r else i) < -1 ↔ r < -1 := by
  split
  · exact Iff.rfl
  · rename_i h; exact iff_of_false (not_lt_neg_one hi.le) (not_lt_neg_one (hi.le.trans (not_lt.mp h)))

theorem tooLong_iff (lineW L Yd Zd : K) (hinf : 0 < P.infinity) (hW : 0 < lineW) (hZ : 0 ≤ Zd) :
    TooLong (ratioCore P lineW L Yd Zd id) ↔ lineW < L - Zd := by
  unfold ratioCore
  simp only [k_zero, k_one, id, beq_iff_eq]
  by_cases h1 : L < lineW
  · -- shorter than the line: the ratio is positive, and the least length is below the line width too
    rw [if_pos h1]
    have hn : ¬ lineW < L - Zd := not_lt.mpr (le_trans (sub_le_self L hZ) h1.le)
    by_cases hy : Yd ≤ 0
    · rw [if_pos hy, tooLong_some]
      exact iff_of_false (not_lt_neg_one (mul_pos hinf (add_pos one_pos (div_pos (sub_pos.mpr h1) hW))).le) hn
    · rw [if_neg hy, tooLong_some, cap_lt _ _ hinf]
      exact iff_of_false (not_lt_neg_one (div_pos (sub_pos.mpr h1) (not_le.mp hy)).le) hn
  · rw [if_neg h1]
    by_cases h2 : lineW < L
    · rw [if_pos h2]
      by_cases hz : Zd = 0
      · rw [if_pos hz, hz, sub_zero]; exact ⟨fun _ => h2, fun _ => Or.inl rfl⟩
      · rw [if_neg hz, tooLong_some, cap_lt _ _ hinf, div_lt_iff₀ (lt_of_le_of_ne hZ (Ne.symm hz)), neg_one_mul,
          sub_lt_iff_lt_add, ← sub_eq_neg_add]
    · rw [if_neg h2, if_pos hinf, tooLong_some]
      exact iff_of_false (not_lt_neg_one (le_refl _)) (not_lt.mpr (le_trans (sub_le_self L hZ) (not_lt.mp h2)))

theorem feasAt_some (tol r : K) : feasAt (some tol) r = true ↔ (-1 ≤ r ∧ r ≤ tol) := by
  unfold feasAt leTol
  simp [k_one]

theorem feasAt_ge {tol : Option K} {r : K} (h : feasAt tol r = true) : -1 ≤ r := by
  simp only [feasAt, Bool.and_eq_true, decide_eq_true_eq, k_one] at h
  exact h.1

theorem ltTol_of_feas {tol tolS : Option K} {r : K} (h1 : feasAt tolS r = true) (h2 : feasAt tol r = false) :
    ltTol tol r = true := by
  have hge : decide (-(k 1 : K) ≤ r) = true := (Bool.and_eq_true _ _ ▸ h1).1
  rw [feasAt, hge, Bool.true_and] at h2
  cases tol with
  | none => cases h2
  | some ti => simpa [leTol, ltTol] using h2

def keepFeas (tol : K) (o : Option K) : Option K :=
  match o with
  | some r => if feasAt (some tol) r = true then some r else none
  | none => none

theorem keepFeas_big {tol x : K} (h : tol < x) : keepFeas tol (some x) = none := by
  unfold keepFeas
  exact if_neg fun hf => absurd ((feasAt_some tol x).mp hf).2 (not_le.mpr h)

theorem keepFeas_cap {tol i : K} (hi : tol < i) (r : K) :
    keepFeas tol (some (if r < i then r else i)) = keepFeas tol (some r) := by
  split
  · rfl
  · rename_i h; rw [keepFeas_big hi, keepFeas_big (lt_of_lt_of_le hi (not_lt.mp h))]

/-- they differ only where the code reports a ratio of at least `Infinity` -/
theorem keepFeas_ratio (lineW tol : K) {L Yd Zd : K} (hinf : 0 < P.infinity) (htol : tol < P.infinity)
    (hlw : 0 < lineW) : keepFeas tol (ratioOf lineW L Yd Zd) = keepFeas tol (ratioCore P lineW L Yd Zd id) := by
  unfold ratioOf ratioCore
  simp only [k_zero, k_one, beq_iff_eq, id]
  by_cases h1 : L < lineW
  · rw [if_pos h1, if_pos h1]
    by_cases hy : Yd ≤ 0
    · rw [if_pos hy, if_pos hy, keepFeas_big]
      · rfl
      · rw [mul_add, mul_one]
        exact lt_add_of_lt_of_pos htol (mul_pos hinf (div_pos (sub_pos.mpr h1) hlw))
    · rw [if_neg hy, if_neg hy, keepFeas_cap htol]
  · rw [if_neg h1, if_neg h1]
    by_cases h2 : lineW < L
    · rw [if_pos h2, if_pos h2]
      by_cases hz : Zd = 0
      · rw [if_pos hz, if_pos hz]
      · rw [if_neg hz, if_neg hz, keepFeas_cap htol]
    · rw [if_neg h2, if_neg h2, if_pos hinf]

theorem fitClass_lt (r : K) : fitClass r < 4 := by
  unfold fitClass; split
  · omega
  · split
    · omega
    · split <;> omega

theorem fitClass_zero : fitClass (k 0 : K) = 1 := by
  have hh : (0 : K) ≤ half := div_nonneg (Nat.cast_nonneg 1) (Nat.cast_nonneg 2)
  unfold fitClass
  rw [k_zero, if_neg (not_lt.mpr (neg_nonpos.mpr hh)), if_pos hh]

/-- line demerits before the fitness-class term -/
def lineDem1 (P : Params K) (it : Item K) (r : K) (fl : Bool) : K :=
  let a := absS r
  let badness := k 100 * (a * a * a)
  let base := P.demLine + badness
  let d0 :=
    if it.ty = Ty.penalty && decide (k 0 ≤ it.penalty) then (base + it.penalty) * (base + it.penalty)
    else if it.ty = Ty.penalty && decide (-P.infinity < it.penalty) then base * base - it.penalty * it.penalty
    else base * base
  if fl && it.flagged then d0 + P.demFlagged else d0

theorem lineDemerits_eq (it : Item K) (r : K) (fl : Bool) (f : Nat) :
    lineDemerits P it r fl f =
      if (decide (fitClass r + 1 < f) || decide (f + 1 < fitClass r)) = true then lineDem1 P it r fl + P.demFitness
      else lineDem1 P it r fl := rfl

theorem lineDemerits_fit_le (it : Item K) (r : K) (fl : Bool) (f1 f2 : Nat)
    (hDF : 0 ≤ P.demFitness) : lineDemerits P it r fl f1 ≤ lineDemerits P it r fl f2 + P.demFitness := by
  rw [lineDemerits_eq, lineDemerits_eq]
  generalize lineDem1 P it r fl = d1
  split
  · split
    · exact le_add_of_nonneg_right hDF
    · exact le_refl _
  · split
    · exact le_trans (le_add_of_nonneg_right hDF) (le_add_of_nonneg_right hDF)
    · exact le_add_of_nonneg_right hDF

end field
end Canvas.C17
