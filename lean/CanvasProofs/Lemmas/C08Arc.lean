import CanvasProofs.Lemmas.C08
import Mathlib.Tactic.FieldSimp

/-! # C08 — arcs: extreme box of the ellipse, attainment, and FastBounds ⊇ Bounds step by step

An arc point is `(cx + rx·c·C − ry·s·S, cy + rx·c·S + ry·s·C)` with `(c,s)` the cosine/sine of the
eccentric angle and `(C,S)` those of the rotation. Everything here is algebra over an ordered field;
the trigonometric functions enter only through `c²+s² = 1` and the square root through
`√x·√x = x`, `0 ≤ √x`. The y coordinate is the x coordinate for the rotation `(S, −C)`, so each fact
is proved for x and instantiated. -/
set_option linter.unusedSectionVars false
namespace C08
open Canvas Canvas.C08 GenK
variable {K : Type} [Field K] [LinearOrder K] [IsStrictOrderedRing K] [Env K] [ArcFns K]

theorem abs_le_of_mul_self_le {v D : K} (hD : 0 ≤ D) (h : v * v ≤ D * D) : |v| ≤ D :=
  (abs_le_iff_mul_self_le.2 h).trans_eq (abs_of_nonneg hD)

/-- Lagrange's identity behind Cauchy–Schwarz -/
theorem ellipse_sq (rx ry c s C S : K) (h1 : c * c + s * s = 1) :
    (rx * c * C - ry * s * S) * (rx * c * C - ry * s * S) + (rx * C * s + ry * S * c) * (rx * C * s + ry * S * c)
      = rx * rx * C * C + ry * ry * S * S := by
  linear_combination (rx * rx * C * C + ry * ry * S * S) * h1

theorem ellipse_sq_le (rx ry c s C S : K) (h1 : c * c + s * s = 1) :
    (rx * c * C - ry * s * S) * (rx * c * C - ry * s * S) ≤ rx * rx * C * C + ry * ry * S * S := by
  rw [← ellipse_sq rx ry c s C S h1]
  exact le_add_of_nonneg_right (mul_self_nonneg _)

theorem ellipse_coord_le (rx ry c s C S D : K) (h1 : c * c + s * s = 1)
    (hD : D * D = rx * rx * C * C + ry * ry * S * S) (hD0 : 0 ≤ D) : |rx * c * C - ry * s * S| ≤ D :=
  abs_le_of_mul_self_le hD0 (hD ▸ ellipse_sq_le rx ry c s C S h1)

theorem extreme_attained (rx ry C S D : K) (hD : D * D = rx * rx * C * C + ry * ry * S * S) (hD0 : D ≠ 0) :
    (rx * C / D) * (rx * C / D) + (-ry * S / D) * (-ry * S / D) = 1 ∧
      rx * (rx * C / D) * C - ry * (-ry * S / D) * S = D := by
  constructor <;> field_simp <;> linear_combination (-1 : K) * hD

/-- the radicands are at most the square of the larger radius:
`M² − (rx²C² + ry²S²) = (M² − rx²)·C² + (M² − ry²)·S²` -/
theorem radicand_le (rx ry C S : K) (hrx : 0 ≤ rx) (hry : 0 ≤ ry) (h2 : C * C + S * S = 1) :
    rx * rx * C * C + ry * ry * S * S ≤ max rx ry * max rx ry := by
  have a1 := mul_self_le_mul_self hrx (le_max_left rx ry)
  have a2 := mul_self_le_mul_self hry (le_max_right rx ry)
  generalize max rx ry = M at a1 a2 ⊢
  have e : M * M * (C * C + S * S) = M * M := by rw [h2, mul_one]
  linarith [mul_nonneg (sub_nonneg.2 a1) (mul_self_nonneg C), mul_nonneg (sub_nonneg.2 a2) (mul_self_nonneg S)]

theorem ellipse_coord_le_radius (rx ry c s C S : K) (hrx : 0 ≤ rx) (hry : 0 ≤ ry) (h1 : c * c + s * s = 1)
    (h2 : C * C + S * S = 1) : |rx * c * C - ry * s * S| ≤ max rx ry :=
  abs_le_of_mul_self_le (hrx.trans (le_max_left _ _))
    ((ellipse_sq_le rx ry c s C S h1).trans (radicand_le rx ry C S hrx hry h2))

/-- what an arc command must satisfy at its position in the path: non-negative radii, `sincos` on the
unit circle, `sqrt` an exact non-negative root of every `x ≥ 0` (used at the two radicands), and the end
point within `max rx ry` of the centre `ellipseToCenter` computes (true of every point of an ellipse about
its centre, `ellipse_coord_le_radius`; that `ellipseToCenter` returns that centre is assumed here, not
proved). -/
def SegOk (start : Pt K) : Cmd K → Prop
  | .A rx ry phi l sw p =>
    0 ≤ rx ∧ 0 ≤ ry ∧
    (Ops.sincos phi).2 * (Ops.sincos phi).2 + (Ops.sincos phi).1 * (Ops.sincos phi).1 = (1 : K) ∧
    (∀ x : K, 0 ≤ x → Env.sqrt x * Env.sqrt x = x ∧ 0 ≤ Env.sqrt x) ∧
    |p.x - (ellipseToCenter start.x start.y rx ry phi l sw p.x p.y).1| ≤ max rx ry ∧
    |p.y - (ellipseToCenter start.x start.y rx ry phi l sw p.x p.y).2.1| ≤ max rx ry
  | _ => True

def PathOk (start : Pt K) : List (Cmd K) → Prop
  | [] => True
  | c :: cs => SegOk start c ∧ PathOk c.endPt cs

/-- the FastBounds state `sf` encloses the Bounds state `sb` at the same position; the last conjunct,
that `sf` contains this position, is what `fastStep_seg` asks of the start of the next segment -/
def Sim (sf sb : St K) : Prop :=
  sf.start = sb.start ∧ sf.xmin ≤ sb.xmin ∧ sb.xmax ≤ sf.xmax ∧ sf.ymin ≤ sb.ymin ∧ sb.ymax ≤ sf.ymax ∧ StIn sf sf.start

theorem Sim.init (p : Pt K) : Sim (St.init p) (St.init p) :=
  ⟨rfl, le_refl _, le_refl _, le_refl _, le_refl _, stIn_init p⟩

theorem Sim.sides {sf sb : St K} (h : Sim sf sb) :
    sf.xmin ≤ sb.xmin ∧ sb.xmax ≤ sf.xmax ∧ sf.ymin ≤ sb.ymin ∧ sb.ymax ≤ sf.ymax :=
  ⟨h.2.1, h.2.2.1, h.2.2.2.1, h.2.2.2.2.1⟩

theorem sqrt_extreme_le (hsq : ∀ x : K, 0 ≤ x → Env.sqrt x * Env.sqrt x = x ∧ 0 ≤ Env.sqrt x) (rx ry C S : K)
    (hrx : 0 ≤ rx) (hry : 0 ≤ ry) (h2 : C * C + S * S = 1) :
    Env.sqrt (rx * rx * C * C + ry * ry * S * S) ≤ max rx ry := by
  have h := hsq (rx * rx * C * C + ry * ry * S * S) (by linarith [mul_self_nonneg (rx * C), mul_self_nonneg (ry * S)])
  exact (mul_self_le_mul_self_iff h.2 (hrx.trans (le_max_left _ _))).2 (h.1.trans_le (radicand_le rx ry C S hrx hry h2))

/-- One axis of the ArcTo case. FastBounds takes `c ± r`; Bounds takes the end value `e` and, if the
extreme angle is on the arc, `c ± d`; `d ≤ r` and `e` is within `r` of `c`. -/
theorem arc_axis_sim {flo fhi blo bhi c d r e : K} (hlo : flo ≤ blo) (hhi : bhi ≤ fhi) (hd : d ≤ r)
    (he : |e - c| ≤ r) :
    (∀ b, min flo (c - r) ≤ min (if b = true then min blo (c - d) else blo) e) ∧
    (∀ b, max (if b = true then max bhi (c + d) else bhi) e ≤ max fhi (c + r)) ∧
    min flo (c - r) ≤ e ∧ e ≤ max fhi (c + r) := by
  rw [abs_le] at he
  have l : min flo (c - r) ≤ e := (min_le_right _ _).trans (by linarith)
  have u : e ≤ max fhi (c + r) := le_trans (by linarith) (le_max_right _ _)
  refine ⟨fun b => le_min ?_ l, fun b => max_le ?_ u, l, u⟩
  · split
    · exact le_min ((min_le_left _ _).trans hlo) ((min_le_right _ _).trans (by linarith))
    · exact (min_le_left _ _).trans hlo
  · split
    · exact max_le (hhi.trans (le_max_left _ _)) (le_trans (by linarith) (le_max_right _ _))
    · exact hhi.trans (le_max_left _ _)

theorem step_sim (hε : 0 ≤ (Env.epsilon : K)) (sw : Bool) (sf sb : St K) (c : Cmd K) (hc : SegOk sb.start c)
    (h : Sim sf sb) : Sim (fastStepG max sf c) (boundsStepG sw sb c) := by
  obtain ⟨hst, h1, h2, h3, h4, hin⟩ := h
  have hstart : (fastStepG max sf c).start = (boundsStepG sw sb c).start := by
    rw [fastStep_start, boundsStep_start]
  cases harc : c.isArc
  · -- a Bézier segment: the new FastBounds box contains all of it, and each new side of Bounds is
    -- an old side or a coordinate of one of its points
    obtain ⟨pos, hpos, gx, gy⟩ := boundsStep_grown sw sb c harc
    have seg : ∀ q, OnSeg sb.start c q → StIn (fastStepG max sf c) q :=
      fun q hq => fastStep_seg sf sb.start c q (hst ▸ hin) hq
    have pe := seg _ (onSeg_end sb.start c harc)
    have w := fastStep_widen sf c
    have X := gx.within hε ⟨le_min (w.1.trans h1) pe.1, max_le (h2.trans w.2.1) pe.2.1⟩
      fun t t0 t1 => ⟨(seg _ (hpos t t0.le t1.le)).1, (seg _ (hpos t t0.le t1.le)).2.1⟩
    have Y := gy.within hε ⟨le_min (w.2.2.1.trans h3) pe.2.2.1, max_le (h4.trans w.2.2.2) pe.2.2.2⟩
      fun t t0 t1 => (seg _ (hpos t t0.le t1.le)).2.2
    refine ⟨hstart, X.1, X.2, Y.1, Y.2, ?_⟩
    rw [fastStep_start]; exact pe
  · cases c with
    | A rx ry phi l sw' p =>
      obtain ⟨hrx, hry, htrig, hsq, hpx, hpy⟩ := hc
      obtain ⟨st, fx0, fx1, fy0, fy1⟩ := sf
      subst hst
      have dx := sqrt_extreme_le hsq rx ry (Ops.sincos phi).2 (Ops.sincos phi).1 hrx hry htrig
      have dy := sqrt_extreme_le hsq rx ry (Ops.sincos phi).1 (Ops.sincos phi).2 hrx hry ((add_comm _ _).trans htrig)
      have X := arc_axis_sim h1 h2 dx hpx
      have Y := arc_axis_sim h3 h4 dy hpy
      exact ⟨hstart, X.1 _, X.2.1 _, Y.1 _, Y.2.1 _, X.2.2.1, X.2.2.2, Y.2.2.1, Y.2.2.2⟩
    | _ => cases harc

theorem fold_sim (hε : 0 ≤ (Env.epsilon : K)) (sw : Bool) (cs : List (Cmd K)) (sf sb : St K)
    (hok : PathOk sb.start cs) (h : Sim sf sb) :
    Sim (cs.foldl (fastStepG max) sf) (cs.foldl (boundsStepG sw) sb) := by
  induction cs generalizing sf sb with
  | nil => exact h
  | cons c cs ih =>
    refine ih _ _ ?_ (step_sim hε sw sf sb c hok.1 h)
    rw [boundsStep_start]; exact hok.2

end C08
