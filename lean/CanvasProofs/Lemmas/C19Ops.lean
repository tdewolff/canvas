import CanvasModel.C19
import CanvasGen.CoreK
import CanvasProofs.Lemmas.Mat
/-! The C19 model instantiated with the generated (`GenK`) definitions of /repo/util.go over an arbitrary
linearly ordered field.  The dash decision of `Context.DrawPath` (`cd`: checkDash in stroke-width units +
dashCanonical) stays arbitrary.  The geometric questions of the path builder are taken in their
exact-arithmetic reading (Epsilon → 0 inside them): "the new segment is parallel to the previous one and
points the same way"; ArcTo's canonical form for rot = 0 without radius correction; tan = sin / cos;
Path.Transform's arc case for axis-parallel matrices.  `Equal` itself is the generated definition with its
Epsilon. -/
set_option linter.unusedSectionVars false
namespace C19
open Canvas Canvas.C19 GenK
variable {K : Type} [Field K] [LinearOrder K] [IsStrictOrderedRing K] [Env K]

def arithK : Arith K :=
  { zero := 0, one := 1, nat := fun n => (n : K), c25_4 := 254 / 10, c0_25 := 1 / 4, mmPerPx := 254 / 10 / 96, pi := Env.pi,
    neg := fun x => -x, add := fun a b => a + b, sub := fun a b => a - b, mul := fun a b => a * b,
    div := fun a b => a / b,
    lt := fun a b => decide (a < b), le := fun a b => decide (a ≤ b), beq := fun a b => decide (a = b),
    equal := GenK.Equal, min := fun a b => min a b, sqrt := Env.sqrt, isInf := fun _ => false }

def psub (p q : Pt K) : Pt K := ⟨p.x - q.x, p.y - q.y⟩

def sameDir (a b : Pt K) : Bool := decide (Point.PerpDot a b = 0 ∧ 0 < Point.Dot a b)

theorem sameDir_perp {a b : Pt K} (h : Point.PerpDot a b ≠ 0) : sameDir a b = false := by
  unfold sameDir; simp [h]

def lineExtendsK (prev start e : Pt K) : Bool := sameDir (psub start prev) (psub e start)
def closeExtendsK (prev start e : Pt K) : Bool := sameDir (psub e start) (psub start prev)

def arcFixK (_start : Pt K) (rx ry : K) (_e : Pt K) : K × K × K :=
  let rx := |rx|
  let ry := |ry|
  if GenK.Equal rx ry then (rx, ry, 0) else if rx < ry then (ry, rx, 90 * Env.pi / 180) else (rx, ry, 0)

/-- the arc case of Path.Transform in its exact reading for an axis-parallel matrix and an unrotated arc
(the only use the importer makes of it): the radii are scaled, the larger one comes first (rotated by
90° if that is the y radius), a reflection flips the sweep -/
def transformArcK (m : Mat K) (rx ry _phi : K) (sweep : Bool) : K × K × K × Bool :=
  let a := |m.a| * rx
  let b := |m.e| * ry
  let sw := if m.a * m.e < 0 then !sweep else sweep
  if a < b then (b, a, Env.pi / 2, sw) else (a, b, 0, sw)

def opsK (cd : K → K → List K → K → List K × Bool) : Ops K :=
  { arithK with
    ident := ⟨1, 0, 0, 0, 1, 0⟩,
    mmul := Matrix.Mul, translate := Matrix.Translate, scale := Matrix.Scale,
    reflectYAbout := Matrix.ReflectYAbout,
    sincos := fun x => (Env.sin x, Env.cos x),
    tan := fun x => Env.sin x / Env.cos x, dot := Matrix.Dot, transformArc := transformArcK,
    lineExtends := lineExtendsK, closeExtends := closeExtendsK, arcFix := arcFixK,
    checkDash := cd }

theorem ne_of_not_equal {a b : K} (heps : (0 : K) ≤ Env.epsilon) (h : GenK.Equal a b = false) : a ≠ b := by
  intro e; subst e; rw [equal_self heps a] at h; exact Bool.noConfusion h

end C19
