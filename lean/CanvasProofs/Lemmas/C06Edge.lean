import CanvasProofs.Lemmas.C06Sort
import CanvasProofs.Lemmas.Wn
import Mathlib.Tactic.FieldSimp
import Mathlib.Algebra.Order.Ring.Rat

/-! Off segment a→b, a ≠ b, the model of `intersectionRayLineSegment` (`edgeHits`) yields one of five
shapes (`EdgeCase`), and in each the weight of the hits is `2·edgeW + [b on the ray] − [a on the ray]`:
the library's "half a crossing at each end point" and the specification's half-open rule differ by a
telescoping term. The sign of `side` (where the segment's line meets the ray's line) decides the shape.
A zero-length segment on the ray has no hits and fits none of the five (`fa` of `EdgeCase.none` fails):
the users of `edge_cases` treat a = b first. -/
namespace Canvas.C06
open Canvas.Wn

/-- the vertex lies on the ray, strictly right of the query point -/
def fR (p v : IPt) : Bool := decide (v.y = p.y ∧ p.x < v.x)
-- `fR` as 0/1, the telescoping term
def fI (p v : IPt) : Int := if fR p v then 1 else 0

/-- p lies on the closed segment ab (for a non-horizontal segment collinearity and the y-range
suffice; a = b gives p = a) -/
def onSeg (p a b : IPt) : Prop :=
  isLeft a b p = 0 ∧ min a.y b.y ≤ p.y ∧ p.y ≤ max a.y b.y ∧
    (a.y = b.y → min a.x b.x ≤ p.x ∧ p.x ≤ max a.x b.x)

instance (p a b : IPt) : Decidable (onSeg p a b) := instDecidableAnd

theorem hitX_start (p a b : IPt) (h : p.y = a.y) : hitX p a b = (a.x : Rat) := by
  simp [hitX, h]

theorem hitX_end (p a b : IPt) (h : p.y = b.y) (hne : a.y ≠ b.y) : hitX p a b = (b.x : Rat) := by
  have hd : ((b.y - a.y : Int) : Rat) ≠ 0 := Int.cast_ne_zero.mpr (sub_ne_zero.mpr hne.symm)
  simp only [hitX, h]
  push_cast at hd ⊢
  field_simp
  ring

theorem hitX_sub (p a b : IPt) (hne : a.y ≠ b.y) :
    (hitX p a b - (p.x : Rat)) * ((b.y - a.y : Int) : Rat) = ((isLeft a b p : Int) : Rat) := by
  have hd : ((b.y - a.y : Int) : Rat) ≠ 0 := Int.cast_ne_zero.mpr (sub_ne_zero.mpr hne.symm)
  simp only [hitX, isLeft]
  push_cast at hd ⊢
  field_simp
  ring

inductive EdgeCase (p a b : IPt) : Prop
  | none (h : edgeHits p a b = []) (fa : fR p a = false) (fb : fR p b = false) (w : edgeW p a b = 0)
  | mid (g : Hit) (h : edgeHits p a b = [g]) (tb : g.tb = .mid) (t0 : g.t0zero = false)
      (sm : g.same = false) (fa : fR p a = false) (fb : fR p b = false) (w : dir g.z = edgeW p a b)
  | start (s : Hit) (h : edgeHits p a b = [s]) (tb : s.tb = .zero) (x : s.x = (a.x : Rat))
      (t0 : s.t0zero = false) (sm : s.same = false) (fa : fR p a = true) (fb : fR p b = false)
      (w : dir s.z = 2 * edgeW p a b - 1)
  | fin (e : Hit) (h : edgeHits p a b = [e]) (tb : e.tb = .one) (x : e.x = (b.x : Rat))
      (t0 : e.t0zero = false) (sm : e.same = false) (fa : fR p a = false) (fb : fR p b = true)
      (w : dir e.z = 2 * edgeW p a b + 1)
  | horiz (s e : Hit) (h : edgeHits p a b = [s, e]) (tbs : s.tb = .zero) (tbe : e.tb = .one)
      (xs : s.x = (a.x : Rat)) (xe : e.x = (b.x : Rat)) (t0s : s.t0zero = false)
      (t0e : e.t0zero = false) (sms : s.same = true) (sme : e.same = true)
      (fa : fR p a = true) (fb : fR p b = true) (w : edgeW p a b = 0)

theorem edgeHits_self (p a : IPt) : edgeHits p a a = [] := by simp [edgeHits]

theorem edgeHits_of_not_pre (p a b : IPt)
    (h : ¬ (min a.y b.y ≤ p.y ∧ p.y ≤ max a.y b.y ∧ p.x ≤ max a.x b.x)) : edgeHits p a b = [] := by
  unfold edgeHits
  split
  · rfl
  · rfl

theorem edgeHits_horiz (p a b : IPt) (hne : a ≠ b)
    (hpre : min a.y b.y ≤ p.y ∧ p.y ≤ max a.y b.y ∧ p.x ≤ max a.x b.x) (hh : a.y = b.y) :
    edgeHits p a b = horizHits p a b := by
  unfold edgeHits
  rw [if_neg hne, if_neg (not_not.mpr hpre), if_pos hh]

theorem edgeHits_line (p a b : IPt)
    (hpre : min a.y b.y ≤ p.y ∧ p.y ≤ max a.y b.y ∧ p.x ≤ max a.x b.x) (hh : a.y ≠ b.y) :
    edgeHits p a b = lineHits p a b := by
  unfold edgeHits
  rw [if_neg (fun h => hh (congrArg IPt.y h)), if_neg (not_not.mpr hpre), if_neg hh]

/-- `side = (hitX − p.x) · |b.y − a.y|` -/
theorem side_sign (p a b : IPt) (hne : a.y ≠ b.y) :
    (0 < side p a b ↔ (p.x : Rat) < hitX p a b) ∧ (side p a b = 0 ↔ hitX p a b = (p.x : Rat)) ∧
    (side p a b < 0 ↔ hitX p a b < (p.x : Rat)) := by
  obtain ⟨D, hD, h⟩ : ∃ D : Rat, 0 < D ∧ (hitX p a b - (p.x : Rat)) * D = ((side p a b : Int) : Rat) := by
    have h := hitX_sub p a b hne
    rw [side]
    split
    · exact ⟨((b.y - a.y : Int) : Rat), Int.cast_pos.mpr (by omega), h⟩
    · exact ⟨-((b.y - a.y : Int) : Rat), neg_pos.mpr (Int.cast_lt_zero.mpr (by omega)),
        by rw [mul_neg, h, Int.cast_neg]⟩
  refine ⟨?_, ?_, ?_⟩
  · rw [← Int.cast_pos (R := Rat), ← h, mul_pos_iff_of_pos_right hD, sub_pos]
  · rw [← Int.cast_eq_zero (α := Rat), ← h, mul_eq_zero, or_iff_left hD.ne', sub_eq_zero]
  · rw [← Int.cast_lt_zero (R := Rat), ← h]
    exact ⟨fun hl => sub_neg.mp (neg_of_mul_neg_left hl hD.le),
      fun hl => mul_neg_of_neg_of_pos (sub_neg.mpr hl) hD⟩

theorem side_start (p a b : IPt) (h : p.y = a.y) (hne : a.y ≠ b.y) :
    (0 < side p a b ↔ p.x < a.x) ∧ (side p a b < 0 ↔ a.x < p.x) := by
  have hs := side_sign p a b hne
  rw [hitX_start p a b h] at hs
  exact ⟨hs.1.trans Int.cast_lt, hs.2.2.trans Int.cast_lt⟩

theorem side_end (p a b : IPt) (h : p.y = b.y) (hne : a.y ≠ b.y) :
    (0 < side p a b ↔ p.x < b.x) ∧ (side p a b < 0 ↔ b.x < p.x) := by
  have hs := side_sign p a b hne
  rw [hitX_end p a b h hne] at hs
  exact ⟨hs.1.trans Int.cast_lt, hs.2.2.trans Int.cast_lt⟩

theorem side_swap (p a b : IPt) (hne : a.y ≠ b.y) : side p b a = side p a b := by
  simp only [side, isLeft_swap a b p]
  split <;> split <;> omega

theorem onSeg_iff_side (p a b : IPt) (hh : a.y ≠ b.y) (hy : min a.y b.y ≤ p.y ∧ p.y ≤ max a.y b.y) :
    onSeg p a b ↔ side p a b = 0 := by
  simp only [onSeg, side, hy.1, hy.2, hh, false_imp_iff, and_true]
  split <;> omega

theorem onSeg_horiz (p a b : IPt) (hh : a.y = b.y) (hpy : p.y = a.y) :
    onSeg p a b ↔ (a.x ≤ p.x ∨ b.x ≤ p.x) ∧ (p.x ≤ a.x ∨ p.x ≤ b.x) := by
  simp [onSeg, isLeft, hpy, hh]

/-- For an upward segment the cross product is minus a sum of two products of nonnegative factors,
each at least the y-distance to one end; the two y-distances add up to the segment's height. -/
theorem side_neg_of_right (p a b : IPt) (hne : a.y ≠ b.y)
    (hy : min a.y b.y ≤ p.y ∧ p.y ≤ max a.y b.y) (ha : a.x < p.x) (hb : b.x < p.x) :
    side p a b < 0 := by
  wlog hup : a.y < b.y generalizing a b
  · rw [← side_swap p a b hne]
    exact this b a (Ne.symm hne) (by rw [min_comm, max_comm]; exact hy) hb ha (by omega)
  rw [side, if_pos hup]
  have e : isLeft a b p = -((p.x - b.x) * (p.y - a.y) + (p.x - a.x) * (b.y - p.y)) := by
    simp only [isLeft]; ring
  have h1 : p.y - a.y ≤ (p.x - b.x) * (p.y - a.y) := le_mul_of_one_le_left (by omega) (by omega)
  have h2 : b.y - p.y ≤ (p.x - a.x) * (b.y - p.y) := le_mul_of_one_le_left (by omega) (by omega)
  omega

theorem edgeW_of_side_pos (p a b : IPt) (h : 0 < side p a b) :
    edgeW p a b = if a.y ≤ p.y ∧ p.y < b.y then 1 else if b.y ≤ p.y ∧ p.y < a.y then -1 else 0 := by
  simp only [side] at h
  simp only [edgeW]
  split at h <;> omega

theorem edgeW_of_side_nonpos (p a b : IPt) (h : side p a b ≤ 0) : edgeW p a b = 0 := by
  simp only [side] at h
  simp only [edgeW]
  split at h <;> omega

theorem fR_eq_true {p v : IPt} (hy : v.y = p.y) (hx : p.x < v.x) : fR p v = true :=
  decide_eq_true ⟨hy, hx⟩

theorem fR_eq_false {p v : IPt} (h : v.y = p.y → ¬ p.x < v.x) : fR p v = false :=
  decide_eq_false fun ⟨hy, hx⟩ => h hy hx

theorem edgeCase_of_not_pre (p a b : IPt)
    (hpre : ¬ (min a.y b.y ≤ p.y ∧ p.y ≤ max a.y b.y ∧ p.x ≤ max a.x b.x)) : EdgeCase p a b :=
  .none (edgeHits_of_not_pre p a b hpre) (fR_eq_false fun _ => by omega) (fR_eq_false fun _ => by omega)
    (Wn.edgeW_of_outside (by omega))

theorem edgeCase_horiz (p a b : IPt) (hne : a ≠ b) (hoff : ¬ onSeg p a b)
    (hpre : min a.y b.y ≤ p.y ∧ p.y ≤ max a.y b.y ∧ p.x ≤ max a.x b.x) (hh : a.y = b.y) :
    EdgeCase p a b := by
  have hpy : p.y = a.y := by omega
  have hl : p.x < a.x ∧ p.x < b.x := by
    have := (onSeg_horiz p a b hh hpy).not.mp hoff
    omega
  exact .horiz
    { x := (a.x : Rat), t0zero := a.x == p.x, into := false, tb := .zero, same := true }
    { x := (b.x : Rat), t0zero := b.x == p.x, into := false, tb := .one, same := true }
    (by rw [edgeHits_horiz p a b hne hpre hh, horizHits, if_pos ⟨le_of_lt hl.1, le_of_lt hl.2⟩])
    rfl rfl rfl rfl (beq_eq_false_iff_ne.mpr (ne_of_gt hl.1)) (beq_eq_false_iff_ne.mpr (ne_of_gt hl.2))
    rfl rfl (fR_eq_true hpy.symm hl.1) (fR_eq_true (hh ▸ hpy.symm) hl.2)
    (edgeW_of_not_level p a b (by omega) (by omega))

theorem edgeCase_line_left (p a b : IPt)
    (hpre : min a.y b.y ≤ p.y ∧ p.y ≤ max a.y b.y ∧ p.x ≤ max a.x b.x) (hh : a.y ≠ b.y)
    (hs : side p a b < 0) : EdgeCase p a b :=
  .none (by rw [edgeHits_line p a b hpre hh, lineHits, if_pos hs])
    (fR_eq_false fun hy => lt_asymm ((side_start p a b hy.symm hh).2.mp hs))
    (fR_eq_false fun hy => lt_asymm ((side_end p a b hy.symm hh).2.mp hs))
    (edgeW_of_side_nonpos p a b (le_of_lt hs))

theorem edgeCase_line_right (p a b : IPt)
    (hpre : min a.y b.y ≤ p.y ∧ p.y ≤ max a.y b.y ∧ p.x ≤ max a.x b.x) (hh : a.y ≠ b.y)
    (hpos : 0 < side p a b) : EdgeCase p a b := by
  have hL : edgeHits p a b =
      [{ x := hitX p a b, t0zero := false, into := decide (b.y < a.y),
         tb := if p.y = a.y then .zero else if p.y = b.y then .one else .mid, same := false }] := by
    rw [edgeHits_line p a b hpre hh, lineHits, if_neg (not_lt_of_gt hpos),
      beq_eq_false_iff_ne.mpr (ne_of_gt hpos)]
  have hw := edgeW_of_side_pos p a b hpos
  obtain ⟨hy1, hy2, -⟩ := hpre
  by_cases e1 : p.y = a.y
  · refine .start _ hL (if_pos e1) (hitX_start p a b e1) rfl rfl
      (fR_eq_true e1.symm ((side_start p a b e1 hh).1.mp hpos))
      (fR_eq_false fun hy => absurd (e1.symm.trans hy.symm) hh) ?_
    rw [hw]; clear hw hy1 hy2 hL hpos
    simp only [Hit.z, dir, decide_eq_true_eq]; omega
  · by_cases e2 : p.y = b.y
    · refine .fin _ hL (by rw [if_neg e1, if_pos e2]) (hitX_end p a b e2 hh) rfl rfl
        (fR_eq_false fun hy => absurd hy.symm e1)
        (fR_eq_true e2.symm ((side_end p a b e2 hh).1.mp hpos)) ?_
      rw [hw]; clear hw hy1 hy2 hL hpos
      simp only [Hit.z, dir, decide_eq_true_eq]; omega
    · refine .mid _ hL (by rw [if_neg e1, if_neg e2]) rfl rfl
        (fR_eq_false fun hy => absurd hy.symm e1) (fR_eq_false fun hy => absurd hy.symm e2) ?_
      rw [hw]; clear hw hL hpos
      simp only [Hit.z, dir, decide_eq_true_eq]; omega

theorem edge_cases (p a b : IPt) (hne : a ≠ b) (hoff : ¬ onSeg p a b) : EdgeCase p a b := by
  by_cases hpre : min a.y b.y ≤ p.y ∧ p.y ≤ max a.y b.y ∧ p.x ≤ max a.x b.x
  · by_cases hh : a.y = b.y
    · exact edgeCase_horiz p a b hne hoff hpre hh
    · rcases lt_trichotomy (side p a b) 0 with hs | hs | hs
      · exact edgeCase_line_left p a b hpre hh hs
      · exact absurd ((onSeg_iff_side p a b hh ⟨hpre.1, hpre.2.1⟩).mpr hs) hoff
      · exact edgeCase_line_right p a b hpre hh hs
  · exact edgeCase_of_not_pre p a b hpre

end Canvas.C06
