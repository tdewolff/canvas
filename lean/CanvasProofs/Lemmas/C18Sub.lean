import CanvasModel.C18
import CanvasProofs.Lemmas.Basic
/-! The `FontSubsetter` invariant over arbitrary `Get` histories. -/
namespace C18L
open Canvas.C18

/-- The representation invariant of the subsetter, `IDMap` against `IDs`. (That `.notdef` stays at 0 needs
no invariant: `IDs` only grows at the end.) -/
structure Inv (s : Sub) : Prop where
  sound : ∀ g c, s.map.lookup g = some c → s.ids[c]? = some g
  cover : ∀ g ∈ s.ids, s.map.lookup g ≠ none
  nodup : s.ids.Nodup
  bound : ∀ g ∈ s.ids, g < 65536

variable {s : Sub}

theorem Inv.lookup (h : Inv s) {g c : Nat} (hc : s.ids[c]? = some g) : s.map.lookup g = some c := by
  cases hl : s.map.lookup g with
  | none => exact absurd hl (h.cover g (List.mem_of_getElem? hc))
  | some c' =>
    -- `c'` and `c` both index `g` in a list without duplicates
    have h' := h.sound g c' hl
    exact congrArg some ((List.getElem?_inj (List.getElem?_eq_some_iff.1 h').1 h.nodup).1 (h'.trans hc.symm))

theorem get_old {g c : Nat} (hc : s.map.lookup g = some c) : s.get g = (s, c) := by
  rw [Sub.get, hc]

theorem get_spec (h : Inv s) {g : Nat} (hg : g < 65536) :
    Inv (s.get g).1 ∧ (s.get g).1.ids[(s.get g).2]? = some g ∧ s.ids <+: (s.get g).1.ids := by
  cases hn : s.map.lookup g with
  | some c =>
    rw [get_old hn]
    exact ⟨h, h.sound g c hn, List.prefix_refl _⟩
  | none =>
    have hnm : g ∉ s.ids := fun hm => h.cover g hm hn
    have hnd : (g :: s.ids).Nodup := List.nodup_cons.2 ⟨hnm, h.nodup⟩
    -- a new glyph: `uint16(len(IDs))` does not wrap
    rw [Sub.get, hn, Nat.mod_eq_of_lt (Canvas.nodup_bounded_length 65536 (g :: s.ids) hnd (List.forall_mem_cons.2 ⟨hg, h.bound⟩))]
    refine ⟨⟨fun g' c => ?_, fun g' hm => ?_, ?_, ?_⟩, List.getElem?_concat_length, List.prefix_append _ _⟩
    · rw [List.lookup_cons]
      split
      · next hgg =>
        rw [eq_of_beq hgg]
        exact fun hc => Option.some.inj hc ▸ List.getElem?_concat_length
      · exact fun hc => Canvas.getElem?_of_prefix (List.prefix_append _ _) (h.sound g' c hc)
    · rw [List.lookup_cons]
      split
      · nofun
      · next hgg =>
        have : g' ≠ g := ne_of_beq_false hgg
        exact h.cover g' ((List.mem_append.1 hm).resolve_right fun hm => this (List.mem_singleton.1 hm))
    · exact (List.perm_append_singleton g s.ids).nodup_iff.2 hnd
    · exact Canvas.forall_mem_snoc h.bound hg

/-- `NewFontSubsetter` is the empty subsetter after `Get(0)` -/
theorem inv_new : Inv Sub.new :=
  (get_spec (s := ⟨[], []⟩) ⟨nofun, nofun, List.nodup_nil, nofun⟩ (g := 0) (by decide)).1

structure RunSpec (s : Sub) (h : List Nat) : Prop where
  inv : Inv (s.run h).1
  grows : s.ids <+: (s.run h).1.ids
  length : (s.run h).2.length = h.length
  ids_get : ∀ p ∈ h.zip (s.run h).2, (s.run h).1.ids[p.2]? = some p.1

theorem run_spec : ∀ (h : List Nat) (s : Sub), Inv s → (∀ g ∈ h, g < 65536) → RunSpec s h := by
  intro h
  induction h with
  | nil => exact fun s hs _ => ⟨hs, List.prefix_refl _, rfl, nofun⟩
  | cons g h ih =>
    intro s hs hb
    obtain ⟨hg, hh⟩ := List.forall_mem_cons.1 hb
    obtain ⟨i1, i2, i3⟩ := get_spec hs hg
    have r := ih (s.get g).1 i1 hh
    refine ⟨r.inv, i3.trans r.grows, congrArg (· + 1) r.length, fun p hp => ?_⟩
    rcases List.mem_cons.1 hp with rfl | hp
    · exact Canvas.getElem?_of_prefix r.grows i2
    · exact r.ids_get p hp

end C18L
