import CanvasProofs.Lemmas.C12
/-!
C12, PostScript: each `set*` of the PS state cache and each painting operator as a step of the interpreter
from the state the cache claims, with an arbitrary current path (`SStep`); a `PS.RenderPath` call is a chain
of such steps, from which both the cache invariant and the refinement of the reference are read off.
-/
namespace Canvas.C12
section
variable {ν : Type} {N : Num ν}

def sgC (N : Num ν) (w : SW ν) (c : List PathRef) : SG ν := { sgOf N w with cur := c }

def SSim (N : Num ν) (a : SAct ν) (w : SW ν) (c c' : List PathRef) : Prop :=
  (psRun (sgC N w c) (a w).2).1 = sgC N (a w).1 c'

def SSimO (N : Num ν) (a : SAct ν) (w : SW ν) (c c' : List PathRef) (out : List (Painted ν)) : Prop :=
  psRun (sgC N w c) (a w).2 = (sgC N (a w).1 c', out)

/-- as `SSimO`, naming the cache `a` leaves, so that a chain of steps threads the caches by unification -/
def SStep (N : Num ν) (a : SAct ν) (w : SW ν) (c : List PathRef) (w' : SW ν) (c' : List PathRef)
    (out : List (Painted ν)) : Prop :=
  (a w).1 = w' ∧ psRun (sgC N w c) (a w).2 = (sgC N w' c', out)

theorem SAct.seq_append (as bs : List (SAct ν)) (w : SW ν) :
    SAct.seq (as ++ bs) w =
      ((SAct.seq bs (SAct.seq as w).1).1, (SAct.seq as w).2 ++ (SAct.seq bs (SAct.seq as w).1).2) := by
  induction as generalizing w with
  | nil => simp [SAct.seq]
  | cons a as ih => simp [SAct.seq, ih, List.append_assoc]

theorem SSim.append {as bs : List (SAct ν)} {w : SW ν} {c c' c'' : List PathRef}
    (h1 : SSim N (SAct.seq as) w c c') (h2 : SSim N (SAct.seq bs) (SAct.seq as w).1 c' c'') :
    SSim N (SAct.seq (as ++ bs)) w c c'' := by
  unfold SSim at *
  simp [SAct.seq_append, psRun_append, h1, h2]

theorem SSimO.append {as bs : List (SAct ν)} {w : SW ν} {c c' c'' : List PathRef} {o1 o2 : List (Painted ν)}
    (h1 : SSimO N (SAct.seq as) w c c' o1) (h2 : SSimO N (SAct.seq bs) (SAct.seq as w).1 c' c'' o2) :
    SSimO N (SAct.seq (as ++ bs)) w c c'' (o1 ++ o2) := by
  unfold SSimO at *
  simp [SAct.seq_append, psRun_append, h1, h2]

theorem SSimO.sim {a : SAct ν} {w : SW ν} {c c' : List PathRef} {out : List (Painted ν)}
    (h : SSimO N a w c c' out) : SSim N a w c c' := by
  unfold SSim
  rw [h]

theorem SStep.simO {a : SAct ν} {w w' : SW ν} {c c' : List PathRef} {out : List (Painted ν)}
    (h : SStep N a w c w' c' out) : SSimO N a w c c' out := by
  obtain ⟨rfl, h⟩ := h
  exact h

theorem SStep.nil (w : SW ν) (c : List PathRef) : SStep N (SAct.seq []) w c w c [] := ⟨rfl, rfl⟩

theorem SStep.cons {a : SAct ν} {as : List (SAct ν)} {w w1 w2 : SW ν} {c c1 c2 : List PathRef}
    {o1 o2 : List (Painted ν)} (h1 : SStep N a w c w1 c1 o1) (h2 : SStep N (SAct.seq as) w1 c1 w2 c2 o2) :
    SStep N (SAct.seq (a :: as)) w c w2 c2 (o1 ++ o2) := by
  obtain ⟨rfl, h1⟩ := h1
  obtain ⟨rfl, h2⟩ := h2
  exact ⟨rfl, by simp [SAct.seq, psRun_append, h1, h2]⟩

theorem SStep.single {a : SAct ν} {w w' : SW ν} {c c' : List PathRef} {out : List (Painted ν)}
    (h : SStep N a w c w' c' out) : SStep N (SAct.seq [a]) w c w' c' out := by
  have := SStep.cons h (SStep.nil w' c')
  rwa [List.append_nil] at this

theorem colorOp_col (t : Nat × Nat × Nat) (g : SG ν) : psStep g (colorOp t) = ({ g with col := t }, []) := by
  obtain ⟨a, b, c⟩ := t
  unfold colorOp
  split
  · rename_i h
    obtain ⟨rfl, rfl⟩ : a = b ∧ a = c := by simpa using h
    rfl
  · rfl

theorem setPaint_step (p : Paint) {w : SW ν} {c : List PathRef} :
    SStep N (setPaint p) w c { w with paint := p } c [] := by
  unfold SStep setPaint
  split
  · rename_i h
    obtain ⟨rfl, -⟩ := (Paint.eq_iff _ _).1 h
    exact ⟨rfl, rfl⟩
  · refine ⟨rfl, ?_⟩
    split
    · simp only [psRun, colorOp_col]
      rfl
    · rename_i h
      have he : p.nrgb = w.paint.nrgb := by simpa using h
      simp only [psRun, sgC, sgOf, he]

theorem psSetLineWidth_step (L : Lawful N) {x : ν} (hx : N.beq x N.zero = false) {w : SW ν} {c : List PathRef} :
    SStep N (psSetLineWidth N x) w c { w with lw := x } c [] := by
  unfold SStep psSetLineWidth
  split
  · refine ⟨rfl, ?_⟩
    simp only [sgC, sgOf, hx]
    rfl
  · rename_i h
    obtain rfl : x = w.lw := (L.beq_iff _ _).1 (by simpa using h)
    exact ⟨rfl, rfl⟩

theorem psSetMiterLimit_sim (x : ν) (w : SW ν) (c : List PathRef) : SSim N (psSetMiterLimit N x) w c c := by
  unfold SSim psSetMiterLimit
  split <;> rfl

theorem psSetLineCap_step (k : Nat) {w : SW ν} {c : List PathRef} :
    SStep N (psSetLineCap k) w c { w with cap := some k } c [] := by
  obtain ⟨pt, lw, ml, cp, jn, off, ds⟩ := w
  unfold SStep psSetLineCap
  split
  · exact ⟨rfl, rfl⟩
  · rename_i h
    obtain rfl : cp = some k := by simpa using h
    exact ⟨rfl, rfl⟩

theorem psSetLineJoin_step (jn : Join ν) (hj : jn.pdfOk = true) {w : SW ν} {c : List PathRef} :
    SStep N (psSetLineJoin N jn) w c (psSetLineJoin N jn w).1 c [] := by
  refine ⟨rfl, ?_⟩
  unfold psSetLineJoin
  split
  · rcases Join.pdfOk_cases hj with rfl | rfl | ⟨l, rfl⟩
    · rfl
    · rfl
    · simp only [psSetMiterLimit]
      split <;> rfl
  · rfl

theorem psSetDashes_step (L : Lawful N) (o : ν) (a : List ν) {w : SW ν} {c : List PathRef} :
    SStep N (psSetDashes N o a) w c { w with off := o, dashes := a } c [] := by
  unfold SStep psSetDashes
  split
  · exact ⟨rfl, rfl⟩
  · rename_i h
    have h' : listBeq N a w.dashes = true ∧ N.beq o w.off = true := by simpa using h
    obtain rfl := (listBeq_iff L _ _).1 h'.1
    obtain rfl := (L.beq_iff _ _).1 h'.2
    exact ⟨rfl, rfl⟩

theorem path_step (p : PathRef) {w : SW ν} {c : List PathRef} : SStep N (ssay [.path p]) w c w (c ++ [p]) [] :=
  ⟨rfl, rfl⟩

def psFillItem (w : SW ν) (c : List PathRef) (eo : Bool) : List (Painted ν) :=
  if c.isEmpty then [] else [.fill c eo (psShade w.paint.nrgb) 255]

def psStrokeItem (N : Num ν) (w : SW ν) (c : List PathRef) : List (Painted ν) :=
  if c.isEmpty then [] else
  [.stroke c false (psShade w.paint.nrgb) 255 (sgOf N w).lw (sgOf N w).cap (sgOf N w).join
    (if (sgOf N w).join == 0 then some (sgOf N w).ml else none) w.dashes w.off]

theorem psStep_fill (g : SG ν) (eo : Bool) :
    psStep g (if eo then SOp.eofill else SOp.fill) =
      ({ g with cur := [] }, if g.cur.isEmpty then [] else [.fill g.cur eo (psShade g.col) 255]) := by
  cases eo <;> (show (if g.cur.isEmpty then _ else _) = _) <;> split <;> rfl

/-- `gsave fill grestore`: paints and gives the path back -/
theorem gsave_fill_grestore_step (eo : Bool) {w : SW ν} {c : List PathRef} :
    SStep N (ssay [.gsave, (if eo then SOp.eofill else SOp.fill), .grestore]) w c w c (psFillItem w c eo) := by
  refine ⟨rfl, ?_⟩
  simp only [ssay, psRun, psStep_fill, List.append_nil]
  refine Prod.ext rfl ?_
  show [] ++ (psFillItem w c eo ++ []) = _
  rw [List.nil_append, List.append_nil]

theorem fill_step (eo : Bool) {w : SW ν} {c : List PathRef} :
    SStep N (ssay [if eo then SOp.eofill else SOp.fill]) w c w [] (psFillItem w c eo) := by
  refine ⟨rfl, ?_⟩
  simp only [ssay, psRun, psStep_fill, List.append_nil]
  rfl

theorem psStep_stroke (g : SG ν) :
    psStep g .stroke = ({ g with cur := [] }, if g.cur.isEmpty then [] else
      [.stroke g.cur false (psShade g.col) 255 g.lw g.cap g.join (if g.join == 0 then some g.ml else none) g.dash g.off]) := by
  show (if g.cur.isEmpty then _ else _) = _
  split <;> rfl

theorem stroke_step {w : SW ν} {c : List PathRef} : SStep N (ssay [.stroke]) w c w [] (psStrokeItem N w c) := by
  refine ⟨rfl, ?_⟩
  simp only [ssay, psRun, psStep_stroke, List.append_nil]
  rfl

theorem optBeq_eq (L : Lawful N) : ∀ {a b : Option ν}, optBeq N a b = true → a = b
  | some _, some _, h => congrArg some ((L.beq_iff _ _).1 h)
  | none, _, h => nomatch h
  | some _, none, h => nomatch h

theorem Join.beq_eq (L : Lawful N) {a b : Join ν} (h : Join.beq N a b = true) : a = b := by
  cases a <;> cases b <;> simp_all [Join.beq]
  case miter.miter => exact optBeq_eq L h.2
  case arcs.arcs => exact optBeq_eq L h.2

/-- cache well-formedness: a cached miter join has its limit cached as the miter limit -/
def PSWF (w : SW ν) : Prop := ∀ g l, w.join = some (.miter g (some l)) → w.ml = l

theorem psSetLineJoin_w (L : Lawful N) (jn : Join ν) (hj : jn.pdfOk = true) (w : SW ν) (hw : PSWF w) :
    (psSetLineJoin N jn w).1 =
      { w with join := some jn, ml := (match joinLimit jn with | some l => l | none => w.ml) } := by
  obtain ⟨pt, lw, ml, cp, j0, off, ds⟩ := w
  unfold psSetLineJoin
  split
  · rcases Join.pdfOk_cases hj with rfl | rfl | ⟨l, rfl⟩
    · rfl
    · rfl
    · simp only [psSetMiterLimit]
      split
      · rfl
      · rename_i h
        obtain rfl : l = ml := (L.beq_iff _ _).1 (by simpa using h)
        rfl
  · rename_i h
    cases j0 with
    | none => simp [joinBeqOpt] at h
    | some j' =>
      obtain rfl : jn = j' := Join.beq_eq L (by simpa [joinBeqOpt] using h)
      rcases Join.pdfOk_cases hj with rfl | rfl | ⟨l, rfl⟩
      · rfl
      · rfl
      · obtain rfl : ml = l := hw 0 l rfl
        rfl

def psStrokeTail (N : Num ν) (d : Draw ν) : List (SAct ν) :=
  [setPaint d.stroke, psSetLineWidth N (d.w' N d.join.pdfOk), psSetLineCap d.cap, psSetLineJoin N d.join,
   psSetDashes N (d.off' N d.join.pdfOk) (d.dashes' N d.join.pdfOk), ssay [.stroke]]

/-- the cache the stroke tail leaves; the one setter whose cache has a closed form only from a well-formed cache
(`psSetLineJoin_w`) is left standing -/
def psTailRun (N : Num ν) (d : Draw ν) (w : SW ν) : SW ν :=
  { (psSetLineJoin N d.join { w with paint := d.stroke, lw := d.w' N d.join.pdfOk, cap := some d.cap }).1 with
    off := d.off' N d.join.pdfOk, dashes := d.dashes' N d.join.pdfOk }

theorem psStrokeTail_step (L : Lawful N) (d : Draw ν) (w : SW ν) (c : List PathRef)
    (hx : N.beq (d.w' N d.join.pdfOk) N.zero = false) (hj : d.join.pdfOk = true) :
    SStep N (SAct.seq (psStrokeTail N d)) w c (psTailRun N d w) [] (psStrokeItem N (psTailRun N d w) c) :=
  SStep.cons (setPaint_step d.stroke)
    (SStep.cons (psSetLineWidth_step L hx)
      (SStep.cons (psSetLineCap_step d.cap)
        (SStep.cons (psSetLineJoin_step d.join hj)
          (SStep.cons (psSetDashes_step L (d.off' N d.join.pdfOk) (d.dashes' N d.join.pdfOk))
            stroke_step.single))))

def psTailCache (N : Num ν) (d : Draw ν) (w : SW ν) : SW ν :=
  { paint := d.stroke, lw := d.w' N d.join.pdfOk, ml := (match joinLimit d.join with | some l => l | none => w.ml),
    cap := some d.cap, join := some d.join, off := d.off' N d.join.pdfOk, dashes := d.dashes' N d.join.pdfOk }

theorem psTailCache_wf (d : Draw ν) (w : SW ν) : PSWF (psTailCache N d w) := by
  intro g l h
  obtain h : d.join = .miter g (some l) := by simpa [psTailCache] using h
  simp [psTailCache, h, joinLimit]

theorem psTailRun_eq (L : Lawful N) (d : Draw ν) (hj : d.join.pdfOk = true) (w : SW ν) (hw : PSWF w) :
    psTailRun N d w = psTailCache N d w := by
  unfold psTailRun
  rw [psSetLineJoin_w L d.join hj]
  · rfl
  · exact hw

theorem psStrokeItem_tail (d : Draw ν) (hx : N.beq (d.w' N d.join.pdfOk) N.zero = false) (hj : d.join.pdfOk = true)
    (w : SW ν) (p : PathRef) :
    psStrokeItem N (psTailCache N d w) [p] =
      [.stroke [p] false (psShade d.stroke.nrgb) 255 (d.w' N d.join.pdfOk) d.cap (joinCode d.join) (joinLimit d.join)
        (d.dashes' N d.join.pdfOk) (d.off' N d.join.pdfOk)] := by
  rw [hj] at hx ⊢
  rcases Join.pdfOk_cases hj with h | h | ⟨l, h⟩ <;>
    simp [psStrokeItem, psTailCache, sgOf, hx, h, Join.pdfOk, psJoinCode, joinCode, joinLimit]

theorem psOutline_step (s : Paint) {r : PathRef} {oe : Bool} {w : SW ν} :
    SStep N (SAct.seq ((if oe then [] else [ssay [.path r]]) ++ [setPaint s, ssay [.fill]])) w [] { w with paint := s } []
      (if oe then [] else [.fill [r] false (psShade s.nrgb) 255]) := by
  cases oe
  · exact SStep.cons (path_step r) (SStep.cons (setPaint_step s) (fill_step false).single)
  · exact SStep.cons (setPaint_step s) (fill_step false).single

theorem sg0_eq (L : Lawful N) : sg0 N = sgOf N (sw0 N) := by
  -- `sgOf` reads a cached line width `== 0` as "never set": of the initial cache that is true only if `0 == 0`
  simp [sg0, sgOf, sw0, Paint.nrgb, psJoinCode, L.beq_refl]

/-- paints PostScript can express (the back-end has no gradient support) -/
def Paint.noGrad : Paint → Prop
  | .grad _ => False
  | _ => True

theorem psOpaque_fill (p : Paint) (hg : p.noGrad) (r : List PathRef) (eo : Bool) :
    psOpaque (Painted.fill (ν := ν) r eo (shadeOf p) p.alpha) = .fill r eo (psShade p.nrgb) 255 := by
  cases p with
  | grad i => exact absurd hg id
  | none => simp [psOpaque, shadeOf, psShade, Paint.nrgb, unpremul]
  | col c => simp [psOpaque, shadeOf, psShade, Paint.nrgb]

theorem psOpaque_stroke (p : Paint) (hg : p.noGrad) (r : List PathRef) (cl : Bool) (lw : ν) (k j : Nat) (ml : Option ν)
    (da : List ν) (ph : ν) :
    psOpaque (Painted.stroke r cl (shadeOf p) p.alpha lw k j ml da ph) = .stroke r false (psShade p.nrgb) 255 lw k j ml da ph := by
  cases p with
  | grad i => exact absurd hg id
  | none => simp [psOpaque, shadeOf, psShade, Paint.nrgb, unpremul]
  | col c => simp [psOpaque, shadeOf, psShade, Paint.nrgb]

/-- a `PS.RenderPath` call as one step, from any cache; from a well-formed cache it leaves a well-formed one and,
without gradient paints, the items are those of `psRef` -/
theorem psDraw_step (L : Lawful N) (d : Draw ν) (w : SW ν) :
    ∃ w' out, SStep N (psDraw N d) w [] w' [] out ∧
      (PSWF w → PSWF w' ∧ (d.fill.noGrad → d.stroke.noGrad → psRef N d = out)) := by
  cases hs : d.hasStroke N d.join.pdfOk
  · cases hf : d.hasFill
    · simp only [psDraw, psRef, refPaint, hs, hf, Bool.or_false, Bool.false_and, Bool.false_eq_true, if_false,
        List.append_nil, List.map_nil]
      exact ⟨_, _, SStep.nil w [], fun hw => ⟨hw, fun _ _ => rfl⟩⟩
    · simp only [psDraw, psRef, refPaint, hs, hf, Bool.or_false, Bool.false_and, if_true, Bool.false_eq_true,
        if_false, List.cons_append, List.nil_append, List.append_nil, List.map_cons, List.map_nil]
      refine ⟨_, _, SStep.cons (path_step _) (SStep.cons (setPaint_step d.fill) (fill_step d.evenOdd).single),
        fun hw => ⟨hw, fun gf _ => ?_⟩⟩
      rw [psOpaque_fill _ gf]
      rfl
  · cases hn : d.native d.join.pdfOk
    · cases hf : d.hasFill
      · simp only [psDraw, psRef, refPaint, hs, hn, hf, Bool.or_false, Bool.and_false, if_true,
          Bool.false_eq_true, if_false, List.nil_append, apply_ite (List.map psOpaque), List.map_cons, List.map_nil]
        refine ⟨_, _, psOutline_step d.stroke, fun hw => ⟨hw, fun _ gs => ?_⟩⟩
        rw [psOpaque_fill _ gs]
      · simp only [psDraw, psRef, refPaint, hs, hn, hf, Bool.or_false, Bool.and_false, if_true,
          Bool.false_eq_true, if_false, List.cons_append, List.nil_append, List.append_nil,
          apply_ite (List.map psOpaque), List.map_cons, List.map_nil]
        refine ⟨_, _, SStep.cons (path_step _) (SStep.cons (setPaint_step d.fill)
          (SStep.cons (fill_step d.evenOdd) (psOutline_step d.stroke))), fun hw => ⟨hw, fun gf gs => ?_⟩⟩
        rw [psOpaque_fill _ gf, psOpaque_fill _ gs]
        rfl
    · have hx := L.pos_ne_zero _ (Bool.and_eq_true_iff.1 hs).2
      have hj : d.join.pdfOk = true := (Bool.and_eq_true_iff.1 hn).1
      cases hf : d.hasFill
      · simp only [psDraw, psRef, refPaint, hs, hn, hf, Bool.false_or, Bool.and_self, if_true,
          Bool.false_eq_true, if_false, List.cons_append, List.nil_append, List.map_cons, List.map_nil]
        refine ⟨_, _, SStep.cons (path_step _) (psStrokeTail_step L d w [.orig d.pid] hx hj), fun hw => ?_⟩
        rw [psTailRun_eq L d hj w hw]
        refine ⟨psTailCache_wf d w, fun _ gs => ?_⟩
        rw [psStrokeItem_tail d hx hj, psOpaque_stroke _ gs]
        rfl
      · simp only [psDraw, psRef, refPaint, hs, hn, hf, Bool.or_self, Bool.and_self, if_true,
          List.cons_append, List.nil_append, List.map_cons, List.map_nil]
        refine ⟨_, _, SStep.cons (path_step _) (SStep.cons (setPaint_step d.fill)
          (SStep.cons (gsave_fill_grestore_step d.evenOdd) (psStrokeTail_step L d _ [.orig d.pid] hx hj))), fun hw => ?_⟩
        rw [psTailRun_eq L d hj { w with paint := d.fill } hw]
        refine ⟨psTailCache_wf d _, fun gf gs => ?_⟩
        rw [psStrokeItem_tail d hx hj, psOpaque_fill _ gf, psOpaque_stroke _ gs]
        rfl

end
end Canvas.C12
