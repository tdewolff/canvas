import CanvasProofs.Lemmas.C03Loop
/-! C03: a quadratic Bézier piece against its chord, the step rule of the repaired
`flattenQuadraticBezier` over the abstract field (`quadStepK`; the Float instance of the same rule is
`C03F.quadStep` in Drv/C03.lean, bit-exact correspondence with the code), and the edge of the
original curve that one step of the loop contributes.

With D = p1 − p0, A = D·D (`dd`) and turn = D·(p2 − p1) (`turnDot`) the cap hypothesis
`t·(A − turn) ≤ A` says that `R = A − t·(A − turn)` is nonnegative. Everything about the chord
C = B(t) − p0 of the piece `[0,t]` is an identity in `R` and `|B'(t)|²`. -/
set_option linter.unusedSectionVars false
namespace C03L
open Canvas Canvas.C03 GenK
variable {K : Type} [Field K] [LinearOrder K] [IsStrictOrderedRing K] [Env K]

theorem unit_prod_le_quarter {s : K} (h0 : 0 ≤ s) (h1 : s ≤ 1) : 0 ≤ s * (1 - s) ∧ s * (1 - s) ≤ 1 / 4 :=
  ⟨mul_nonneg h0 (sub_nonneg.mpr h1), by linarith [mul_self_nonneg (s - 1 / 2)]⟩

theorem affine_nonneg {a b t x : K} (h0 : 0 ≤ a) (ht : 0 ≤ a + t * b) (hx0 : 0 ≤ x) (hxt : x ≤ t) :
    0 ≤ a + x * b := by
  rcases le_total 0 b with hb | hb
  · exact add_nonneg h0 (mul_nonneg hx0 hb)
  · exact le_trans ht (add_le_add_right (mul_le_mul_of_nonpos_right hxt hb) a)

theorem abs_scaled_le (w : K) {s : K} (h0 : 0 ≤ s) (h1 : s ≤ 1) : |-(s * (1 - s)) * w| ≤ |w| / 4 := by
  obtain ⟨ha, hb⟩ := unit_prod_le_quarter h0 h1
  rw [abs_mul, abs_neg, abs_of_nonneg ha]
  linarith [mul_le_mul_of_nonneg_right hb (abs_nonneg w)]

theorem left_second_difference (p0 p1 p2 : Pt K) (t : K) :
    (quadL p0 p1 p2 t).1.x - 2 * (quadL p0 p1 p2 t).2.1.x + (quadL p0 p1 p2 t).2.2.x
        = t * t * (p0.x - 2 * p1.x + p2.x)
      ∧ (quadL p0 p1 p2 t).1.y - 2 * (quadL p0 p1 p2 t).2.1.y + (quadL p0 p1 p2 t).2.2.y
        = t * t * (p0.y - 2 * p1.y + p2.y) := by
  simp only [quadL, quadraticBezierSplit, Point.Interpolate]; constructor <;> ring

/-- the code's `s2nom` -/
def s2nom (p0 p1 p2 : Pt K) : K := Point.PerpDot (Point.Sub p1 p0) (Point.Sub p2 p0)

theorem cross_piece (p0 p1 p2 : Pt K) (t u : K) :
    Point.PerpDot (Point.Sub (quadraticBezierPos p0 p1 p2 (u * t)) p0) (Point.Sub (quadraticBezierPos p0 p1 p2 t) p0)
      = 2 * (u * (1 - u)) * (t * t * t) * s2nom p0 p1 p2 := by
  simp only [s2nom, quadraticBezierPos, Point.PerpDot, Point.Sub, Point.Mul, Point.Add]; ring

/-- the code's `turn`: negative iff the control polygon turns by more than 90° -/
def turnDot (p0 p1 p2 : Pt K) : K := Point.Dot (Point.Sub p1 p0) (Point.Sub p2 p1)
def dd (p0 p1 : Pt K) : K := Point.Dot (Point.Sub p1 p0) (Point.Sub p1 p0)

theorem dot_self_nonneg (v : Pt K) : 0 ≤ Point.Dot v v :=
  add_nonneg (mul_self_nonneg _) (mul_self_nonneg _)

theorem dd_nonneg (p0 p1 : Pt K) : 0 ≤ dd p0 p1 := dot_self_nonneg _

theorem cap_lt_one {A T : K} (hA : 0 ≤ A) (hT : T < 0) : A / (A - T) < 1 :=
  (div_lt_one (sub_pos.mpr (hT.trans_le hA))).mpr (lt_sub_iff_add_lt.mpr (add_lt_iff_neg_left.mpr hT))

/-- The two bounds of the code's step give the cap hypothesis: if the polygon turns by more than 90°
the step is at most `A/(A − T)`, otherwise any `t ≤ 1` will do. -/
theorem mul_sub_le_of_le_cap {A T t : K} (hA : 0 ≤ A) (ht0 : 0 ≤ t) (ht1 : t ≤ 1)
    (hmin : T < 0 → t ≤ A / (A - T)) : t * (A - T) ≤ A := by
  rcases lt_or_ge T 0 with h | h
  · have hpos : 0 < A - T := sub_pos.mpr (h.trans_le hA)
    exact (le_div_iff₀ hpos).mp (hmin h)
  · linarith [mul_le_of_le_one_left hA ht1, mul_nonneg ht0 h]

theorem deriv_dot_affine (p0 p1 p2 c : Pt K) (x : K) :
    Point.Dot (quadraticBezierDeriv p0 p1 p2 x) c
      = Point.Dot (quadraticBezierDeriv p0 p1 p2 0) c + x * Point.Dot (quadraticBezierDeriv2 p0 p1 p2) c := by
  simp only [quadraticBezierDeriv, quadraticBezierDeriv2, Point.Dot, Point.Mul, Point.Add]; ring

theorem deriv_zero_dot_chord (p0 p1 p2 : Pt K) (t : K) :
    Point.Dot (quadraticBezierDeriv p0 p1 p2 0) (Point.Sub (quadraticBezierPos p0 p1 p2 t) p0)
      = 2 * t * (dd p0 p1 + (dd p0 p1 - t * (dd p0 p1 - turnDot p0 p1 p2))) := by
  simp only [dd, turnDot, quadraticBezierDeriv, quadraticBezierPos, Point.Dot, Point.Sub, Point.Mul, Point.Add]; ring

theorem deriv_dot_chord (p0 p1 p2 : Pt K) (t : K) :
    2 * Point.Dot (quadraticBezierDeriv p0 p1 p2 t) (Point.Sub (quadraticBezierPos p0 p1 p2 t) p0)
      = t * (Point.Dot (quadraticBezierDeriv p0 p1 p2 t) (quadraticBezierDeriv p0 p1 p2 t)
          + 4 * (dd p0 p1 - t * (dd p0 p1 - turnDot p0 p1 p2))) := by
  simp only [dd, turnDot, quadraticBezierDeriv, quadraticBezierPos, Point.Dot, Point.Sub, Point.Mul, Point.Add]; ring

theorem chord_sq_sub (p0 p1 p2 : Pt K) (t : K) :
    4 * (Point.Dot (Point.Sub (quadraticBezierPos p0 p1 p2 t) p0) (Point.Sub (quadraticBezierPos p0 p1 p2 t) p0)
        - t * t * dd p0 p1)
      = t * t * (Point.Dot (quadraticBezierDeriv p0 p1 p2 t) (quadraticBezierDeriv p0 p1 p2 t)
          + 8 * (dd p0 p1 - t * (dd p0 p1 - turnDot p0 p1 p2))) := by
  simp only [dd, turnDot, quadraticBezierDeriv, quadraticBezierPos, Point.Dot, Point.Sub, Point.Mul, Point.Add]; ring

theorem chord_sq_ge {p0 p1 p2 : Pt K} {t : K}
    (hcap : t * (dd p0 p1 - turnDot p0 p1 p2) ≤ dd p0 p1) :
    t * t * dd p0 p1
      ≤ Point.Dot (Point.Sub (quadraticBezierPos p0 p1 p2 t) p0) (Point.Sub (quadraticBezierPos p0 p1 p2 t) p0) := by
  have h := mul_nonneg (mul_self_nonneg t) (add_nonneg (dot_self_nonneg (quadraticBezierDeriv p0 p1 p2 t))
    (mul_nonneg (by norm_num : (0 : K) ≤ 8) (sub_nonneg.mpr hcap)))
  rw [← chord_sq_sub] at h
  exact sub_nonneg.mp ((mul_nonneg_iff_of_pos_left (by norm_num)).mp h)

/-- the arithmetic of the 2·tol bound: cross = 2·w·t³·S with w = u(1−u) ≤ 1/4, the flatness step
t²·|S| ≤ 4·tol·d with d² = A, and a chord of squared length CC ≥ t²·A -/
theorem two_tol_of_step {w t S A d tol CC : K} (hw0 : 0 ≤ w) (hw : w ≤ 1 / 4) (hd2 : d * d = A)
    (hstep : t * t * |S| ≤ 4 * tol * d) (hch : t * t * A ≤ CC) :
    (2 * w * (t * t * t) * S) ^ 2 ≤ (2 * tol) ^ 2 * CC := by
  have hw2 : w ^ 2 ≤ (1 / 4) ^ 2 := pow_le_pow_left₀ hw0 hw 2
  have h4 : (0 : K) ≤ 4 * (t * t) := mul_nonneg (by norm_num) (mul_self_nonneg t)
  have hsq : (t * t * |S|) ^ 2 ≤ (4 * tol * d) ^ 2 :=
    pow_le_pow_left₀ (mul_nonneg (mul_self_nonneg t) (abs_nonneg S)) hstep 2
  calc (2 * w * (t * t * t) * S) ^ 2
      = 4 * (t * t) * w ^ 2 * (t * t * |S|) ^ 2 := by rw [mul_pow (t * t), sq_abs]; ring
    _ ≤ 4 * (t * t) * (1 / 4) ^ 2 * (4 * tol * d) ^ 2 :=
        mul_le_mul (mul_le_mul_of_nonneg_left hw2 h4) hsq (sq_nonneg _) (mul_nonneg h4 (sq_nonneg _))
    _ = (2 * tol) ^ 2 * (t * t * A) := by rw [← hd2]; ring
    _ ≤ (2 * tol) ^ 2 * CC := mul_le_mul_of_nonneg_left hch (sq_nonneg _)

/-- what the repaired step rule guarantees about a step `t` taken on the control polygon q:
`t ≤ 2·sqrt(tol·|denom/s2nom|)` (squared, with `denom = d`, `d² = |q1−q0|²`) and the 90° cap. -/
def StepOK (tol : K) (q0 q1 q2 : Pt K) (t : K) : Prop :=
  ∃ d : K, d * d = dd q0 q1 ∧ t * t * |s2nom q0 q1 q2| ≤ 4 * tol * d ∧ t * (dd q0 q1 - turnDot q0 q1 q2) ≤ dd q0 q1

theorem stepOK_degenerate (tol : K) (q0 q2 : Pt K) : StepOK tol q0 q0 q2 1 := by
  -- D = q0 − q0 = 0, so `dd`, `turnDot` and `s2nom` all vanish and d = 0 will do
  refine ⟨0, ?_, ?_, ?_⟩ <;> simp [dd, turnDot, s2nom, Point.Dot, Point.Sub, Point.PerpDot]

theorem piece_two_tol {tol t u : K} {p0 p1 p2 : Pt K} (hok : StepOK tol p0 p1 p2 t) (hu0 : 0 ≤ u) (hu1 : u ≤ 1) :
    (Point.PerpDot (Point.Sub (quadraticBezierPos p0 p1 p2 (u * t)) p0) (Point.Sub (quadraticBezierPos p0 p1 p2 t) p0)) ^ 2
      ≤ (2 * tol) ^ 2 * Point.Dot (Point.Sub (quadraticBezierPos p0 p1 p2 t) p0) (Point.Sub (quadraticBezierPos p0 p1 p2 t) p0) := by
  obtain ⟨d, hd2, hstep, hcap⟩ := hok
  obtain ⟨hw0, hw⟩ := unit_prod_le_quarter hu0 hu1
  rw [cross_piece]
  exact two_tol_of_step hw0 hw hd2 hstep (chord_sq_ge hcap)

/-- the curve between parameters a ≤ b stays within 2·tol of the chord line B(a)B(b) (squared form) -/
def pieceOK (tol : K) (p0 p1 p2 : Pt K) (a b : K) : Prop :=
  ∀ x : K, a ≤ x → x ≤ b →
    (Point.PerpDot (Point.Sub (quadraticBezierPos p0 p1 p2 x) (quadraticBezierPos p0 p1 p2 a))
        (Point.Sub (quadraticBezierPos p0 p1 p2 b) (quadraticBezierPos p0 p1 p2 a))) ^ 2
      ≤ (2 * tol) ^ 2 * Point.Dot (Point.Sub (quadraticBezierPos p0 p1 p2 b) (quadraticBezierPos p0 p1 p2 a))
          (Point.Sub (quadraticBezierPos p0 p1 p2 b) (quadraticBezierPos p0 p1 p2 a))

def chainOK (tol : K) (p0 p1 p2 : Pt K) : K → List K → Prop
  | a, [] => pieceOK tol p0 p1 p2 a 1
  | a, T :: Ts => pieceOK tol p0 p1 p2 a T ∧ chainOK tol p0 p1 p2 T Ts

theorem piece_of_current {tol : K} {p0 p1 p2 c0 c1 c2 : Pt K} {a t b : K}
    (ha1 : a < 1) (ht0 : 0 < t) (hb : b = a + (1 - a) * t)
    (hpos : OnTail (quadraticBezierPos p0 p1 p2) (quadraticBezierPos c0 c1 c2) a)
    (hok : StepOK tol c0 c1 c2 t) :
    pieceOK tol p0 p1 p2 a b := by
  intro x hx0 hx1
  obtain ⟨u, hu0, hu1, hx⟩ := hpos.front ha1 ht0 hx0 (hb ▸ hx1)
  rw [hx, ← hpos.start, quad_pos_zero, hb, ← hpos t, mul_comm t u]
  exact piece_two_tol hok hu0 hu1

/-- what the theorems assume about the square root and hypot of the environment -/
structure SqrtOK (K : Type) [Field K] [LinearOrder K] [IsStrictOrderedRing K] [Env K] : Prop where
  sqrt_nonneg : ∀ x : K, 0 ≤ Env.sqrt x
  sqrt_sq : ∀ x : K, 0 ≤ x → Env.sqrt x * Env.sqrt x = x
  hypot_nonneg : ∀ x y : K, 0 ≤ Env.hypot x y
  hypot_sq : ∀ x y : K, Env.hypot x y * Env.hypot x y = x * x + y * y

theorem SqrtOK.sqrt_pos (h : SqrtOK K) {x : K} (hx : 0 < x) : 0 < Env.sqrt x :=
  (h.sqrt_nonneg x).lt_of_ne fun h0 => hx.ne (by rw [← h.sqrt_sq x hx.le, ← h0, mul_zero])

/-- path_util.go:815-833 over K. `eqp` is `Point.Equals`; the float `+Inf` that the code obtains from
`denom/0` is the branch `s2 = 0` (no flatness bound). Returns `none` when the loop is left. -/
def quadStepK (tol : K) (eqp : Pt K → Pt K → Bool) (q0 q1 q2 : Pt K) : Option K :=
  if eqp q0 q1 then none else
    let D := Point.Sub q1 q0
    let denom := Env.hypot D.x D.y
    let s2 := Point.PerpDot D (Point.Sub q2 q0)
    let turn := Point.Dot D (Point.Sub q2 q1)
    let cap := Point.Dot D D / (Point.Dot D D - turn)
    if s2 = 0 then
      (if turn < 0 then some cap else none)
    else
      let t := 2 * Env.sqrt (tol * |denom / s2|)
      let t' := if turn < 0 then min t cap else t
      if 1 ≤ t' then none else some t'

theorem dd_pos_of_ne {q0 q1 : Pt K} (h : q0 ≠ q1) : 0 < dd q0 q1 := by
  refine lt_of_le_of_ne (dd_nonneg q0 q1) fun h0 => h ?_
  obtain ⟨hx, hy⟩ := (add_eq_zero_iff_of_nonneg (mul_self_nonneg _) (mul_self_nonneg _)).mp h0.symm
  cases q0; cases q1
  rw [Pt.mk.injEq]
  exact ⟨(sub_eq_zero.mp (mul_self_eq_zero.mp hx)).symm, (sub_eq_zero.mp (mul_self_eq_zero.mp hy)).symm⟩

theorem sq_mul_abs_le_of_le_sqrt (h : SqrtOK K) {tol d s2 t : K} (htol : 0 ≤ tol) (hd : 0 ≤ d) (ht0 : 0 ≤ t)
    (ht : s2 ≠ 0 → t ≤ 2 * Env.sqrt (tol * |d / s2|)) : t * t * |s2| ≤ 4 * tol * d := by
  rcases eq_or_ne s2 0 with rfl | hs
  · rw [abs_zero, mul_zero]
    exact mul_nonneg (mul_nonneg zero_le_four htol) hd
  · have h2 : |d / s2| * |s2| = d := by
      rw [abs_div, div_mul_cancel₀ _ (abs_pos.mpr hs).ne', abs_of_nonneg hd]
    calc t * t * |s2| ≤ 2 * Env.sqrt (tol * |d / s2|) * (2 * Env.sqrt (tol * |d / s2|)) * |s2| :=
          mul_le_mul_of_nonneg_right (mul_self_le_mul_self ht0 (ht hs)) (abs_nonneg _)
      _ = 4 * tol * (|d / s2| * |s2|) := by
          rw [mul_mul_mul_comm, h.sqrt_sq _ (mul_nonneg htol (abs_nonneg _))]; ring
      _ = 4 * tol * d := by rw [h2]

/-- a property of an optional step in the form the loop theorems ask for it -/
theorem some_eq_cases {Q : K → Prop} {R : Prop} {t₀ : K} (h : Q t₀) :
    (∀ t, some t₀ = some t → Q t) ∧ (some t₀ = none → R) :=
  ⟨fun _ ht => Option.some.inj ht ▸ h, fun hn => nomatch hn⟩

theorem none_eq_cases {Q : K → Prop} {R : Prop} (h : R) :
    (∀ t, (none : Option K) = some t → Q t) ∧ ((none : Option K) = none → R) :=
  ⟨fun _ ht => (nomatch ht), fun _ => h⟩

end C03L
