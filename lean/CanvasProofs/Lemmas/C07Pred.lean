import CanvasProofs.Lemmas.C07Basics

/-! # C07 helper lemmas: `IsTranslation`, `IsRigid` and `IsSimilarity` as conditions on the rows; adding a fixed
vector as a condition on the linear part, distance scaling as one on the rows too: `ortho_transpose` leads from
rows to columns and, read for the transposed matrix, back. -/
set_option linter.unusedSectionVars false
namespace C07
open Canvas Canvas.C07 GenK

variable {K : Type} [Field K] [LinearOrder K] [IsStrictOrderedRing K] [Env K]

def dist2 (p q : Pt K) : K := (p.x - q.x) * (p.x - q.x) + (p.y - q.y) * (p.y - q.y)

theorem ortho_transpose {a b d e k : K} (hk1 : a * a + b * b = k) (hk2 : d * d + e * e = k) (h3 : a * d + b * e = 0) :
    a * a + d * d = k ∧ b * b + e * e = k ∧ a * b + d * e = 0 := by
  by_cases hk : k = 0
  · subst hk
    obtain ⟨rfl, rfl⟩ := mul_self_add_mul_self_eq_zero.mp hk1
    obtain ⟨rfl, rfl⟩ := mul_self_add_mul_self_eq_zero.mp hk2
    simp
  · -- `(ad)² = (be)²` with `a² = k - b²` and `e² = k - d²` put in is `k·d² = k·b²`; rows and columns then have the same squares
    have hbd : b * b = d * d :=
      mul_left_cancel₀ hk (by linear_combination (b * e - a * d) * h3 - b * b * hk2 + d * d * hk1)
    refine ⟨by linear_combination hk1 - hbd, by linear_combination hk2 + hbd, mul_left_cancel₀ hk ?_⟩
    -- `k·(ab + de) = ab·(d² + e²) + de·(a² + b²) = (ad + be)·(ae + bd)`
    linear_combination (a * e + b * d) * h3 - a * b * hk2 - d * e * hk1

/-- the scaling condition reads off the columns (`MᵀM = k`), `Matrix.IsRigid` and `IsSimilarity` test the rows -/
theorem scales_iff_rows (m : Mat K) (k : K) :
    (∀ p q : Pt K, dist2 (Matrix.Dot m p) (Matrix.Dot m q) = k * dist2 p q) ↔
      (m.a * m.a + m.b * m.b = k ∧ m.d * m.d + m.e * m.e = k ∧ m.a * m.d + m.b * m.e = 0) := by
  -- both sides only see the difference `(x, y)` of the two points: `|M(x,y)|² = k·(x² + y²)`
  have key : ∀ p q : Pt K, dist2 (Matrix.Dot m p) (Matrix.Dot m q) - k * dist2 p q =
      (m.a * m.a + m.d * m.d - k) * ((p.x - q.x) * (p.x - q.x)) + (m.b * m.b + m.e * m.e - k) * ((p.y - q.y) * (p.y - q.y)) +
        2 * (m.a * m.b + m.d * m.e) * ((p.x - q.x) * (p.y - q.y)) := by
    intro p q; simp only [dist2, Matrix.Dot]; ring
  constructor
  · intro h
    have e1 := key ⟨1, 0⟩ ⟨0, 0⟩
    have e2 := key ⟨0, 1⟩ ⟨0, 0⟩
    have e3 := key ⟨1, 1⟩ ⟨0, 0⟩
    rw [h, sub_self] at e1 e2 e3
    simp only [sub_zero, mul_one, mul_zero, add_zero, zero_add] at e1 e2 e3
    exact ortho_transpose (by linear_combination -e1) (by linear_combination -e2)
      (by linear_combination (1 / 2 : K) * (e1 + e2 - e3))
  · rintro ⟨h1, h2, h3⟩ p q
    obtain ⟨g1, g2, g3⟩ := ortho_transpose h1 h2 h3
    rw [← sub_eq_zero, key, g1, g2, g3]; ring

theorem isRigid_iff_rows (h0 : (Env.epsilon : K) = 0) (m : Mat K) :
    Matrix.IsRigid m = true ↔ (m.a * m.a + m.b * m.b = 1 ∧ m.d * m.d + m.e * m.e = 1 ∧ m.a * m.d + m.b * m.e = 0) := by
  simp only [Matrix.IsRigid, decide_eq_true_iff, equal_iff_eq h0, and_assoc]

theorem isSimilarity_iff_rows (h0 : (Env.epsilon : K) = 0) (m : Mat K) :
    Matrix.IsSimilarity m = true ↔ (m.a * m.a + m.b * m.b = m.d * m.d + m.e * m.e ∧ m.a * m.d + m.b * m.e = 0) := by
  simp only [Matrix.IsSimilarity, decide_eq_true_iff, equal_iff_eq h0]

theorem translates_iff (m : Mat K) :
    (∀ p : Pt K, Matrix.Dot m p = Pt.mk (p.x + m.c) (p.y + m.f)) ↔ (m.a = 1 ∧ m.b = 0 ∧ m.d = 0 ∧ m.e = 1) := by
  constructor
  · intro h
    have e1 := h ⟨1, 0⟩
    have e2 := h ⟨0, 1⟩
    simp only [Matrix.Dot, Pt.mk.injEq, mul_one, mul_zero, add_zero, zero_add, add_left_inj, add_eq_right] at e1 e2
    exact ⟨e1.1, e2.1, e1.2, e2.2⟩
  · rintro ⟨h1, h2, h3, h4⟩ p
    simp only [Matrix.Dot, h1, h2, h3, h4, one_mul, zero_mul, add_zero, zero_add]

theorem isTranslation_iff_rows (h0 : (Env.epsilon : K) = 0) (m : Mat K) :
    Matrix.IsTranslation m = true ↔ (m.a = 1 ∧ m.b = 0 ∧ m.d = 0 ∧ m.e = 1) := by
  simp only [Matrix.IsTranslation, decide_eq_true_iff, equal_iff_eq h0, and_assoc]
end C07
