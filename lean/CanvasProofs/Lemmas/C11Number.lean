import CanvasModel.C11.Number
import CanvasProofs.Lemmas.C11Parse
/-! The lexer model reads a decimal numeral exactly: while the digits' value stays below 2^64 the
digit loop `scanMant` truncates nothing, and `scan_of_mant` reads `scan`'s answer off the `Mant` the
loop ends in.  On any bytes it reports no more than it was given (`lexFloat_bounded`: the hypothesis
`LexBounded` of `C11Parse`, for the modelled lexer). -/
namespace C11L
open Canvas.C11

def AllDigits (ds : List Nat) : Prop := ∀ c ∈ ds, isDigit c = true

/-- what may follow a numeral without being absorbed into it -/
def Stops (rest : List Nat) : Prop :=
  ∀ c, rest.head? = some c → isDigit c = false ∧ c ≠ 46 ∧ c ≠ 101 ∧ c ≠ 69

/-- what ends a run of digits: behind the digits of an exponent, and behind a fraction, where an
exponent may follow -/
def StopsDigits (rest : List Nat) : Prop := ∀ c, rest.head? = some c → isDigit c = false

theorem Stops.digits {rest : List Nat} (h : Stops rest) : StopsDigits rest := fun c hc => (h c hc).1

theorem digitsVal_ge (ds : List Nat) : ∀ m, m ≤ digitsVal ds m := by
  induction ds with
  | nil => intro m; simp [digitsVal]
  | cons d ds ih =>
    intro m
    simp only [digitsVal]
    have := ih (m * 10 + (d - 48))
    omega

theorem digitsVal_append (a b : List Nat) : ∀ m, digitsVal (a ++ b) m = digitsVal b (digitsVal a m) := by
  induction a with
  | nil => intro m; simp [digitsVal]
  | cons c cs ih => intro m; simp [digitsVal, ih]

theorem isDigit_not_sign {c : Nat} (h : isDigit c = true) : c ≠ 43 ∧ c ≠ 45 := by
  simp [isDigit] at h; omega

theorem scanMant_digits (ds rest : List Nat) (hd : AllDigits ds) :
    ∀ (i : Nat) (dot : Option Nat) (n : Nat), digitsVal ds n < u64 →
      scanMant (ds ++ rest) i dot none n = scanMant rest (i + ds.length) dot none (digitsVal ds n) := by
  induction ds with
  | nil => intro i dot n _; simp [digitsVal]
  | cons c cs ih =>
    intro i dot n h
    obtain ⟨hc, hcs⟩ := List.forall_mem_cons.1 hd
    simp only [digitsVal] at h
    have hge := digitsVal_ge cs (n * 10 + (c - 48))
    have hn : ¬ (u64 - 1) / 10 < n := by unfold u64 at *; omega
    have hmod : (n * 10 + (c - 48)) % u64 = n * 10 + (c - 48) := Nat.mod_eq_of_lt (by omega)
    simp only [List.cons_append, scanMant, hc, if_true, hn, if_false, hmod, digitsVal]
    rw [ih hcs (i + 1) dot _ h, List.length_cons, Nat.add_right_comm, Nat.add_assoc]

theorem scanMant_dot (cs : List Nat) (i : Nat) (trunk : Option Nat) (n : Nat) :
    scanMant (46 :: cs) i none trunk n = scanMant cs (i + 1) (some i) trunk n := rfl

theorem scanMant_stop (rest : List Nat) (hs : StopsDigits rest) (i : Nat) (dot trunk : Option Nat) (n : Nat)
    (hdot : dot = none → rest.head? ≠ some 46) : scanMant rest i dot trunk n = ⟨i, dot, trunk, n⟩ := by
  cases rest with
  | nil => rfl
  | cons c cs =>
    cases dot with
    | none => simp [scanMant, hs c rfl, show c ≠ 46 by simpa using hdot rfl]
    | some d => simp [scanMant, hs c rfl]

/-- the exponent `scan` reads behind the mantissa: (value, bytes) -/
def expPart (after : List Nat) : Int × Nat :=
  match after with
  | c :: r => if c == 101 || c == 69 then
      let pi := parseInt r
      if 0 < pi.2 then (pi.1, 1 + pi.2) else (0, 0)
    else (0, 0)
  | [] => (0, 0)

/-- `scan` with its exponent part named.  Proofs about `scan` start here and do not unfold it: the `match`
on the bytes behind the mantissa inside `scan` and the one in `expPart` are two compiled copies, which
`rfl` identifies and `simp` does not. -/
theorem scan_eq (b : List Nat) :
    scan b =
      let sign := if b.head? == some 43 || b.head? == some 45 then 1 else 0
      let m := scanMant (b.drop sign) 0 none none 0
      let e := expPart ((b.drop sign).drop m.k)
      if m.k == 0 || (m.k == 1 && m.dot == some 0) then ⟨0, false, 0, 0, 0⟩
      else ⟨sign + m.k + e.2, b.head? == some 45, m.n,
        match m.dot, m.trunk with
        | some d, none => (m.k : Int) - d - 1
        | some d, some t => (t : Int) - d - 1
        | none, some t => (t : Int) - m.k
        | none, none => 0, e.1⟩ := rfl

theorem expPart_stops {rest : List Nat} (hs : Stops rest) : expPart rest = (0, 0) := by
  cases rest with
  | nil => rfl
  | cons c r => simp [expPart, (hs c rfl).2.2]

theorem expPart_exponent {ec : Nat} (hec : ec = 101 ∨ ec = 69) {body : List Nat} {ev : Int} {el : Nat}
    (hpi : parseInt body = (ev, el)) (hel : 0 < el) : expPart (ec :: body) = (ev, 1 + el) := by
  simp [expPart, hec, hpi, hel]

theorem scan_of_mant {s : List Nat} {k : Nat} {dot : Option Nat} {n : Nat}
    (hm : scanMant s 0 none none 0 = ⟨k, dot, none, n⟩) (hk : k ≠ 0) (hdot : dot = some 0 → k ≠ 1) :
    scan s = ⟨k + (expPart (s.drop k)).2, false, n, (match dot with | some d => (k : Int) - d - 1 | none => 0),
      (expPart (s.drop k)).1⟩ := by
  -- `s` has no sign in front: the digit loop would have stopped at it, with `k = 0`
  have hsign : ∀ c, c = 43 ∨ c = 45 → s.head? ≠ some c := by
    intro c hc hs
    cases s with
    | nil => cases hs
    | cons a cs =>
      cases hs
      rcases hc with rfl | rfl <;> exact hk (congrArg Mant.k hm).symm
  have h43 := hsign 43 (.inl rfl)
  have h45 := hsign 45 (.inr rfl)
  cases dot with
  | none => simp [scan_eq, hm, h43, h45, hk]
  | some d =>
    have h1 : ¬(k = 0 ∨ k = 1 ∧ d = 0) := fun h => h.elim hk fun h => hdot (h.2 ▸ rfl) h.1
    simp [scan_eq, hm, h43, h45, h1]

theorem scan_decimal (ip fp tl : List Nat) (hip : AllDigits ip) (hfp : AllDigits fp)
    (hne : ip ≠ [] ∨ fp ≠ []) (hv : digitsVal (ip ++ fp) 0 < u64) (htl : StopsDigits tl) :
    scan (ip ++ 46 :: (fp ++ tl)) = ⟨ip.length + 1 + fp.length + (expPart tl).2, false, digitsVal (ip ++ fp) 0,
      fp.length, (expPart tl).1⟩ := by
  have hv' : digitsVal fp (digitsVal ip 0) < u64 := by rw [← digitsVal_append]; exact hv
  have hvi : digitsVal ip 0 < u64 := Nat.lt_of_le_of_lt (digitsVal_ge fp _) hv'
  have hm : scanMant (ip ++ 46 :: (fp ++ tl)) 0 none none 0 =
      ⟨ip.length + 1 + fp.length, some ip.length, none, digitsVal (ip ++ fp) 0⟩ := by
    rw [scanMant_digits ip _ hip 0 none 0 hvi, scanMant_dot, scanMant_digits fp tl hfp _ _ _ hv',
      scanMant_stop tl htl _ _ _ _ (by simp), digitsVal_append, Nat.zero_add]
  have hdot : some ip.length = some 0 → ip.length + 1 + fp.length ≠ 1 := by
    have := hne.imp List.length_pos_iff.2 List.length_pos_iff.2
    simp; omega
  have hdrop : (ip ++ 46 :: (fp ++ tl)).drop (ip.length + 1 + fp.length) = tl := by
    rw [show ip ++ 46 :: (fp ++ tl) = (ip ++ 46 :: fp) ++ tl by simp, List.drop_left' (by simp; omega)]
  rw [scan_of_mant hm (by omega) hdot, hdrop]
  simp only [Scan.mk.injEq, true_and, and_true]
  omega

theorem scanIntDigits_digits (ds rest : List Nat) (hd : AllDigits ds) (hs : StopsDigits rest) :
    ∀ (i n : Nat), digitsVal ds n ≤ 9223372036854775807 →
      scanIntDigits (ds ++ rest) i n = some (i + ds.length, digitsVal ds n) := by
  induction ds with
  | nil =>
    intro i n _
    cases rest with
    | nil => simp [scanIntDigits, digitsVal]
    | cons c cs => simp [scanIntDigits, digitsVal, hs c rfl]
  | cons c cs ih =>
    intro i n h
    obtain ⟨hc, hcs⟩ := List.forall_mem_cons.1 hd
    simp only [digitsVal] at h
    have hge := digitsVal_ge cs (n * 10 + (c - 48))
    have hcond : ¬ ((9223372036854775808 / 10 < n || 9223372036854775808 - (c - 48) < n * 10) = true) := by
      simp only [Bool.or_eq_true, decide_eq_true_eq]
      omega
    simp only [List.cons_append, scanIntDigits, hc, if_true, hcond, digitsVal]
    rw [ih hcs (i + 1) _ h, List.length_cons, Nat.add_right_comm, Nat.add_assoc]
    rfl

theorem parseInt_digits (neg : Bool) (ed rest : List Nat) (hd : AllDigits ed) (hne : ed ≠ [])
    (hv : digitsVal ed 0 ≤ 9223372036854775807) (hs : StopsDigits rest) :
    parseInt ((if neg then [45] else []) ++ ed ++ rest) =
      ((if neg then -(digitsVal ed 0 : Int) else (digitsVal ed 0 : Int)), (if neg then 1 else 0) + ed.length) := by
  obtain ⟨c, cs, rfl⟩ := List.exists_cons_of_ne_nil hne
  have hc := isDigit_not_sign (hd c (by simp))
  have := scanIntDigits_digits (c :: cs) rest hd hs 0 0 hv
  simp only [List.cons_append] at this
  cases neg with
  | true =>
    simp [parseInt, this]
  | false =>
    simp [parseInt, hc, this, hv]

theorem scanMant_k (l : List Nat) : ∀ (i : Nat) (dot trunk : Option Nat) (n : Nat),
    (scanMant l i dot trunk n).k ≤ i + l.length := by
  induction l with
  | nil => intro i _ _ _; exact Nat.le_refl i
  | cons c cs ih =>
    intro i dot trunk n
    have hstep : ∀ d t m, (scanMant cs (i + 1) d t m).k ≤ i + (c :: cs).length := fun d t m =>
      Nat.le_trans (ih _ d t m) (by simp only [List.length_cons]; omega)
    unfold scanMant
    split
    · split
      · split <;> exact hstep _ _ _
      · exact hstep _ _ _
    · split
      · exact hstep _ _ _
      · exact Nat.le_add_right _ _

theorem scanIntDigits_k {l : List Nat} {i n k m : Nat} (h : scanIntDigits l i n = some (k, m)) :
    k ≤ i + l.length := by
  induction l generalizing i n with
  | nil => cases h; exact Nat.le_refl _
  | cons c cs ih =>
    unfold scanIntDigits at h
    split at h
    · split at h
      · cases h
      · have := ih h; simp only [List.length_cons]; omega
    · cases h; exact Nat.le_add_right _ _

/-- a sign counts only in front of at least one digit, which the slice behind the sign holds -/
theorem parseInt_len (b : List Nat) : (parseInt b).2 ≤ b.length := by
  unfold parseInt
  simp only []
  split
  · exact Nat.zero_le _
  · rename_i k n h
    have hk := scanIntDigits_k h
    simp only [List.length_drop, Nat.zero_add] at hk
    split
    · exact Nat.zero_le _
    · rename_i hk0
      simp only [beq_iff_eq] at hk0
      split
      · exact Nat.zero_le _
      · split <;> (simp only []; omega)

theorem expPart_len (after : List Nat) : (expPart after).2 ≤ after.length := by
  unfold expPart
  split
  · rename_i c r
    have hp := parseInt_len r
    split
    · simp only []
      split
      · simp only [List.length_cons]
        omega
      · exact Nat.zero_le _
    · exact Nat.zero_le _
  · exact Nat.zero_le _

theorem scan_len (b : List Nat) : (scan b).len ≤ b.length := by
  rw [scan_eq]
  extract_lets sign m e
  have hm : m.k ≤ _ := scanMant_k (b.drop sign) 0 none none 0
  have he : e.2 ≤ _ := expPart_len _
  simp only [List.length_drop, Nat.zero_add] at hm he
  split
  · exact Nat.zero_le _
  · -- at least one byte of mantissa was read, so the sign, if any, lies inside `b`
    rename_i hk0
    simp only [Bool.or_eq_true, beq_iff_eq, not_or] at hk0
    simp only []
    omega

theorem lexFloat_bounded : LexBounded lexFloat := by
  intro b
  unfold lexFloat
  simp only []
  split
  · simp
  · exact scan_len b

end C11L
