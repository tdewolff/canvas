import CanvasModel.C14
import Mathlib.Tactic.Linarith.Frontend
import Mathlib.Tactic.NormNum

namespace Canvas.C14

theorem truncQ_of_nonneg {q : Rat} (h : 0 ≤ q) : truncQ q = q.floor := if_pos h

theorem truncQ_of_neg {q : Rat} (h : q < 0) : truncQ q = q.ceil :=
  (if_neg (not_le.mpr h)).trans (Rat.ceil_eq_neg_floor_neg q).symm

theorem truncQ_nonneg_bounds {q : Rat} (h : 0 ≤ q) : ((truncQ q : Int) : Rat) ≤ q ∧ q < ((truncQ q : Int) : Rat) + 1 :=
  truncQ_of_nonneg h ▸ ⟨Rat.floor_le q, by simpa using Rat.lt_floor_add_one q⟩

theorem truncQ_neg_bounds {q : Rat} (h : q < 0) : q ≤ ((truncQ q : Int) : Rat) ∧ ((truncQ q : Int) : Rat) < q + 1 :=
  truncQ_of_neg h ▸ ⟨Rat.le_ceil, Rat.ceil_lt⟩

theorem truncQ_eq_of_nonneg {q : Rat} {n : Int} (h0 : 0 ≤ q) (h1 : (n : Rat) ≤ q) (h2 : q < (n : Rat) + 1) :
    truncQ q = n := by
  have a := Rat.le_floor_iff.mpr h1
  have b := Rat.floor_lt_iff.mpr (show q < ((n + 1 : Int) : Rat) by push_cast; exact h2)
  rw [truncQ_of_nonneg h0]
  omega

theorem truncQ_eq_of_neg {q : Rat} {n : Int} (h0 : q < 0) (h1 : q ≤ (n : Rat)) (h2 : (n : Rat) - 1 < q) :
    truncQ q = n := by
  have a := Rat.ceil_le_iff.mpr h1
  have b := Rat.lt_ceil_iff.mpr (show ((n - 1 : Int) : Rat) < q by push_cast; exact h2)
  rw [truncQ_of_neg h0]
  omega

theorem truncQ_intCast (i : Int) : truncQ (i : Rat) = i := by
  by_cases h : (0 : Rat) ≤ i
  · rw [truncQ_of_nonneg h, Rat.floor_intCast]
  · rw [truncQ_of_neg (not_le.mp h), Rat.ceil_intCast]

theorem truncQ_natCast_add_half (n : Nat) : truncQ ((n : Rat) + 1 / 2) = n := by
  have : (0 : Rat) ≤ (n : Rat) := n.cast_nonneg
  exact truncQ_eq_of_nonneg (by linarith) (by push_cast; linarith) (by push_cast; linarith)

theorem truncQ_nonneg_of_nonneg {q : Rat} (h : 0 ≤ q) : 0 ≤ truncQ q :=
  truncQ_of_nonneg h ▸ Rat.le_floor_iff.mpr (by simpa using h)

theorem truncQ_nonpos_of_neg {q : Rat} (h : q < 0) : truncQ q ≤ 0 :=
  truncQ_of_neg h ▸ Rat.ceil_le_iff.mpr (by simpa using h.le)

theorem truncQ_mono {a b : Rat} (hab : a ≤ b) : truncQ a ≤ truncQ b := by
  by_cases ha : 0 ≤ a
  · rw [truncQ_of_nonneg ha, truncQ_of_nonneg (le_trans ha hab)]
    exact Rat.floor_monotone hab
  · by_cases hb : 0 ≤ b
    · exact le_trans (truncQ_nonpos_of_neg (not_le.mp ha)) (truncQ_nonneg_of_nonneg hb)
    · rw [truncQ_of_neg (not_le.mp ha), truncQ_of_neg (not_le.mp hb)]
      exact Rat.ceil_le_iff.mpr (le_trans hab Rat.le_ceil)

theorem abs_truncQ_le (q : Rat) : |((truncQ q : Int) : Rat)| ≤ |q| := by
  by_cases h : 0 ≤ q
  · exact abs_le_abs_of_nonneg (by exact_mod_cast truncQ_nonneg_of_nonneg h) (truncQ_nonneg_bounds h).1
  · exact abs_le_abs_of_nonpos (by exact_mod_cast truncQ_nonpos_of_neg (not_le.mp h))
      (truncQ_neg_bounds (not_le.mp h)).1

theorem imageDim_mono {w d w' d' : Rat} (h : w * d ≤ w' * d') : imageDim w d ≤ imageDim w' d' :=
  truncQ_mono (by linarith)

theorem fixedPoint_nonneg {x : Rat} (h : 0 ≤ x) : 0 ≤ fixedPoint x :=
  truncQ_nonneg_of_nonneg (by linarith)

end Canvas.C14
