import CanvasModel.C02.Trace
import CanvasProofs.Lemmas.C02Column
import CanvasProofs.Lemmas.Basic
/-! Soundness of the trace-state checker: a chain accepted by `chainCheck` satisfies the invariant
`GoodS` of the column theory, the tracer's hole rule turns `resultWindings` parity into the
direction `resSW` that theory demands, and the cycle guard never fires on an acyclic chain. Core Lean only. -/
namespace Canvas.C02
open Canvas.C01 Canvas.Wn

theorem colSum_eq_sums {L : List (Seg × Fields)} (h : GoodS L) : colSum L = (sums L).1 := by
  induction L with
  | nil => rfl
  | cons e rest ih =>
    obtain ⟨s, f⟩ := e
    rw [sums_fst s f rest h.1, colSum, ih h.2.2]

/-- the checks of `entryCheck` in their order; the nesting checks at its end are left out (no
theorem uses them) -/
theorem entryCheck_none {r : Rule} {e : TEnt} {below : List TEnt} (h : entryCheck r e below = none) :
    e.seg.clipping = false ∧
    (e.overlapped = true → e.traced = false ∧ e.f.w = 0 ∧ e.f.sw = 0) ∧
    (e.overlapped = false → e.f.w = colSum (tpairs below) ∧ e.traced = keep r e.seg e.f ∧
      (e.traced = true → e.seg.open_ = false →
        (e.rw % 2 != 0) = r.fills (e.f.w + e.f.sw) ∧ (e.dir = 0 ∨ e.dir = resSW r e.f))) := by
  unfold entryCheck at h
  obtain ⟨hc, h⟩ := ite_some_eq_none.mp h
  refine ⟨by simpa using hc, fun ho => ?_, fun ho => ?_⟩
  · rw [ho, if_pos rfl] at h
    obtain ⟨hx, -⟩ := ite_some_eq_none.mp h
    simpa [and_assoc] using hx
  · rw [ho, if_neg Bool.false_ne_true] at h
    obtain ⟨h1, h⟩ := ite_some_eq_none.mp h
    obtain ⟨h2, h⟩ := ite_some_eq_none.mp h
    refine ⟨by simpa using h1, by simpa using h2, fun ht hop => ?_⟩
    rw [ht, hop, if_neg (by decide)] at h
    obtain ⟨h3, h⟩ := ite_some_eq_none.mp h
    obtain ⟨h4, -⟩ := ite_some_eq_none.mp h
    exact ⟨by simpa using h3, Decidable.or_iff_not_imp_left.mpr fun hd => by simpa [hd] using h4⟩

theorem chainCheck_cons (r : Rule) (e : TEnt) (below : List TEnt) :
    chainCheck r (e :: below) = none ↔ entryCheck r e below = none ∧ chainCheck r below = none := by
  simp only [chainCheck]
  cases entryCheck r e below <;> simp

theorem chainCheck_suffix {r : Rule} {pre L : List TEnt} (h : chainCheck r (pre ++ L) = none) :
    chainCheck r L = none := by
  induction pre with
  | nil => exact h
  | cons x pre ih => exact ih ((chainCheck_cons r x _).mp h).2

theorem chainCheck_goodS {r : Rule} {L : List TEnt} (h : chainCheck r L = none) : GoodS (tpairs L) := by
  induction L with
  | nil => trivial
  | cons e below ih =>
    obtain ⟨he, hb⟩ := (chainCheck_cons r e below).mp h
    obtain ⟨hc, habs, hlive⟩ := entryCheck_none he
    refine ⟨hc, ?_, ih hb⟩
    cases ho : e.overlapped
    · exact Or.inl ((hlive ho).1.trans (colSum_eq_sums (ih hb)))
    · exact Or.inr (Or.inl (habs ho).2.2)

theorem tracer_direction (d : Int) (right : Bool) :
    dirOfRW (tracerRW d right) = if finalRight d right then 1 else -1 := by
  unfold dirOfRW tracerRW finalRight
  rw [Int.add_emod]
  rcases Int.emod_two_eq d with h | h <;> rw [h] <;> cases right <;> decide

/-- the slow pointer of the cycle guard (d8460b7) moves at every second step: behind the fast one,
or level with it at an even step, it stays behind -/
theorem walkGuarded_eq_plain (skip : TEnt → Bool) (chain : Array TEnt) (fuel i fast slow : Nat)
    (h : slow < fast ∨ slow = fast ∧ i % 2 = 0) :
    walkGuarded skip chain fuel i fast slow = walkPlain skip chain fuel fast := by
  induction fuel generalizing i fast slow with
  | zero => rfl
  | succ n ih =>
    have hs : (if i % 2 = 1 then slow + 1 else slow) < fast + 1 := by
      split <;> omega
    rw [walkGuarded, walkPlain, if_neg (Nat.ne_of_gt hs), ih _ _ _ (Or.inl hs)]

end Canvas.C02
