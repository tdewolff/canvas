import CanvasModel.C18
import CanvasProofs.Lemmas.Basic
/-! The ToUnicode bfrange/bfchar builder against the strict §9.10.3 reader: `Reads` says that the tables
written so far hold true entries for all codes so far, the loop invariant `TInv` adds the pending run. -/
namespace C18L
open Canvas.C18

theorem byte_lt (x : Nat) : x % 256 < 256 :=
  Nat.mod_lt x (by decide)

theorem dst_last (v : Nat) : (dst v).last = v % 256 := by
  unfold dst; split <;> rfl

theorem dst_eq (v : Nat) : dst v = if v / 256 < 256 then .two (v / 256) (v % 256)
    else .four (v / 256 / 65536 % 256) (v / 256 / 256 % 256) (v / 256 % 256) (v % 256) := by
  unfold dst
  simp only [Nat.div_div_eq_div_mul, Nat.div_lt_iff_lt_mul (show 0 < 256 by decide)]

theorem add_low_byte {v k : Nat} (h : v % 256 + k ≤ 255) :
    (v + k) / 256 = v / 256 ∧ (v + k) % 256 = v % 256 + k := by
  have hlt : v % 256 + k < 256 := Nat.lt_succ_of_le h
  have e : v + k = 256 * (v / 256) + (v % 256 + k) := by rw [← Nat.add_assoc, Nat.div_add_mod]
  rw [e, Nat.mul_add_div (by decide), Nat.mul_add_mod, Nat.div_eq_of_lt hlt, Nat.mod_eq_of_lt hlt]
  exact ⟨rfl, rfl⟩

theorem dst_inc {v k : Nat} (h : v % 256 + k ≤ 255) : (dst v).inc k = dst (v + k) := by
  rw [dst_eq, dst_eq, (add_low_byte h).1, (add_low_byte h).2]
  split <;> rfl

theorem scalar?_two {v : Nat} (h : v < 0x10000) (hs : ¬ (0xD800 ≤ v ∧ v ≤ 0xDFFF)) :
    (dst v).scalar? = some v := by
  rw [dst, if_pos h]
  simp only [Dst.scalar?, Nat.div_add_mod' v 256]
  rw [if_pos ⟨Nat.div_lt_of_lt_mul h, byte_lt _, hs⟩]

theorem scalar?_pair {hi lo : Nat} (hh : 0xD800 ≤ hi ∧ hi ≤ 0xDBFF) (hl : 0xDC00 ≤ lo ∧ lo ≤ 0xDFFF) :
    (dst (hi * 65536 + lo)).scalar? = some (0x10000 + (hi - 0xD800) * 1024 + (lo - 0xDC00)) := by
  have h1 : hi < 65536 := by omega
  have h2 : lo < 65536 := by omega
  rw [dst, if_neg (by omega)]
  generalize hV : hi * 65536 + lo = V
  have w1 : V / 16777216 % 256 * 256 + V / 65536 % 256 = hi := by
    rw [show V / 16777216 = V / 65536 / 256 from (Nat.div_div_eq_div_mul V 65536 256).symm, Canvas.be16, ← hV,
      Nat.add_comm, Nat.add_mul_div_right _ _ (by decide), Nat.div_eq_of_lt h2, Nat.zero_add, Nat.mod_eq_of_lt h1]
  have w2 : V / 256 % 256 * 256 + V % 256 = lo := by
    rw [Canvas.be16, ← hV, Nat.mul_add_mod_self_right, Nat.mod_eq_of_lt h2]
  rw [Dst.scalar?, w1, w2, if_pos ⟨byte_lt _, byte_lt _, byte_lt _, byte_lt _, hh.1, hh.2, hl⟩]

theorem scalar_pack {u : Nat} (h : validScalar u = true) : (dst (pack u)).scalar? = some u := by
  simp only [validScalar, decide_eq_true_eq] at h
  unfold pack
  split
  · next hu =>
    -- a surrogate pair: the 20-bit offset `u - 0x10000` is split 10 + 10
    have hlt : (u - 0x10000) / 1024 < 1024 := Nat.div_lt_of_lt_mul (by omega)
    have hlo := Nat.mod_lt (u - 0x10000) (show 0 < 1024 by decide)
    rw [Nat.mod_eq_of_lt hlt, Nat.add_assoc, scalar?_pair (by omega) (by omega),
      Nat.add_sub_cancel_left, Nat.add_sub_cancel_left, Nat.add_assoc, Nat.div_add_mod',
      Nat.add_sub_of_le hu.1]
  · exact scalar?_two (by omega) h.2

variable {R : List (Nat × Nat × Nat)} {C : List (Nat × Nat)} {d : List Nat} {n : Nat}

/-- Every entry says the truth about the packed list `d` (a bfrange in the form the strict reader wants:
the last byte of its destination, `r.2.2 % 256`, does not wrap), and every code below `n` is spoken of.
The reader answers with what some entry says, so neither the order of the entries nor whether they
overlap matters. -/
structure Reads (d : List Nat) (n : Nat) (R : List (Nat × Nat × Nat)) (C : List (Nat × Nat)) : Prop where
  ranges : ∀ r ∈ R, r.2.2 % 256 + (r.2.1 - r.1) ≤ 255 ∧
    ∀ code, inRange code r = true → d[code]? = some (r.2.2 + (code - r.1))
  chars : ∀ c ∈ C, d[c.1]? = some c.2
  cover : ∀ code, code < n → (∃ r ∈ R, inRange code r = true) ∨ ∃ c ∈ C, (c.1 == code) = true

theorem Reads.lookup (h : Reads d n R C) {code v : Nat} (hc : code < n) (hv : d[code]? = some v) :
    tuLookup R C code = (dst v).scalar? := by
  unfold tuLookup
  cases hR : R.find? (inRange code) with
  | some r =>
    have hp := List.find?_some hR
    obtain ⟨fit, val⟩ := h.ranges r (List.mem_of_find?_eq_some hR)
    have hk : code - r.1 ≤ r.2.1 - r.1 := Nat.sub_le_sub_right (of_decide_eq_true hp).2 _
    dsimp only
    rw [dst_last, if_pos fit, dst_inc (Nat.le_trans (Nat.add_le_add_left hk _) fit),
      Option.some.inj ((val code hp).symm.trans hv)]
  | none =>
    cases hC : C.find? (fun c => c.1 == code) with
    | some c =>
      have := h.chars c (List.mem_of_find?_eq_some hC)
      have hb := List.find?_some hC
      rw [eq_of_beq hb] at this
      exact congrArg (fun v => (dst v).scalar?) (Option.some.inj (this.symm.trans hv))
    | none =>
      rcases h.cover code hc with ⟨r, hr, hp⟩ | ⟨c, hm, hp⟩
      · exact absurd hp (List.find?_eq_none.1 hR r hr)
      · exact absurd hp (List.find?_eq_none.1 hC c hm)

theorem Reads.range (h : Reads d n R C) {su l : Nat}
    (pend : ∀ k, k < l + 1 → d[n + k]? = some (su + k)) (fit : su % 256 + l ≤ 255) :
    Reads d (n + (l + 1)) (R ++ [(n, n + l, su)]) C where
  ranges := by
    refine Canvas.forall_mem_snoc h.ranges ?_
    dsimp only
    rw [Nat.add_sub_cancel_left]
    refine ⟨fit, fun code hp => ?_⟩
    obtain ⟨k, rfl⟩ := Nat.exists_eq_add_of_le (of_decide_eq_true hp).1
    rw [Nat.add_sub_cancel_left]
    exact pend k (Nat.lt_succ_of_le (Nat.le_of_add_le_add_left (of_decide_eq_true hp).2))
  chars := h.chars
  cover code hc := by
    by_cases hn : code < n
    · exact (h.cover code hn).imp_left fun ⟨r, hr, hp⟩ => ⟨r, List.mem_append_left _ hr, hp⟩
    · exact Or.inl ⟨_, List.mem_concat_self,
        decide_eq_true (show n ≤ code ∧ code ≤ n + l from ⟨Nat.le_of_not_lt hn, Nat.le_of_lt_succ hc⟩)⟩

theorem Reads.char (h : Reads d n R C) {v : Nat} (hv : d[n]? = some v) : Reads d (n + 1) R (C ++ [(n, v)]) where
  ranges := h.ranges
  chars := Canvas.forall_mem_snoc h.chars hv
  cover code hc := by
    by_cases hn : code < n
    · exact (h.cover code hn).imp_right fun ⟨c, hm, hp⟩ => ⟨c, List.mem_append_left _ hm, hp⟩
    · exact Or.inr ⟨_, List.mem_concat_self,
        beq_iff_eq.2 (Nat.le_antisymm (Nat.le_of_not_lt hn) (Nat.le_of_lt_succ hc))⟩

/-- loop invariant after `k` codes of the packed list `D` (`D[0] = U+FFFD`): the last `t.len` of them are
pending as the run `t.su, t.su+1, …` from code `t.sc`, the earlier ones are in the tables; the low byte has
not wrapped inside the run (the builder tests `unicode&0xFF != 0`, /repo 6081df5). -/
structure TInv (D : List Nat) (k : Nat) (t : TU) : Prop where
  reads : Reads D t.sc t.ranges t.chars
  len1 : 1 ≤ t.len
  sc : t.sc + t.len = k
  pend : ∀ j, j < t.len → D[t.sc + j]? = some (t.su + j)
  fit : t.su % 256 + t.len ≤ 256

variable {D : List Nat} {k : Nat} {t : TU}

theorem TInv.start {c v : Nat} (h : Reads D c R C) (hv : D[c]? = some v) : TInv D (c + 1) ⟨c, v, 1, R, C⟩ where
  reads := h
  len1 := Nat.le_refl _
  sc := rfl
  pend j hj := by
    obtain rfl : j = 0 := Nat.lt_one_iff.1 hj
    exact hv
  fit := byte_lt v

theorem flush_spec (h : TInv D k t) : Reads D k t.flush.1 t.flush.2 := by
  obtain ⟨l, hl⟩ := Nat.exists_eq_add_of_le' h.len1
  have pend := h.pend
  have fit := h.fit
  rw [← h.sc]
  unfold TU.flush
  rw [hl] at pend fit ⊢
  split
  · exact h.reads.range pend (Nat.le_of_succ_le_succ fit)
  · obtain rfl : l = 0 := by omega
    exact h.reads.char (pend 0 (Nat.lt_succ_self 0))

theorem tinv_step {v : Nat} (h : TInv D k t) (hv : D[k]? = some v) : TInv D (k + 1) (tuStep t k v) := by
  unfold tuStep
  by_cases hc : k = t.sc + t.len ∧ v = t.su + t.len ∧ v % 256 ≠ 0
  · rw [if_pos hc]
    obtain ⟨reads, len1, sc, pend, fit⟩ := h
    refine ⟨reads, Nat.le_add_left 1 t.len, congrArg (· + 1) sc, fun j hj => ?_, ?_⟩
    · rcases Nat.lt_succ_iff_lt_or_eq.1 hj with hjl | rfl
      · exact pend j hjl
      · rw [sc, hv, hc.2.1]
    · -- the low byte of `su + len` is not 0, so that of `su` plus `len` has not reached 256
      have : t.su % 256 + t.len ≠ 256 := fun e => hc.2.2 (by rw [hc.2.1, ← Nat.mod_add_mod, e])
      exact Nat.lt_of_le_of_ne fit this
  · rw [if_neg hc]
    exact TInv.start (flush_spec h) hv

theorem tuLoop_spec (vs : List Nat) : ∀ (pre : List Nat) (t : TU), TInv (pre ++ vs) pre.length t →
    TInv (pre ++ vs) (pre ++ vs).length (tuLoop t pre.length vs) := by
  induction vs with
  | nil => intro pre t h; rwa [List.append_nil] at h ⊢
  | cons v vs ih =>
    intro pre t h
    have := ih (pre ++ [v]) (tuStep t pre.length v)
    rw [List.append_assoc, List.length_append] at this
    exact this (tinv_step h (by simp))

theorem encodeTUP_spec (vs : List Nat) (code v : Nat) (hv : (0xFFFD :: vs)[code]? = some v) :
    tuLookup (encodeTUP vs).1 (encodeTUP vs).2 code = (dst v).scalar? := by
  -- nothing is written before code 0, whose run of one is pending in `TU.init`
  have init : TInv (0xFFFD :: vs) 1 TU.init :=
    TInv.start ⟨nofun, nofun, fun _ h => absurd h (Nat.not_lt_zero _)⟩ rfl
  exact (flush_spec (tuLoop_spec vs [0xFFFD] TU.init init)).lookup (List.getElem?_eq_some_iff.1 hv).1 hv

theorem tuLookup_encodeTU (us : List Nat) (hv : ∀ u ∈ us, validScalar u = true) (k : Nat) (hk : k < us.length) :
    tuLookup (encodeTU us).1 (encodeTU us).2 (k + 1) = some us[k] := by
  rw [encodeTU, encodeTUP_spec (us.map pack) (k + 1) (pack us[k]) (by simp [hk])]
  exact scalar_pack (hv _ (List.getElem_mem hk))

/-! What `tuLookup` answers when one entry is appended; the proofs above go through `Reads` and need none of it. -/

variable {code : Nat}

theorem tuLookup_range_skip {r : Nat × Nat × Nat} (h : inRange code r = false) : tuLookup (R ++ [r]) C code = tuLookup R C code := by
  unfold tuLookup
  rw [List.find?_append]
  cases R.find? (inRange code) with
  | some _ => rfl
  | none => rw [Option.none_or, List.find?_cons, h]; rfl

theorem tuLookup_range_hit {r : Nat × Nat × Nat} (hR : R.find? (inRange code) = none) (h : inRange code r = true) :
    tuLookup (R ++ [r]) C code =
      if (dst r.2.2).last + (r.2.1 - r.1) ≤ 255 then ((dst r.2.2).inc (code - r.1)).scalar? else none := by
  unfold tuLookup
  rw [List.find?_append, hR, Option.none_or, List.find?_cons, h]

theorem tuLookup_char_skip {c : Nat × Nat} (h : (c.1 == code) = false) : tuLookup R (C ++ [c]) code = tuLookup R C code := by
  unfold tuLookup
  rw [List.find?_append]
  cases C.find? (fun c => c.1 == code) with
  | some _ => rfl
  | none => rw [Option.none_or, List.find?_cons, h]; rfl

theorem tuLookup_char_hit {v : Nat} (hR : R.find? (inRange code) = none) (hC : C.find? (fun c => c.1 == code) = none) :
    tuLookup R (C ++ [(code, v)]) code = (dst v).scalar? := by
  unfold tuLookup
  rw [hR, List.find?_append, hC, Option.none_or, List.find?_cons, beq_self_eq_true]

end C18L
