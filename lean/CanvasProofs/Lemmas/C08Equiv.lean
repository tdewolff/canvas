import CanvasProofs.Lemmas.C08

/-! # C08 — equivariance of the min/max fold under translation and reflection -/
set_option linter.unusedSectionVars false
namespace C08
open Canvas Canvas.C08 GenK
variable {K : Type} [Field K] [LinearOrder K] [IsStrictOrderedRing K] [Env K] [ArcFns K]

/-- apply a map to every point of a command (arcs: end point only; arcs are excluded below) -/
def _root_.Canvas.C08.Cmd.mapP (f : Pt K → Pt K) : Cmd K → Cmd K
  | .M p => .M (f p)
  | .L p => .L (f p)
  | .Z p => .Z (f p)
  | .Q cp p => .Q (f cp) (f p)
  | .C cp1 cp2 p => .C (f cp1) (f cp2) (f p)
  | .A rx ry phi l sw p => .A rx ry phi l sw (f p)

theorem mapP_isArc (f : Pt K → Pt K) (c : Cmd K) : (c.mapP f).isArc = c.isArc := by cases c <;> rfl
theorem mapP_isCube (f : Pt K → Pt K) (c : Cmd K) : (c.mapP f).isCube = c.isCube := by cases c <;> rfl

theorem firstPt_mapP (f : Pt K → Pt K) (c : Cmd K) (hc : c.isArc = false) : (c.mapP f).firstPt = f c.firstPt := by
  cases c with
  | A rx ry phi l sw p => cases hc
  | _ => rfl

theorem endPt_mapP (f : Pt K → Pt K) (c : Cmd K) : (c.mapP f).endPt = f c.endPt := by cases c <;> rfl

theorem noArc_map (f : Pt K → Pt K) (cs : List (Cmd K)) (harc : ∀ c ∈ cs, c.isArc = false) :
    ∀ c ∈ cs.map (Cmd.mapP f), c.isArc = false := by
  intro c hc
  obtain ⟨c0, h0, rfl⟩ := List.mem_map.1 hc
  rw [mapP_isArc]; exact harc c0 h0

/-- A map `φ` of one coordinate that is a translation or the reflection `a ↦ -a` (slope `k = ±1`), with
what it does to the interval `(lo, hi)` the fold keeps for that coordinate: `ψ` swaps the ends when `φ`
reverses the order. -/
structure AxisMap (K : Type) [Field K] [LinearOrder K] where
  φ : K → K
  ψ : K × K → K × K
  k : K
  unit : k = 1 ∨ k = -1
  slope : ∀ a b, φ a - φ b = k * (a - b)
  pt : ∀ a, ψ (a, a) = (φ a, φ a)
  grow : ∀ lo hi v, ψ (min lo v, max hi v) = (min (ψ (lo, hi)).1 (φ v), max (ψ (lo, hi)).2 (φ v))

def AxisMap.id : AxisMap K where
  φ a := a
  ψ lh := lh
  k := 1
  unit := .inl rfl
  slope _ _ := (one_mul _).symm
  pt _ := rfl
  grow _ _ _ := rfl

def AxisMap.add (d : K) : AxisMap K where
  φ a := a + d
  ψ lh := (lh.1 + d, lh.2 + d)
  k := 1
  unit := .inl rfl
  slope a b := by ring
  pt _ := rfl
  grow lo hi v := congrArg₂ Prod.mk (min_add_add_right ..).symm (max_add_add_right ..).symm

def AxisMap.neg : AxisMap K where
  φ a := -a
  ψ lh := (-lh.2, -lh.1)
  k := -1
  unit := .inr rfl
  slope a b := by ring
  pt _ := rfl
  grow lo hi v :=
    have anti : Antitone fun a : K => -a := fun _ _ => neg_le_neg
    congrArg₂ Prod.mk anti.map_max anti.map_min

def mapPt (mx my : AxisMap K) (p : Pt K) : Pt K := ⟨mx.φ p.x, my.φ p.y⟩
def mapS (mx my : AxisMap K) (s : St K) : St K :=
  ⟨mapPt mx my s.start, (mx.ψ (s.xmin, s.xmax)).1, (mx.ψ (s.xmin, s.xmax)).2,
    (my.ψ (s.ymin, s.ymax)).1, (my.ψ (s.ymin, s.ymax)).2⟩

def mapR (mx my : AxisMap K) (r : Rct K) : Rct K :=
  ⟨(mx.ψ (r.x0, r.x1)).1, (my.ψ (r.y0, r.y1)).1, (mx.ψ (r.x0, r.x1)).2, (my.ψ (r.y0, r.y1)).2⟩

theorem init_mapPt (mx my : AxisMap K) (p : Pt K) : St.init (mapPt mx my p) = mapS mx my (St.init p) := by
  simp only [St.init, mapS, mapPt, AxisMap.pt]

theorem rect_mapS (mx my : AxisMap K) (s : St K) : (mapS mx my s).rect = mapR mx my s.rect := rfl

def trP (d p : Pt K) : Pt K := ⟨p.x + d.x, p.y + d.y⟩
def trR (d : Pt K) (r : Rct K) : Rct K := { x0 := r.x0 + d.x, y0 := r.y0 + d.y, x1 := r.x1 + d.x, y1 := r.y1 + d.y }
def rxP (p : Pt K) : Pt K := { x := -p.x, y := p.y }
def rxR (r : Rct K) : Rct K := { x0 := -r.x1, y0 := r.y0, x1 := -r.x0, y1 := r.y1 }
def ryP (p : Pt K) : Pt K := { y := -p.y, x := p.x }
def ryR (r : Rct K) : Rct K := { y0 := -r.y1, x0 := r.x0, y1 := -r.y0, x1 := r.x1 }

theorem trP_eq (d : Pt K) : trP d = mapPt (.add d.x) (.add d.y) := rfl
theorem trR_eq (d : Pt K) : trR d = mapR (.add d.x) (.add d.y) := rfl
theorem rxP_eq : (rxP : Pt K → Pt K) = mapPt .neg .id := rfl
theorem rxR_eq : (rxR : Rct K → Rct K) = mapR .neg .id := rfl
theorem ryP_eq : (ryP : Pt K → Pt K) = mapPt .id .neg := rfl
theorem ryR_eq : (ryR : Rct K → Rct K) = mapR .id .neg := rfl

theorem run_equiv {step : St K → Cmd K → St K} {mx my : AxisMap K}
    (cs : List (Cmd K)) (hne : cs ≠ []) (harc : ∀ c ∈ cs, c.isArc = false)
    (hstep : ∀ s, ∀ c ∈ cs, step (mapS mx my s) (c.mapP (mapPt mx my)) = mapS mx my (step s c)) :
    run step (cs.map (Cmd.mapP (mapPt mx my))) = mapR mx my (run step cs) := by
  cases cs with
  | nil => exact absurd rfl hne
  | cons c cs =>
    have fold : ∀ (l : List (Cmd K)) (s : St K),
        (∀ s, ∀ c ∈ l, step (mapS mx my s) (c.mapP (mapPt mx my)) = mapS mx my (step s c)) →
        (l.map (Cmd.mapP (mapPt mx my))).foldl step (mapS mx my s) = mapS mx my (l.foldl step s) := by
      intro l
      induction l with
      | nil => intro s _; rfl
      | cons c l ih =>
        intro s h
        simp only [List.map_cons, List.foldl_cons]
        rw [h s c (List.mem_cons_self ..)]
        exact ih _ fun s c' hc' => h s c' (List.mem_cons_of_mem _ hc')
    simp only [List.map_cons, run_cons]
    rw [firstPt_mapP _ c (harc c (List.mem_cons_self ..)), init_mapPt,
      fold cs _ fun s c' hc' => hstep s c' (List.mem_cons_of_mem _ hc'), rect_mapS]

theorem AxisMap.map_lerp (m : AxisMap K) (a b t : K) : (1 - t) * m.φ a + t * m.φ b = m.φ ((1 - t) * a + t * b) := by
  linear_combination (1 - t) * m.slope a ((1 - t) * a + t * b) + t * m.slope b ((1 - t) * a + t * b)

theorem mapPt_interp (mx my : AxisMap K) (t : K) (p q : Pt K) :
    Point.Interpolate (mapPt mx my p) (mapPt mx my q) t = mapPt mx my (Point.Interpolate p q t) :=
  pt_ext _ _ (mx.map_lerp ..) (my.map_lerp ..)

theorem quadPos_map (mx my : AxisMap K) (p0 p1 p2 : Pt K) (t : K) :
    Ops.quadPos (mapPt mx my p0) (mapPt mx my p1) (mapPt mx my p2) t = mapPt mx my (Ops.quadPos p0 p1 p2 t) :=
  (bezier_map t _ (mapPt_interp mx my t) p0 p1 p2).1

theorem cubePos_map (mx my : AxisMap K) (p0 p1 p2 p3 : Pt K) (t : K) :
    Ops.cubePos (mapPt mx my p0) (mapPt mx my p1) (mapPt mx my p2) (mapPt mx my p3) t
      = mapPt mx my (Ops.cubePos p0 p1 p2 p3 t) :=
  (bezier_map t _ (mapPt_interp mx my t) p0 p1 p2).2 p3

theorem cb_neg (a0 a1 a2 a3 t : K) : cb (-a0) (-a1) (-a2) (-a3) t = -cb a0 a1 a2 a3 t := by unfold cb; ring

theorem cand_map (m : AxisMap K) (val : K → K) (t : Option K) (lh : K × K) :
    cand (fun t => m.φ (val t)) t (m.ψ lh) = m.ψ (cand val t lh) := by
  cases t with
  | none => rfl
  | some t =>
    simp only [cand]; split
    · exact (m.grow lh.1 lh.2 _).symm
    · rfl

theorem quadAxis_map (m : AxisMap K) (a0 a1 a2 : K) (val : K → K) (lo hi : K) :
    quadAxis (m.φ a0) (m.φ a1) (m.φ a2) (fun t => m.φ (val t)) (m.ψ (lo, hi)).1 (m.ψ (lo, hi)).2
      = m.ψ (quadAxis a0 a1 a2 val lo hi) := by
  have e : m.φ a0 - 2 * m.φ a1 + m.φ a2 = m.k * (a0 - 2 * a1 + a2) := by
    linear_combination m.slope a0 a1 - m.slope a1 a2
  have hE : ∀ x, GenK.Equal (m.k * x) 0 = GenK.Equal x 0 := by
    rcases m.unit with h | h
    · simp [h]
    · simp [h, equal_neg]
  have hD : ∀ x y, m.k * x / (m.k * y) = x / y := by
    rcases m.unit with h | h
    · simp [h]
    · simp [h, neg_div_neg_eq]
  simp only [quadAxis, e, m.slope a0 a1, hE, hD, ops_mn, ops_mx, ops_equal, ← m.grow]
  split
  · exact cand_map m val _ _
  · rfl

/-- the coefficients handed to `solveQuadratic` are unchanged only by a translation -/
theorem cubeAxis_map (m : AxisMap K) (hk : m.k = 1) (a0 a1 a2 a3 : K) (val : K → K) (lo hi : K) :
    cubeAxis (m.φ a0) (m.φ a1) (m.φ a2) (m.φ a3) (fun t => m.φ (val t)) (m.ψ (lo, hi)).1 (m.ψ (lo, hi)).2
      = m.ψ (cubeAxis a0 a1 a2 a3 val lo hi) := by
  have sl : ∀ a b, m.φ a - m.φ b = a - b := fun a b => by rw [m.slope, hk, one_mul]
  have e1 : -m.φ a0 + 3 * m.φ a1 - 3 * m.φ a2 + m.φ a3 = -a0 + 3 * a1 - 3 * a2 + a3 := by
    linear_combination 3 * sl a1 a2 - sl a0 a3
  have e2 : 2 * m.φ a0 - 4 * m.φ a1 + 2 * m.φ a2 = 2 * a0 - 4 * a1 + 2 * a2 := by
    linear_combination 2 * sl a0 a1 - 2 * sl a1 a2
  have e3 : -m.φ a0 + m.φ a1 = -a0 + a1 := by linear_combination -sl a0 a1
  simp only [cubeAxis, e1, e2, e3, ops_mn, ops_mx, ← m.grow]
  rw [cand_map, cand_map]

theorem fastStep_map (mx my : AxisMap K) (s : St K) (c : Cmd K) (hc : c.isArc = false) :
    fastStepG max (mapS mx my s) (c.mapP (mapPt mx my)) = mapS mx my (fastStepG max s c) := by
  cases c with
  | A rx ry phi l sw p => cases hc
  | _ => simp only [fastStepG, mapS, mapPt, Cmd.mapP, ops_mn, ops_mx, ← min_assoc, ← max_assoc, AxisMap.grow]

theorem boundsStepG_map (mx my : AxisMap K) (sw : Bool) (s : St K) (c : Cmd K) (hc : c.isArc = false)
    (hq : c.isCube = false ∨ mx.k = 1 ∧ my.k = 1) :
    boundsStepG sw (mapS mx my s) (c.mapP (mapPt mx my)) = mapS mx my (boundsStepG sw s c) := by
  cases c with
  | M p | L p | Z p => exact fastStep_map mx my s _ hc
  | Q cp p =>
    simp only [boundsStepG, mapS, Cmd.mapP, quadPos_map]
    simp only [mapPt]
    rw [quadAxis_map mx, quadAxis_map my]
  | C cp1 cp2 p =>
    rcases hq with hq | ⟨hx, hy⟩
    · cases hq
    simp only [boundsStepG, mapS, Cmd.mapP, cubePos_map]
    simp only [mapPt]
    rw [cubeAxis_map mx hx, cubeAxis_map my hy]
  | A rx ry phi l sw' p => cases hc

end C08
