import CanvasModel.C17.Verdict
import CanvasProofs.Lemmas.Basic
/-! C17 — the executable structural verdict `structClass`, a cascade of tests that each return a failure
class: what the test `increasing` means. -/
namespace Canvas.C17

theorem increasing_pairwise {l : List Nat} (h : increasing l = true) : l.Pairwise (· < ·) := by
  induction l with
  | nil => exact List.Pairwise.nil
  | cons x rest ih =>
    cases rest with
    | nil => exact List.pairwise_singleton _ _
    | cons y r =>
      simp only [increasing, Bool.and_eq_true, decide_eq_true_eq] at h
      have hp := ih h.2
      refine List.Pairwise.cons ?_ hp
      intro z hz
      rcases List.mem_cons.mp hz with rfl | hz
      · exact h.1
      · exact Nat.lt_trans h.1 ((List.pairwise_cons.mp hp).1 z hz)

end Canvas.C17
