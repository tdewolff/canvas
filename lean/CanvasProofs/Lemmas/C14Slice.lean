import CanvasModel.C14
import CanvasProofs.Lemmas.Basic

namespace Canvas.C14

theorem store_length {α} (m : Mem α) (s : Slice) (i : Nat) (v : α) : (store m s i v).length = m.length := by
  simp [store]

theorem view_store {α} (m : Mem α) (s : Slice) (i : Nat) (v : α) :
    view (store m s i v) s = (view m s).set i v := by
  simp only [view, store, List.getD_eq_getElem?_getD]
  by_cases ha : s.arr < m.length
  · rw [List.getElem?_set_self ha, Option.getD_some, List.drop_set, if_neg (by omega), Nat.add_sub_cancel_left,
      List.take_set]
  · -- no such array: nothing is written, and the view is empty before and after
    rw [List.set_eq_of_length_le (Nat.le_of_not_lt ha), List.getElem?_eq_none (Nat.le_of_not_lt ha), Option.getD_none,
      List.drop_nil, List.take_nil, List.set_nil]

theorem store_getD_other {α} (m : Mem α) {s : Slice} (i : Nat) (v : α) {a : Nat} (h : a ≠ s.arr) :
    (store m s i v).getD a [] = m.getD a [] := by
  unfold store
  simp only [List.getD_eq_getElem?_getD]
  rw [List.getElem?_set_ne (by omega)]

theorem mapInPlaceFrom_view {α} (f : α → α) (s : Slice) :
    ∀ (n : Nat) {pre rest : List α} {m : Mem α}, view m s = pre ++ rest → rest.length ≤ n →
      view (mapInPlaceFrom f s n pre.length m) s = pre ++ rest.map f := by
  intro n
  induction n with
  | zero =>
    intro pre rest m hv hn
    rw [List.eq_nil_of_length_eq_zero (Nat.le_zero.mp hn)] at hv ⊢
    exact hv
  | succ n ih =>
    intro pre rest m hv hn
    rw [mapInPlaceFrom, hv]
    cases rest with
    | nil =>
      rw [List.getElem?_eq_none (by simp)]
      exact hv
    | cons v r =>
      -- a turn moves the head of `rest`, mapped, to the end of `pre`
      have hs : view (store m s pre.length (f v)) s = pre ++ [f v] ++ r := by
        rw [view_store, hv]
        simp
      have := ih hs (Nat.le_of_succ_le_succ hn)
      rw [List.length_append, List.append_assoc] at this
      rw [List.getElem?_append_right (Nat.le_refl _), Nat.sub_self]
      exact this

theorem mapInPlace_view {α} (f : α → α) (m : Mem α) (s : Slice) :
    view (mapInPlace f m s) s = (view m s).map f :=
  mapInPlaceFrom_view f s s.len (pre := []) rfl (List.length_take_le _ _)

theorem mapInPlaceFrom_getD_other {α} (f : α → α) {s : Slice} {a : Nat} (h : a ≠ s.arr) :
    ∀ (n i : Nat) (m : Mem α), (mapInPlaceFrom f s n i m).getD a [] = m.getD a [] := by
  intro n
  induction n with
  | zero => intro i m; rfl
  | succ n ih =>
    intro i m
    simp only [mapInPlaceFrom]
    split
    · rw [ih, store_getD_other _ _ _ h]
    · rfl

theorem view_copySlice {α} (m : Mem α) (s : Slice) : view (copySlice m s).1 (copySlice m s).2 = view m s := by
  simp only [copySlice, view, List.getD_eq_getElem?_getD, List.getElem?_concat_length, Option.getD_some,
    List.drop_zero]
  exact List.take_of_length_le (by simp only [List.length_take]; omega)

theorem setColorSpace_getD {α} (linear : Bool) (f : α → α) {m : Mem α} (s : Slice) {a : Nat}
    (ha : a < m.length) : (setColorSpace linear f m s).1.getD a [] = m.getD a [] := by
  cases linear with
  | true => rfl
  | false =>
    simp only [setColorSpace, Bool.false_eq_true, if_false, mapInPlace]
    rw [mapInPlaceFrom_getD_other f (by simp only [copySlice]; omega)]
    exact getD_append_left m _ ha

theorem setColorSpace_view {α} (f : α → α) (m : Mem α) (s : Slice) :
    view (setColorSpace false f m s).1 (setColorSpace false f m s).2 = (view m s).map f := by
  simp only [setColorSpace, Bool.false_eq_true, if_false]
  rw [mapInPlace_view, view_copySlice]

theorem gradSetColorSpace_value {γ α} (linear : Bool) (f : α → α) (m : Mem α) (g : Grad γ) :
    (gradSetColorSpace linear f m g).2.value (gradSetColorSpace linear f m g).1
      = scsValue linear f (g.value m) := by
  cases linear with
  | true => rfl
  | false =>
    simp only [gradSetColorSpace, Grad.value, scsValue, Bool.false_eq_true, if_false]
    rw [setColorSpace_view f m g.stops]

end Canvas.C14
