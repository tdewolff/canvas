import CanvasModel.C12.Verdict
/-!
The verdict spec `matchItems` (CanvasModel/C12/Verdict.lean) says "no difference" exactly when the observed
items agree pairwise with the expected ones (`AllAgree`); hence sound, monotone in the closeness predicate,
and accepting exact observations.
-/
namespace Canvas.C12.Verdict
section
variable {ν : Type} {close close' : ν → ν → Bool}

/-- what "the observed item is the expected one" means -/
def ItemAgrees (close : ν → ν → Bool) (b : Bind) : TItem ν → TItem ν → Prop
  | .fill o eo sh a, .fill o' eo' sh' a' =>
    o = o' ∧ eo = eo' ∧ (shadeOk close b sh sh').1 = true ∧ close a a' = true
  | .stroke o cl sh a lw c j ml da ph, .stroke o' cl' sh' a' lw' c' j' ml' da' ph' =>
    o = o' ∧ cl = cl' ∧ (shadeOk close b sh sh').1 = true ∧ close a a' = true ∧ close lw lw' = true ∧ c = c' ∧ j = j' ∧
      closeOpt close ml ml' = true ∧ closeList close da da' = true ∧ close ph ph' = true
  | .image a, .image a' => close a a' = true
  | _, _ => False

theorem firstFail_none (l : List (Bool × String)) : firstFail l = none ↔ ∀ p ∈ l, p.1 = false := by
  induction l with
  | nil => simp [firstFail]
  | cons p rest ih =>
    obtain ⟨bad, c⟩ := p
    cases bad <;> simp [firstFail, ih]

theorem itemDiff_none_iff (b : Bind) (e o : TItem ν) : (itemDiff close b e o).1 = none ↔ ItemAgrees close b e o := by
  cases e <;> cases o <;> simp [itemDiff, ItemAgrees, firstFail_none]

/-- every pair agrees (with the binding in force at that point) -/
inductive AllAgree (close : ν → ν → Bool) : Bind → List (TItem ν) → List (TItem ν) → Prop
  | nil (b : Bind) : AllAgree close b [] []
  | cons {b : Bind} {e o : TItem ν} {es os : List (TItem ν)} :
      ItemAgrees close b e o → AllAgree close (itemDiff close b e o).2 es os → AllAgree close b (e :: es) (o :: os)

theorem matchItems_cons_none (b : Bind) (e o : TItem ν) (es os : List (TItem ν)) :
    (matchItems close b (e :: es) (o :: os)).1 = none ↔
      (itemDiff close b e o).1 = none ∧ (matchItems close (itemDiff close b e o).2 es os).1 = none := by
  simp only [matchItems]
  split <;> rename_i hd <;> simp [hd]

theorem matchItems_none_iff : ∀ (b : Bind) (es os : List (TItem ν)),
    (matchItems close b es os).1 = none ↔ AllAgree close b es os
  | b, [], [] => ⟨fun _ => .nil b, fun _ => rfl⟩
  | b, [], o :: os => ⟨fun h => by cases o <;> simp [matchItems] at h, fun h => nomatch h⟩
  | b, e :: es, [] => ⟨fun h => by simp [matchItems] at h, fun h => nomatch h⟩
  | b, e :: es, o :: os => by
    rw [matchItems_cons_none, itemDiff_none_iff, matchItems_none_iff _ es os]
    exact ⟨fun ⟨h, t⟩ => .cons h t, fun | .cons h t => ⟨h, t⟩⟩

theorem AllAgree.length {b : Bind} {es os : List (TItem ν)} (h : AllAgree close b es os) : es.length = os.length := by
  induction h with
  | nil => rfl
  | cons _ _ ih => simp [ih]

theorem closeList_mono (hm : ∀ x y, close x y = true → close' x y = true) :
    ∀ {a b : List ν}, closeList close a b = true → closeList close' a b = true
  | [], [], _ => by simp [closeList]
  | [], _ :: _, h => by simp [closeList] at h
  | _ :: _, [], h => by simp [closeList] at h
  | x :: xs, y :: ys, h => by
    simp only [closeList, Bool.and_eq_true] at h ⊢
    exact ⟨hm _ _ h.1, closeList_mono hm h.2⟩

theorem closeOpt_mono (hm : ∀ x y, close x y = true → close' x y = true) {a b : Option ν}
    (h : closeOpt close a b = true) : closeOpt close' a b = true := by
  cases a <;> cases b <;> simp_all [closeOpt]

theorem shadeOk_mono (hm : ∀ x y, close x y = true → close' x y = true) {b : Bind} {s t : TShade ν}
    (h : (shadeOk close b s t).1 = true) : (shadeOk close' b s t).1 = true := by
  cases s <;> cases t <;> simp_all [shadeOk]

theorem itemDiff_bind (b : Bind) (e o : TItem ν) : (itemDiff close' b e o).2 = (itemDiff close b e o).2 := by
  have hs : ∀ s t : TShade ν, (shadeOk close' b s t).2 = (shadeOk close b s t).2 := fun s t => by
    cases s <;> cases t <;> rfl
  cases e <;> cases o <;> first | rfl | exact hs _ _

theorem ItemAgrees.mono (hm : ∀ x y, close x y = true → close' x y = true) {b : Bind} {e o : TItem ν}
    (h : ItemAgrees close b e o) : ItemAgrees close' b e o := by
  -- items of different kinds agree under no predicate
  cases e <;> cases o <;> try exact h
  case fill.fill =>
    obtain ⟨h1, h2, h3, h4⟩ := h
    exact ⟨h1, h2, shadeOk_mono hm h3, hm _ _ h4⟩
  case stroke.stroke =>
    obtain ⟨h1, h2, h3, h4, h5, h6, h7, h8, h9, h10⟩ := h
    exact ⟨h1, h2, shadeOk_mono hm h3, hm _ _ h4, hm _ _ h5, h6, h7, closeOpt_mono hm h8,
      closeList_mono hm h9, hm _ _ h10⟩
  case image.image => exact hm _ _ h

theorem AllAgree.mono (hm : ∀ x y, close x y = true → close' x y = true) {b : Bind} {es os : List (TItem ν)}
    (h : AllAgree close b es os) : AllAgree close' b es os := by
  induction h with
  | nil b => exact .nil b
  | cons h _ ih =>
    refine .cons (h.mono hm) ?_
    rwa [itemDiff_bind (close := close)]

def plainItem : TItem ν → Prop
  | .fill _ _ (.rgb _ _ _) _ => True
  | .stroke _ _ (.rgb _ _ _) _ _ _ _ _ _ _ => True
  | .image _ => True
  | _ => False

theorem closeList_refl (hr : ∀ x, close x x = true) : ∀ a : List ν, closeList close a a = true
  | [] => rfl
  | x :: xs => by simp [closeList, hr, closeList_refl hr xs]

theorem itemDiff_refl (hr : ∀ x, close x x = true) (b : Bind) (e : TItem ν) (hp : plainItem e) :
    itemDiff close b e e = (none, b) := by
  cases e with
  | fill o eo sh a =>
    cases sh with
    | rgb r g bl => simp [itemDiff, firstFail, shadeOk, hr]
    | pat n => simp [plainItem] at hp
  | stroke o cl sh a lw c j ml da ph =>
    cases sh with
    | rgb r g bl =>
      cases ml <;> simp [itemDiff, firstFail, shadeOk, hr, closeOpt, closeList_refl hr]
    | pat n => simp [plainItem] at hp
  | image a => simp [itemDiff, firstFail, hr]
  | invalid why => simp [plainItem] at hp

theorem matchItems_refl (hr : ∀ x, close x x = true) (b : Bind) :
    ∀ es : List (TItem ν), (∀ e ∈ es, plainItem e) → (matchItems close b es es).1 = none
  | [], _ => by simp [matchItems]
  | e :: es, h => by
    simp only [matchItems, itemDiff_refl hr b e (h e (by simp))]
    exact matchItems_refl hr b es (fun e' he' => h e' (by simp [he']))

end
end Canvas.C12.Verdict
