import CanvasModel.C11
import CanvasProofs.Lemmas.Basic
/-! No-panic and progress invariants of the byte-level `ParseSVGPath` model, as postconditions:
`Sat Q r` says that `r` is an error or `ok v` with `Q v`, never `panic` or `fuel`.  The index stays
`≤ len(path)` and an iteration that continues has advanced it, so `len(path) - i` bounds the fuel. -/
namespace C11L
open Canvas.C11

def LexBounded {α : Type} (lex : List Nat → α × Nat) : Prop := ∀ b, (lex b).2 ≤ b.length

def Res.Safe {β : Type} : Res β → Prop
  | .ok _ => True
  | .err _ => True
  | .panic => False
  | .fuel => False

theorem safe_iff {β : Type} (r : Res β) : Res.Safe r ↔ r ≠ .panic ∧ r ≠ .fuel := by
  cases r <;> simp [Res.Safe]

def Sat {β : Type} (Q : β → Prop) : Res β → Prop
  | .ok v => Q v
  | .err _ => True
  | .panic => False
  | .fuel => False

theorem Sat.of_ok {β : Type} {Q : β → Prop} {x : Res β} (h : ∃ v, x = .ok v ∧ Q v) : Sat Q x := by
  obtain ⟨v, rfl, hq⟩ := h
  exact hq

theorem Sat.bind {β γ : Type} {P : β → Prop} {Q : γ → Prop} {x : Res β} {f : β → Res γ}
    (hx : Sat P x) (hf : ∀ v, P v → Sat Q (f v)) : Sat Q (x.bind f) := by
  cases x with
  | ok v => exact hf v hx
  | err e => trivial
  | _ => exact hx.elim

theorem Sat.bind_safe {β γ : Type} {P : β → Prop} {x : Res β} {f : β → Res γ}
    (hx : Sat P x) (hf : ∀ v, P v → Res.Safe (f v)) : Res.Safe (x.bind f) :=
  -- `Res.Safe` unfolds to `Sat` with the trivial postcondition
  Sat.bind (Q := fun _ => True) hx hf

theorem Sat.ite {β : Type} {Q : β → Prop} {c : Prop} [Decidable c] {x y : Res β}
    (hx : c → Sat Q x) (hy : ¬c → Sat Q y) : Sat Q (if c then x else y) := by
  split
  · exact hx ‹_›
  · exact hy ‹_›

theorem Sat.mono {β : Type} {P Q : β → Prop} (hpq : ∀ v, P v → Q v) : ∀ {r : Res β}, Sat P r → Sat Q r
  | .ok v, h => hpq v h
  | .err _, _ => trivial
  | .panic, h => h
  | .fuel, h => h

theorem ok_bind {β γ : Type} (v : β) (f : β → Res γ) : (Res.ok v).bind f = f v := rfl

theorem bind_eq_ok {β γ : Type} {x : Res β} {f : β → Res γ} {w : γ} (h : x.bind f = .ok w) :
    ∃ v, x = .ok v ∧ f v = .ok w := by
  cases x with
  | ok v => exact ⟨v, rfl, h⟩
  | _ => cases h

theorem skipCW_le (l : List Nat) : skipCW l ≤ l.length := by
  induction l with
  | nil => simp [skipCW]
  | cons b bs ih => exact Canvas.ite_le (Nat.succ_le_succ ih) (Nat.zero_le _)

theorem sliceFrom_ok {path : List Nat} {i : Nat} (h : i ≤ path.length) : sliceFrom path i = .ok (path.drop i) :=
  if_pos h

theorem skipAt_ok {path : List Nat} {i : Nat} (h : i ≤ path.length) :
    ∃ i', skipAt path i = .ok i' ∧ i ≤ i' ∧ i' ≤ path.length := by
  refine ⟨i + skipCW (path.drop i), ?_, by omega, ?_⟩
  · simp [skipAt, sliceFrom, h, Res.bind]
  · have := skipCW_le (path.drop i); simp at this; omega

theorem skipAt_panic {path : List Nat} {i : Nat} (h : path.length < i) : skipAt path i = .panic := by
  have : ¬ i ≤ path.length := by omega
  simp [skipAt, sliceFrom, this, Res.bind]

theorem idx_ok {path : List Nat} {i : Nat} (h : i < path.length) : idx path i = .ok path[i] := by
  simp [idx, List.getElem?_eq_getElem h]

theorem idx_panic {path : List Nat} {i : Nat} (h : path.length ≤ i) : idx path i = .panic := by
  simp [idx, List.getElem?_eq_none h]

theorem skipAt_zero (s : List Nat) : skipAt s 0 = .ok (skipCW s) := by
  simp [skipAt, sliceFrom, Res.bind]

theorem guardedEq_ok (path : List Nat) (i v : Nat) :
    ∃ b, guardedEq path i v = .ok b ∧ (b = true → i < path.length) := by
  unfold guardedEq
  by_cases h : i < path.length
  · exact ⟨path[i] == v, by simp [h, idx_ok h, Res.bind], fun _ => h⟩
  · exact ⟨false, by simp [h], by simp⟩

theorem set_ok {α : Type} (f : F7 α) {j : Nat} (v : α) (h : j < 7) : ∃ f', f.set j v = .ok f' := by
  have : j = 0 ∨ j = 1 ∨ j = 2 ∨ j = 3 ∨ j = 4 ∨ j = 5 ∨ j = 6 := by omega
  rcases this with h | h | h | h | h | h | h <;> subst h <;> exact ⟨_, rfl⟩

/-- 7 is the size of the local array `f`; ten table entries, and 0 for a missing key -/
theorem cmdLens_le (c : Nat) : cmdLens c ≤ 7 := by
  unfold cmdLens
  iterate 10 refine Canvas.ite_le (by decide) ?_
  decide

section
variable {α P : Type} (lex : List Nat → α × Nat) (num : Num α) (B : Builder α P)

theorem parseArgs_spec (hlex : LexBounded lex) (path : List Nat) (CMD cmd : Nat) (rep : Bool) (n : Nat) (hn : n ≤ 7) :
    ∀ (k i : Nat) (f : F7 α), k ≤ n → i ≤ path.length →
      Sat (fun r => i + min k 1 ≤ r.1 ∧ r.1 ≤ path.length) (parseArgs lex num path CMD cmd rep n k i f) := by
  intro k
  induction k with
  | zero => intro i f _ hi; exact ⟨Nat.le_refl _, hi⟩
  | succ k ih =>
    intro i f hk hi
    have accept : ∀ (v : α) (i1 : Nat), i < i1 → i1 ≤ path.length →
        Sat (fun r => i + min (k + 1) 1 ≤ r.1 ∧ r.1 ≤ path.length) ((f.set (n - (k + 1)) v).bind fun f' =>
          (skipAt path i1).bind fun i' => parseArgs lex num path CMD cmd rep n k i' f') := by
      intro v i1 h1 h2
      obtain ⟨f1, hf1⟩ := set_ok f v (show n - (k + 1) < 7 by omega)
      rw [hf1]
      exact (Sat.of_ok (skipAt_ok h2)).bind fun i' hi' =>
        (ih i' f1 (by omega) hi'.2).mono fun r hr => ⟨by omega, hr.2⟩
    rw [parseArgs]
    simp only []
    refine .ite (fun _ => ?_) fun _ => ?_
    · -- arc flags
      refine (Sat.of_ok (guardedEq_ok path i 49)).bind fun b1 h1 =>
        .ite (fun hb => accept _ _ (Nat.lt_succ_self i) (h1 hb)) fun _ => ?_
      exact (Sat.of_ok (guardedEq_ok path i 48)).bind fun b0 h0 =>
        .ite (fun hb => accept _ _ (Nat.lt_succ_self i) (h0 hb)) fun _ => trivial
    · -- a number
      have hb := hlex (path.drop i)
      rw [List.length_drop] at hb
      rw [sliceFrom_ok hi, ok_bind]
      refine .ite (fun _ => ?_) fun hne => accept _ _ (by simp only [beq_iff_eq] at hne; omega) (by omega)
      -- no number: one of the three errors (the guarded path[i] cannot panic)
      refine .ite (fun h => ?_) fun _ => .ite (fun _ => trivial) fun _ => trivial
      rw [idx_ok (of_decide_eq_true (Bool.and_eq_true_iff.1 h).2)]
      trivial

theorem readCmd_ok (path : List Nat) (i prevCmd : Nat) (hi : i < path.length) :
    ∃ r, readCmd path i prevCmd = .ok r ∧ r.2.2 ≤ path.length ∧ ((r.2.1 = false ∧ i < r.2.2) ∨
      (r.2.1 = true ∧ r.2.2 = i ∧ r.1 = prevCmd ∧ prevCmd ≠ 122 ∧ prevCmd ≠ 90)) := by
  rw [readCmd, idx_ok hi, ok_bind]
  split
  · obtain ⟨i2, hi2, h1, h2⟩ := skipAt_ok (Nat.succ_le_of_lt hi)
    rw [hi2, ok_bind]
    exact ⟨_, rfl, h2, .inl ⟨rfl, h1⟩⟩
  · rename_i h
    simp only [Bool.or_eq_true, beq_iff_eq, Bool.not_eq_true', not_or] at h
    exact ⟨_, rfl, Nat.le_of_lt hi, .inr ⟨rfl, rfl, rfl, h.1.1, h.1.2⟩⟩

/-- the 20 command bytes the `switch` accepts -/
def validCmds : List Nat := [77, 109, 90, 122, 76, 108, 72, 104, 86, 118, 67, 99, 83, 115, 81, 113, 84, 116, 65, 97]

theorem exec_some_close_or_args {cmd prevCmd : Nat} {f : F7 α} {p : P} {q c p0 : α × α} {e : Exec α P}
    (h : exec num B cmd prevCmd f p q c p0 = some e) : cmd = 90 ∨ cmd = 122 ∨ 1 ≤ cmdLens (upper cmd) := by
  have hv : cmd ∈ validCmds := Decidable.byContradiction fun hv => by
    simp only [validCmds, List.mem_cons, List.mem_nil_iff, or_false, not_or] at hv
    simp [exec, hv] at h
  exact (by decide : ∀ c ∈ validCmds, c = 90 ∨ c = 122 ∨ 1 ≤ cmdLens (upper c)) cmd hv

theorem step_spec (hlex : LexBounded lex) (path : List Nat) (st : St α P) (hi : st.i ≤ path.length) :
    Sat (fun r => ∀ st', r = .inr st' → st.i < st'.i ∧ st'.i ≤ path.length) (step lex num B path st) := by
  unfold step
  refine (Sat.of_ok (skipAt_ok hi)).bind fun i1 h1 => .ite (fun _ => nofun) fun _ => ?_
  refine (Sat.of_ok (readCmd_ok path i1 st.prevCmd (by omega))).bind fun ⟨cmd, rep, i2⟩ ⟨h3, hcase⟩ => ?_
  refine (parseArgs_spec lex num hlex path (upper cmd) cmd rep _ (cmdLens_le _) _ i2 st.f (Nat.le_refl _) h3).bind
    fun ⟨i3, f⟩ ⟨h4, h5⟩ => ?_
  simp only []
  split
  · trivial
  · rename_i e he
    rintro _ ⟨⟩
    refine ⟨show st.i < i3 from ?_, h5⟩
    -- an implicitly repeated command takes at least one argument, so a number was consumed
    have := exec_some_close_or_args num B he
    simp only [] at h4 hcase
    omega

theorem loop_safe (hlex : LexBounded lex) (path : List Nat) :
    ∀ (fuel : Nat) (st : St α P), st.i ≤ path.length → path.length - st.i < fuel →
      Res.Safe (loop lex num B path fuel st) := by
  intro fuel
  induction fuel with
  | zero => intro st _ h; omega
  | succ fuel ih =>
    intro st hi hf
    unfold loop
    refine (step_spec lex num B hlex path st hi).bind_safe fun r hr => ?_
    cases r with
    | inl p => trivial
    | inr st' => exact ih st' (hr st' rfl).2 (by have := hr st' rfl; omega)
end

/-- non-empty, only whitespace/commas, not starting with a comma: the inputs on which the parser
before 91dc4d7 read `path[len(path)]` (`parseFrom_panic`); the repaired one returns the empty path -/
def Defect (s : List Nat) : Prop := s ≠ [] ∧ s.head? ≠ some 44 ∧ skipCW s = s.length

instance (s : List Nat) : Decidable (Defect s) := by unfold Defect; exact inferInstance

section
variable {α P : Type} (lex : List Nat → α × Nat) (num : Num α) (B : Builder α P)

/-- the parser from the byte after the leading whitespace on: what 91dc4d7 put a guard in front of -/
def parseFrom (s : List Nat) : Res P :=
  (idx s (skipCW s)).bind fun bi =>
    if bi < 65 then .err ⟨0, 0, 0, 0⟩ else loop lex num B s (s.length + 1) (initSt num B (skipCW s))

theorem parseSVGPath_cons (b : Nat) (t : List Nat) :
    parseSVGPath lex num B (b :: t) =
      if b = 44 then .err ⟨0, 0, 0, 0⟩
      else if (b :: t).length ≤ skipCW (b :: t) then .ok B.empty else parseFrom lex num B (b :: t) := by
  simp [parseSVGPath, skipAt_zero, idx_ok, Res.bind, parseFrom]

theorem before91dc4d7_cons (b : Nat) (t : List Nat) :
    parseSVGPathBefore91dc4d7 lex num B (b :: t) =
      if b = 44 then .err ⟨0, 0, 0, 0⟩ else parseFrom lex num B (b :: t) := by
  simp [parseSVGPathBefore91dc4d7, skipAt_zero, idx_ok, Res.bind, parseFrom]

theorem parseFrom_panic {s : List Nat} (h : s.length ≤ skipCW s) : parseFrom lex num B s = .panic := by
  rw [parseFrom, idx_panic h]; rfl

theorem parseFrom_safe (hlex : LexBounded lex) {s : List Nat} (h : skipCW s < s.length) :
    Res.Safe (parseFrom lex num B s) := by
  rw [parseFrom, idx_ok h, ok_bind]
  split
  · trivial
  · exact loop_safe lex num B hlex s _ _ (Nat.le_of_lt h) (Nat.sub_lt_succ _ _)

theorem parse_safe (hlex : LexBounded lex) (s : List Nat) : Res.Safe (parseSVGPath lex num B s) := by
  cases s with
  | nil => trivial
  | cons b t =>
    rw [parseSVGPath_cons]
    split
    · trivial
    · split
      · trivial
      · exact parseFrom_safe lex num B hlex (by omega)
end

end C11L
