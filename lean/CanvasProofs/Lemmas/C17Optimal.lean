import CanvasProofs.Lemmas.C17Track
import CanvasProofs.Lemmas.C17Best
/-! C17, `optimal`: every breakpoint records the fitness class of its own ratio (`Fitness = fitClass Ratio`), so the
returned chain is itself a legal breaking whose `seqCost` is its recorded total of demerits (`chain_seqCost`);
`firstPass_done` joins `passLoop_opt` with the final selection of the cheapest active node. -/
set_option linter.unusedSectionVars false
namespace Canvas.C17

section field
variable {K : Type} [Field K] [LinearOrder K] [IsStrictOrderedRing K]
variable (P : Params K) (items : List (Item K)) (lineW : K)

theorem chooseBest_min : ∀ (l : List (Node K)) (x y : Node K), chooseBest l (some x) = some y →
    y.d.dem ≤ x.d.dem ∧ ∀ a, a ∈ l → y.d.dem ≤ a.d.dem := by
  intro l
  induction l with
  | nil => intro x y h; simp only [chooseBest] at h; cases h; exact ⟨le_refl _, fun a ha => by cases ha⟩
  | cons a rest ih =>
    intro x y h
    simp only [chooseBest] at h
    split at h
    · rename_i hlt
      obtain ⟨h1, h2⟩ := ih a y h
      refine ⟨le_trans h1 (le_of_lt hlt), ?_⟩
      intro b hb
      rcases List.mem_cons.mp hb with rfl | hb
      · exact h1
      · exact h2 b hb
    · rename_i hnlt
      obtain ⟨h1, h2⟩ := ih x y h
      refine ⟨h1, ?_⟩
      intro b hb
      rcases List.mem_cons.mp hb with rfl | hb
      · exact le_trans h1 (not_lt.mp hnlt)
      · exact h2 b hb

theorem chooseBest_none_min {l : List (Node K)} {y : Node K} (h : chooseBest l none = some y) :
    ∀ a, a ∈ l → y.d.dem ≤ a.d.dem := by
  cases l with
  | nil => simp [chooseBest] at h
  | cons x rest =>
    simp only [chooseBest] at h
    obtain ⟨h1, h2⟩ := chooseBest_min rest x y h
    intro a ha
    rcases List.mem_cons.mp ha with rfl | ha
    · exact h1
    · exact h2 a ha

def FitAll (n : Node K) : Prop := ∀ d, d ∈ n.d :: n.anc → d.fit = fitClass d.ratio

def FitInv (lb : LB K) : Prop := (∀ n, n ∈ lb.act → FitAll n) ∧ (∀ n, n ∈ lb.inact → FitAll n)

theorem mainLoop_fit (tol : Option K) (b : Nat)
    (it : Item K) (rest : List (Item K)) (lb : LB K) (h : FitInv lb) :
    FitInv (mainLoop P items lineW tol b it rest lb) := by
  have L := mainLoop_loopSpec P items lineW tol b it rest lb
  constructor
  · intro n hn
    rcases L.act n hn with ⟨h1, _⟩ | ⟨a, ha, cand, ⟨r, _, _, rfl⟩, rfl⟩
    · exact h.1 n h1
    · -- a new breakpoint gets the class of its own ratio; its ancestors are those of an active node
      intro d hd
      rcases List.mem_cons.mp hd with rfl | hd
      · rfl
      · exact h.1 a ha d hd
  · intro n hn
    rcases List.mem_append.mp (L.inact ▸ hn) with h1 | h1
    · exact h.2 n h1
    · exact h.1 n (List.mem_filter.mp h1).1

theorem iter_fit (tol : Option K) {b : Nat} {prev : Option (Item K)} {it : Item K} {rest : List (Item K)}
    {lb lb1 lb2 : LB K} (h1 : itemStep P items lineW tol b prev it rest (clearStale P prev lb) = some lb1)
    (h2 : drastic P tol b it rest lb1 = some lb2) (h : FitInv lb) : FitInv (addGlue it lb2) := by
  obtain ⟨c1, _, _, c4⟩ := clearStale_fields P prev lb
  have h0 : FitInv (clearStale P prev lb) := ⟨c1 ▸ h.1, fun n hn => h.2 n (c4 n hn)⟩
  have hf1 : FitInv lb1 := by
    rw [itemStep_some P items lineW h1]
    split
    · exact h0
    · split
      · exact mainLoop_fit P items lineW tol b it rest _ h0
      · exact h0
  rw [addGlue_eq]
  rcases drastic_some P h2 with ⟨_, rfl⟩ | ⟨_, _, rfl⟩
  · exact hf1
  · refine ⟨?_, hf1.2⟩
    intro n hn
    cases hm : minWidthOf lb1.W lb1.inact none with
    | none =>
      rw [hm] at hn
      cases hn
    | some mw =>
      rw [hm] at hn
      obtain ⟨p, hp', rfl⟩ := fallbackNodes_mem b _ _ lb1.W mw n lb1.inact hn
      intro d hd
      rcases List.mem_cons.mp hd with rfl | hd
      · show 1 = fitClass (k 0 : K)
        exact fitClass_zero.symm
      · exact hf1.2 p hp' d hd

theorem run_fit {tol : Option K} {b : Nat} {lb : LB K} {res : PassRes K} (h : Run P items lineW tol b lb res)
    (hf : FitInv lb) : ∀ lbf, res = PassRes.done lbf → FitInv lbf := by
  induction h with
  | done lb => intro lbf he; cases he; exact hf
  | panic _ _ => intro lbf he; cases he
  | restart _ _ _ => intro lbf he; cases he
  | next _ h1 h2 _ ih => exact ih (iter_fit P items lineW _ h1 h2 hf)

theorem fitInv_init (ovf : Bool) : FitInv (initLB ovf : LB K) := by
  constructor
  · intro n hn
    simp only [initLB, List.mem_singleton] at hn
    subst hn
    intro d hd
    simp only [root, List.mem_singleton] at hd
    subst hd
    exact fitClass_zero.symm
  · intro n hn; simp [initLB] at hn

/-- The chain of a breakpoint is itself a breaking: read from the root, its positions cost what its head records.
With a continuation `tail`, because `seqCost` runs from the front and a chain grows at the back. -/
theorem chain_seqCost (tol : Option K) (hfl : flaggedAt items 0 = false)
    {ch : List (ND K)} (h : ChainOK P items lineW tol false ch) :
    (∀ d, d ∈ ch → d.fit = fitClass d.ratio) → ∀ c rest, ch = c :: rest → ∀ tail,
      seqCost P items lineW tol none 1 0 ((nonRootPos ch).reverse ++ tail) =
        seqCost P items lineW tol (headPrev c rest) c.fit c.dem tail := by
  induction h with
  | root =>
    intro _ c rest he tail
    cases he
    simp [nonRootPos, headPrev, rootD, k_zero]
  | normal c p rest it h1 h2 h3 h4 h5 h6 h7 h8 h9 h10 ih =>
    intro hfit c' rest' he tail
    cases he
    have hnr : nonRootPos (c :: p :: rest) = c.pos :: nonRootPos (p :: rest) := rfl
    rw [hnr, List.reverse_cons, List.append_assoc, ih (fun d hd => hfit d (List.mem_cons_of_mem _ hd)) p rest rfl]
    -- the code's step from the parent's break to `c.pos`
    obtain ⟨hs, hroot⟩ := chain_head_sums h10
    obtain ⟨hw, hy, hz⟩ := sums_eq hs
    have hflag : flaggedAtOpt items (headPrev p rest) = flaggedAt items p.pos := by
      unfold headPrev
      by_cases hr : rest = []
      · rw [if_pos hr, hroot hr]; exact hfl.symm
      · rw [if_neg hr]; rfl
    simp only [List.singleton_append, seqCost, h4, h1, if_true]
    rw [← hw, ← hy, ← hz, h7]
    simp only [h8, if_true, hflag]
    rw [headPrev, if_neg (List.cons_ne_nil _ _), hfit c List.mem_cons_self, h9]
  | fallback c p rest h0 => cases h0

/-- The first pass completes without overflow, and the node `nb` whose chain `linebreak` returns as `breaks` ends at
the final break `m` with at most `d` demerits. -/
structure FirstPass (P : Params K) (items : List (Item K)) (lineW : K) (m : Nat) (d : K) (lbf : LB K) (nb : Node K)
    (breaks : List (ND K)) : Prop where
  pass : passLoop P items lineW (some P.tolerance) 0 none items (initLB false) = PassRes.done lbf
  inv : Inv P items lineW (some P.tolerance) items.length lbf
  noOvf : lbf.ovf = false
  mem : nb ∈ lbf.act
  chain : breaks = (fixNonRoot P (nb.d :: nb.anc)).reverse
  ok : linebreak P items lineW 0 = Outcome.ok breaks true
  pos : nb.d.pos = m
  anc : nb.anc ≠ []
  le : nb.d.dem ≤ d

theorem firstPass_done (hwf : WF P items lineW)
    (m : Nat) (hlen : items.length = m + 1) (hfo : forcedAt P items m = true) (hle : legalAt P items m = true)
    {seq : List Nat} {d : K} (hA : Ahead P items lineW (some P.tolerance) d 0 [root] none 1 0 seq) :
    ∃ lbf nb breaks, FirstPass P items lineW m d lbf nb breaks := by
  have hrefl : ∀ a : K, (a == a) = true := fun a => beq_self_eq_true a
  obtain ⟨lbf, hp, hov, n, hn, hnd⟩ :=
    passLoop_opt P items lineW hwf (some P.tolerance) false hA
  have hI : Inv P items lineW (some P.tolerance) items.length lbf :=
    passLoop_inv P items lineW hrefl _ false lbf hp
  obtain ⟨breaks, hf⟩ := finish_ok P items.length 0 lbf
  obtain ⟨nb, hnb, hb, _, hpos, hanc, h0⟩ := finish_spec P items lineW _ 0 lbf m hlen hfo hle hI breaks _ hf
  have hok : linebreak P items lineW 0 = Outcome.ok breaks true := by
    unfold linebreak fuelFor
    simp only [linebreakFuel, hp, hf]
    rw [hov]
    rfl
  exact ⟨lbf, nb, breaks,
    { pass := hp, inv := hI, noOvf := hov, mem := hnb, chain := hb, ok := hok, pos := hpos, anc := hanc,
      le := le_trans (chooseBest_none_min (h0 rfl) n hn) hnd }⟩

end field
end Canvas.C17
