import CanvasModel.C19.Spec
/-! Which parts of the parser state each phase of the document walk can touch, generic in `Ops α`:
styling acts through `withSty` and is the pure `cascade`; drawing changes only `err`, `layers`, `lens`. -/
namespace C19
open Canvas Canvas.C19
variable {α : Type} (o : Ops α)

theorem withSty_sty (p : P α) : withSty p (sty p) = p := rfl
theorem sty_withSty (p : P α) (s : Sty α) : sty (withSty p s) = s := rfl
theorem withSty_withSty (p : P α) (s t : Sty α) : withSty (withSty p s) t = withSty p t := rfl

theorem setAttribute_withSty (p : P α) (s : Sty α) (k : String) (v : Val α) :
    setAttribute o (withSty p s) k v = withSty p (attrCore o p.diagonal s k v) := rfl

theorem foldl_withSty {β : Type} (p : P α) (f : Sty α → β → Sty α) (g : P α → β → P α)
    (hg : ∀ s b, g (withSty p s) b = withSty p (f s b)) (l : List β) :
    ∀ s, l.foldl g (withSty p s) = withSty p (l.foldl f s) := by
  induction l with
  | nil => intro s; rfl
  | cons b t ih => intro s; simp only [List.foldl_cons]; rw [hg, ih]

theorem setProps_withSty (p : P α) (s : Sty α) (props : List (String × Val α)) :
    setProps o (withSty p s) props = withSty p (propsCore o p.diagonal s props) := by
  unfold setProps propsCore
  exact foldl_withSty p _ _ (fun s kv => setAttribute_withSty o p s kv.1 kv.2) props s

theorem applyPlain_withSty (p : P α) (s : Sty α) (a : Attr α) :
    applyPlain o (withSty p s) a = withSty p (plainCore o p.diagonal s a) := by
  cases a with
  | plain k v => exact setAttribute_withSty o p s k v
  | style ps => rfl

theorem applyStyle_withSty (p : P α) (s : Sty α) (a : Attr α) :
    applyStyle o (withSty p s) a = withSty p (styleCore o p.diagonal s a) := by
  cases a with
  | plain k v => rfl
  | style ps => exact setProps_withSty o p s ps

theorem applyRules_withSty (p : P α) (s : Sty α) (rules : List (Rule α)) :
    applyRules o (withSty p s) rules = withSty p (rulesCore o p.diagonal p.elems s rules) := by
  unfold applyRules rulesCore
  exact foldl_withSty p _ _ (fun s (nr : Nat × Rule α) => setProps_withSty o p s nr.2.props) _ s

theorem setStyling_eq_cascade (p : P α) (attrs : List (Attr α)) :
    setStyling o p attrs = withSty p (cascade o p.diagonal p.rules p.elems (sty p) attrs) := by
  unfold setStyling cascade
  simp only []
  rw [show attrs.foldl (applyPlain o) p = withSty p (attrs.foldl (plainCore o p.diagonal) (sty p)) from
    foldl_withSty p _ _ (applyPlain_withSty o p) attrs (sty p), applyRules_withSty]
  exact foldl_withSty p _ _ (applyStyle_withSty o p) attrs _

theorem applyRules_nil (p : P α) : applyRules o p [] = p := rfl

theorem layers_setStyling (p : P α) (attrs : List (Attr α)) : (setStyling o p attrs).layers = p.layers := by
  rw [setStyling_eq_cascade]; rfl

theorem rules_setStyling (p : P α) (attrs : List (Attr α)) : (setStyling o p attrs).rules = p.rules := by
  rw [setStyling_eq_cascade]; rfl

theorem layers_pop (q : P α) : (pop q).layers = q.layers := by
  unfold pop; split
  · rfl
  · simp only []; split <;> rfl

def Draws (p q : P α) : Prop :=
  inhOf q = inhOf p ∧ ∃ new, q.layers = new ++ p.layers

theorem inhOf_layers_dimAttr (p : P α) (attrs : List (Attr α)) (k : String) (par : α) :
    inhOf (dimAttr o p attrs k par).2 = inhOf p ∧ (dimAttr o p attrs k par).2.layers = p.layers := by
  unfold dimAttr
  split <;> exact ⟨rfl, rfl⟩

theorem draws_drawPath {p q : P α} (h : inhOf q = inhOf p ∧ q.layers = p.layers) (x y : α) (path : RPath α) :
    Draws p (drawPath o q x y path) := by
  rw [Draws, ← h.1, ← h.2]
  unfold drawPath
  simp only []
  split
  · exact ⟨rfl, [], rfl⟩
  · exact ⟨rfl, [_], rfl⟩

theorem draws_drawShapeCore (p : P α) (tag : String) (attrs : List (Attr α)) :
    Draws p (drawShapeCore o p tag attrs) := by
  unfold drawShapeCore
  split
  all_goals (try split)
  -- the last case is a tag that draws nothing; in all others the state was only passed through `dimAttr`
  rotate_right
  · exact ⟨rfl, [], rfl⟩
  all_goals exact draws_drawPath o (by simp only [inhOf_layers_dimAttr, and_self]) _ _ _

/-- the dash scaling around a shape is undone afterwards: nothing of the environment changes -/
theorem draws_drawShape (p : P α) (tag : String) (attrs : List (Attr α)) :
    Draws p (drawShape o p tag attrs) := by
  unfold drawShape
  simp only []
  split
  · obtain ⟨hi, hl⟩ := draws_drawShapeCore o _ tag attrs
    exact ⟨congrArg (fun i : Inh α => { i with ctx := { i.ctx with dashOff := p.ctx.dashOff, dashes := p.ctx.dashes } }) hi,
      hl⟩
  · exact draws_drawShapeCore o p tag attrs

theorem inhOf_drawShape (p : P α) (tag : String) (attrs : List (Attr α)) :
    inhOf (drawShape o p tag attrs) = inhOf p :=
  (draws_drawShape o p tag attrs).1

end C19
