import CanvasProofs.Lemmas.C12
/-! C12, SVG: the presentation attributes `SVG.RenderPath` writes, read with the SVG initial values; the gradient
references it writes are in the table after the call's `<defs>` step. -/
namespace Canvas.C12
section
variable {ν : Type} {N : Num ν}

theorem fillItems_apply (d : Draw ν) :
    (svgFillItems d).foldl svgApply (vg0 N) =
      { vg0 N with fill := (if d.hasFill then d.fill else .none), eo := (d.hasFill && d.evenOdd) } := by
  unfold svgFillItems
  by_cases hf : d.hasFill = true <;> by_cases hb : d.fill = .col black <;> by_cases he : d.evenOdd = true <;>
    simp_all [svgApply, vg0]

def widthItems (N : Num ν) (x : ν) : List (SItem ν) := if !N.beq x N.one then [SItem.width x] else []
def capItems (c : Nat) : List (SItem ν) := if c == 1 then [SItem.cap 1] else if c == 2 then [SItem.cap 2] else []
def dashItems (N : Num ν) (a : List ν) (o : ν) : List (SItem ν) :=
  if !a.isEmpty then [SItem.dasharray a] ++ (if !N.beq o N.zero then [SItem.dashoffset o] else []) else []

theorem svgStrokeItems_eq (d : Draw ν) :
    svgStrokeItems N d = [SItem.stroke d.stroke] ++ widthItems N (d.w' N d.join.svgOk) ++ capItems d.cap ++
      svgJoinItems N d.join ++ dashItems N (d.dashes' N d.join.svgOk) (d.off' N d.join.svgOk) := by
  simp [svgStrokeItems, widthItems, capItems, dashItems]

theorem widthItems_apply {x : ν} {g : VG ν} (hg : g.lw = N.one) :
    (widthItems N x).foldl svgApply g = { g with lw := if N.beq x N.one then N.one else x } := by
  obtain ⟨fl, eo, st, lw, cp, jn, ml, da, off, bad⟩ := g
  simp only at hg; subst hg
  unfold widthItems
  by_cases h : N.beq x N.one = true <;> simp [h, svgApply]

theorem capItems_apply {c : Nat} (hc : c ≤ 2) {g : VG ν} (hg : g.cap = 0) :
    (capItems (ν := ν) c).foldl svgApply g = { g with cap := c } := by
  obtain ⟨fl, eo, st, lw, cp, jn, ml, da, off, bad⟩ := g
  simp only at hg; subst hg
  unfold capItems
  have : c = 0 ∨ c = 1 ∨ c = 2 := by omega
  rcases this with rfl | rfl | rfl <;> simp [svgApply]

def svgJoinOf : Join ν → SvgJoin
  | .bevel => .bevel | .round => .round | .arcs _ _ => .arcs | .miter _ _ => .miter

theorem joinItems_apply {j : Join ν} (hj : j.svgOk = true) {g : VG ν} (hg : g.join = .miter) (hm : g.ml = none) :
    (svgJoinItems N j).foldl svgApply g =
      { g with join := svgJoinOf j, ml := svgLimit N j } := by
  obtain ⟨fl, eo, st, lw, cp, jn, ml, da, off, bad⟩ := g
  simp only at hg hm; subst hg; subst hm
  cases j with
  | bevel => simp [svgJoinItems, svgApply, svgLimit, svgJoinOf]
  | round => simp [svgJoinItems, svgApply, svgLimit, svgJoinOf]
  | arcs gp l =>
    cases l with
    | none => simp [Join.svgOk] at hj
    | some l => by_cases h : N.near4 l = true <;> simp [svgJoinItems, svgApply, svgLimit, svgJoinOf, h]
  | miter gp l =>
    cases l with
    | none => simp [Join.svgOk] at hj
    | some l => by_cases h : N.near4 l = true <;> simp [svgJoinItems, svgApply, svgLimit, svgJoinOf, h]

theorem dashItems_apply {a : List ν} {o : ν} {g : VG ν} (hd : g.dash = []) (ho : g.off = N.zero) :
    (dashItems N a o).foldl svgApply g =
      { g with dash := a, off := if a.isEmpty || N.beq o N.zero then N.zero else o } := by
  obtain ⟨fl, eo, st, lw, cp, jn, ml, da, off, bad⟩ := g
  simp only at hd ho; subst hd; subst ho
  unfold dashItems
  cases a with
  | nil => simp
  | cons x xs => by_cases h : N.beq o N.zero = true <;> simp [h, svgApply]

theorem strokeItems_apply (d : Draw ν) (hj : d.join.svgOk = true) (hc : d.cap ≤ 2) (fl : Paint) (eo : Bool) :
    (svgStrokeItems N d).foldl svgApply { vg0 N with fill := fl, eo := eo } =
      { vg0 N with fill := fl, eo := eo, stroke := d.stroke,
                   lw := (if N.beq (d.w' N d.join.svgOk) N.one then N.one else d.w' N d.join.svgOk), cap := d.cap,
                   join := svgJoinOf d.join, ml := svgLimit N d.join, dash := d.dashes' N d.join.svgOk,
                   off := (if (d.dashes' N d.join.svgOk).isEmpty || N.beq (d.off' N d.join.svgOk) N.zero then N.zero
                           else d.off' N d.join.svgOk) } := by
  rw [svgStrokeItems_eq]
  simp only [List.foldl_append, List.foldl_cons, List.foldl_nil, svgApply]
  rw [widthItems_apply rfl, capItems_apply hc rfl, joinItems_apply hj rfl rfl, dashItems_apply rfl rfl]

theorem svgJoinNat_of (j : Join ν) : svgJoinNat (svgJoinOf j) = svgJoinCode j := by
  cases j <;> rfl

theorem svgLimit_keep (j : Join ν) :
    (if svgJoinOf j = SvgJoin.miter ∨ svgJoinOf j = SvgJoin.arcs then svgLimit N j else none) = svgLimit N j := by
  cases j <;> simp [svgJoinOf, svgLimit]

@[simp] theorem Paint.none_has : Paint.none.has = false := rfl

theorem svgElem_fillOnly (d : Draw ν) (r : PathRef) (st : Bool) :
    svgElem N { p := r, inStyle := st, items := svgFillItems d } =
      if d.hasFill then [Painted.fill [r] d.evenOdd (shadeOf d.fill) d.fill.alpha] else [] := by
  simp only [svgElem, fillItems_apply]
  by_cases hf : d.hasFill = true
  · have : d.fill.has = true := hf
    simp [hf, this, vg0]
  · simp [hf, vg0]

theorem svgElem_outline (p : Paint) (hp : p.has = true) (r : PathRef) :
    svgElem N { p := r, inStyle := false, items := (if p != .col black then [SItem.fill p] else []) } =
      [Painted.fill [r] false (shadeOf p) p.alpha] := by
  by_cases hb : p = .col black
  · subst hb; simp [svgElem, vg0, Paint.has]
  · simp [svgElem, vg0, svgApply, hb, hp]

theorem svgElem_native (d : Draw ν) (hs : d.hasStroke N d.join.svgOk = true) (hn : d.native d.join.svgOk = true)
    (hc : d.cap ≤ 2) :
    svgElem N { p := .orig d.pid, inStyle := true, items := svgFillItems d ++ svgStrokeItems N d } = svgRef N d := by
  have hsn : d.stroke.has = true := (Bool.and_eq_true_iff.1 hs).1
  simp only [svgRef, hs, hn, if_true, svgElem, List.foldl_append, fillItems_apply]
  rw [strokeItems_apply d (Bool.and_eq_true_iff.1 hn).1 hc]
  by_cases hf : d.hasFill = true
  · have : d.fill.has = true := hf
    simp [hf, this, hsn, vg0, svgJoinNat_of, svgLimit_keep]
  · simp [hf, hsn, vg0, svgJoinNat_of, svgLimit_keep]

theorem joinItems_grads (j : Join ν) : (svgJoinItems N j).filterMap itemGrad = [] := by
  cases j with
  | bevel => rfl
  | round => rfl
  | miter g l => cases l <;> simp only [svgJoinItems] <;> (try split) <;> rfl
  | arcs g l => cases l <;> simp only [svgJoinItems] <;> (try split) <;> rfl

def Paint.grads : Paint → List Nat
  | .grad i => [i]
  | _ => []

theorem paintItem_grads (p : Paint) :
    (if p = .col black then [] else [SItem.fill (ν := ν) p]).filterMap itemGrad = p.grads := by
  split
  · rename_i h
    rw [h]
    rfl
  · cases p <;> rfl

theorem fillItems_grads (d : Draw ν) :
    (svgFillItems d).filterMap itemGrad = if d.hasFill then d.fill.grads else [] := by
  unfold svgFillItems
  cases d.hasFill
  · rfl
  · cases d.evenOdd <;> simp [paintItem_grads, itemGrad]

theorem widthItems_grads (x : ν) : (widthItems N x).filterMap itemGrad = [] := by
  unfold widthItems
  split <;> rfl

theorem capItems_grads (c : Nat) : (capItems (ν := ν) c).filterMap itemGrad = [] := by
  unfold capItems
  split
  · rfl
  · split <;> rfl

theorem dashItems_grads (a : List ν) (o : ν) : (dashItems N a o).filterMap itemGrad = [] := by
  unfold dashItems
  split
  · split <;> rfl
  · rfl

theorem strokeItems_grads (d : Draw ν) : (svgStrokeItems N d).filterMap itemGrad = d.stroke.grads := by
  rw [svgStrokeItems_eq]
  simp only [List.filterMap_append, joinItems_grads, widthItems_grads, capItems_grads, dashItems_grads, List.append_nil]
  cases d.stroke <;> rfl

theorem svgDraw_grads (d : Draw ν) :
    (svgDraw N d).flatMap elemGrads =
      (if d.hasFill then d.fill.grads else []) ++ if d.hasStroke N d.join.svgOk then d.stroke.grads else [] := by
  unfold svgDraw
  cases hs : d.hasStroke N d.join.svgOk
  · simp [hs, elemGrads, fillItems_grads]
  · cases hn : d.native d.join.svgOk <;> simp [hs, hn, elemGrads, fillItems_grads, strokeItems_grads, paintItem_grads]

theorem mem_svgRegister (p : Paint) (on : Bool) (st : List Nat × List Nat) (i : Nat) :
    i ∈ (svgRegister p on st).1 ↔ i ∈ st.1 ∨ (on = true ∧ i ∈ p.grads) := by
  cases p with
  | grad k =>
    simp only [svgRegister, Paint.grads, List.mem_singleton]
    split
    · rename_i h
      simp [(Bool.and_eq_true_iff.1 h).1]
    · -- nothing is appended: registration is off, or the gradient is in the table already
      rename_i h
      refine ⟨.inl, fun h' => h'.elim id fun ⟨ho, hk⟩ => ?_⟩
      simp_all
  | none => simp [svgRegister, Paint.grads]
  | col c => simp [svgRegister, Paint.grads]

theorem svgRegister_sub (p : Paint) (on : Bool) (st : List Nat × List Nat) : ∀ i ∈ st.1, i ∈ (svgRegister p on st).1 :=
  fun i hi => (mem_svgRegister p on st i).2 (.inl hi)

theorem mem_svgDefs (d : Draw ν) (pats : List Nat) (i : Nat) :
    i ∈ (svgDefs N d pats).1 ↔
      (i ∈ pats ∨ (d.hasFill = true ∧ i ∈ d.fill.grads)) ∨
        ((d.stroke.has && N.lt N.zero d.width) = true ∧ i ∈ d.stroke.grads) := by
  rw [svgDefs, mem_svgRegister, mem_svgRegister]

end
end Canvas.C12
