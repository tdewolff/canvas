import CanvasProofs.Lemmas.C13ParseA

/-! C13 serialise-then-parse for value trees: the round trip `parseVal (ser v ++ T) = (norm v, T)`
for values, array bodies and dictionary bodies together, by induction on the fuel. -/
namespace C13L
open Canvas.C13 Canvas.C13.Rd Canvas.C13.P

/-- the dictionary's serialisation lists its entries in the given order (i.e. the entries already
are in the writer's canonical order: Type, Subtype, then the other keys sorted) -/
def canonOK (es : List Entry) : Bool :=
  dictBytes es == asc "<<" ++ (es.map entryBytes).flatten ++ asc ">>"

def nameOK (s : Bytes) : Bool := s.all isReg && s.all (fun c => c != 0x23)

theorem nameOK_reg {s : Bytes} (h : nameOK s = true) : s.all isReg = true :=
  (Bool.and_eq_true _ _ ▸ h : _ ∧ _).1

theorem nameOK_unesc {s : Bytes} (h : nameOK s = true) : unescName s = s :=
  unescName_id s (Bool.and_eq_true _ _ ▸ h : _ ∧ _).2

mutual
  def wf : Val → Bool
    | .num p => isNumTok p
    | .name s => nameOK s
    | .arr xs => wfList xs
    | .dict kvs => wfKvs kvs && canonOK (serKvs kvs)
    | .stream _ _ => false
    | _ => true
  def wfList : List Val → Bool
    | [] => true
    | v :: vs => wf v && wfList vs
  def wfKvs : List (Bytes × Val) → Bool
    | [] => true
    | (k, v) :: r => nameOK k && wf v && wfKvs r
end

def noTS (es : List Entry) : Bool := es.all (fun e => e.1 != kType && e.1 != kSubtype)

def sortedKeys : List Entry → Bool
  | [] => true
  | [_] => true
  | e :: x :: r => bytesLt e.1 x.1 && sortedKeys (x :: r)

def optList : Option Entry → List Entry
  | none => []
  | some e => [e]

theorem sortEntries_sorted : ∀ (es : List Entry), sortedKeys es = true → sortEntries es = es
  | [], _ => rfl
  | [e], _ => rfl
  | e :: x :: r, h => by
    simp only [sortedKeys, Bool.and_eq_true] at h
    have ih := sortEntries_sorted (x :: r) h.2
    simp only [sortEntries] at ih ⊢
    rw [ih]
    simp [insertEntry, h.1]

theorem find_noTS (es : List Entry) (h : noTS es = true) :
    es.find? (fun e => e.1 == kType) = none ∧ es.find? (fun e => e.1 == kSubtype) = none := by
  have := List.all_eq_true.mp h
  simp only [Bool.and_eq_true, bne_iff_ne, ne_eq] at this
  simp only [List.find?_eq_none, beq_iff_eq]
  exact ⟨fun e he => (this e he).1, fun e he => (this e he).2⟩

theorem filter_noTS (es : List Entry) (h : noTS es = true) :
    es.filter (fun e => e.1 != kType && e.1 != kSubtype) = es :=
  List.filter_eq_self.mpr (List.all_eq_true.mp h)

theorem canonOK_of_canonical (tE sE : Option Entry) (rest : List Entry)
    (ht : ∀ e, tE = some e → e.1 = kType) (hs : ∀ e, sE = some e → e.1 = kSubtype)
    (hn : noTS rest = true) (hsrt : sortedKeys rest = true) :
    canonOK (optList tE ++ optList sE ++ rest) = true := by
  have ne1 : (kSubtype == kType) = false := by decide
  have ne2 : (kType == kSubtype) = false := by decide
  have ⟨hT, hS⟩ := find_noTS rest hn
  -- in each of the four cases `dictBytes` finds Type and Subtype where they stand, filters them
  -- out again and leaves the sorted rest as it is
  rcases tE with _ | t <;> rcases sE with _ | s <;>
    simp [canonOK, dictBytes, findEntry, optList, optBytes, hT, hS, filter_noTS rest hn,
      sortEntries_sorted rest hsrt, ht, hs, ne1, ne2]

theorem dictBytes_head (es : List Entry) : ∃ r, dictBytes es = 0x3C :: 0x3C :: r :=
  ⟨_, by
    unfold dictBytes
    simp only [show asc "<<" = [0x3C, 0x3C] from rfl, List.cons_append, List.nil_append, List.append_assoc]
    rfl⟩

/-- `pdfValContinuesName`: the first character is regular exactly for booleans, numbers and
references; otherwise it is one of `(`, `/`, `[`, `<` -/
theorem ser_head (v : Val) (h : wf v = true) :
    ∃ c r, ser v = c :: r ∧ isReg c = v.continues ∧ isWS c = false ∧ c ≠ 0x5D ∧ c ≠ 0x52 := by
  have num : ∀ p : Bytes, isNumTok p = true →
      ∃ c r, p = c :: r ∧ isReg c = true ∧ isWS c = false ∧ c ≠ 0x5D ∧ c ≠ 0x52 := fun p hp => by
    obtain ⟨c, r, e, hc, _⟩ := numTok_cons p (isNumTok_numTok p hp)
    have hr := (numChar_props c hc).1
    exact ⟨c, r, e, hr, (isReg_props c hr).1, isReg_ne_delim hr rfl, (numChar_props c hc).2⟩
  cases v with
  | bool b => cases b <;> exact ⟨_, _, rfl, rfl, rfl, by decide, by decide⟩
  | int i => exact num _ (isNumTok_intBytes i)
  | num p => exact num p h
  | ref n =>
    obtain ⟨c, r, e, hc⟩ := num _ (isNumTok_natBytes n)
    exact ⟨c, r ++ asc " 0 R", by simp only [ser, e]; rfl, hc⟩
  | str s | name s | arr xs => exact ⟨_, _, rfl, rfl, rfl, by decide, by decide⟩
  | dict kvs =>
    obtain ⟨r, e⟩ := dictBytes_head (serKvs kvs)
    exact ⟨0x3C, 0x3C :: r, by simp only [ser]; exact e, rfl, rfl, by decide, by decide⟩
  | stream kvs body => cases h

theorem skipWs_ser (v : Val) (h : wf v = true) (T : Bytes) : skipWs (ser v ++ T) = ser v ++ T := by
  obtain ⟨c, r, e, _, hc, _⟩ := ser_head v h
  rw [e]; exact skipWs_cons_of_not_ws _ hc

theorem ser_head_delim (v : Val) (hw : wf v = true) (hc : v.continues = false) (X : Bytes) : TokEnd (ser v ++ X) := by
  obtain ⟨c, r, e, h, _⟩ := ser_head v hw
  rw [e]; exact TokEnd.cons (h.trans hc) _

/-- What may follow a serialised value so that it is read back alone: nothing, a delimiter, or a space
and a further value that is itself so followed (the elements of an array). Then the value's last
token ends there (`Tail.tokEnd`) and a number is not taken for the `n` of a reference `n g R`
(`Tail.noRef`). -/
inductive Tail : Bytes → Prop
  | nil : Tail []
  | delim (c : UInt8) (T : Bytes) : isDelim c = true → Tail (c :: T)
  | sep (v : Val) (T : Bytes) : wf v = true → Tail T → Tail (0x20 :: (ser v ++ T))

theorem Tail.tokEnd {T : Bytes} (h : Tail T) : TokEnd T := by
  cases h with
  | nil => rintro _ _ ⟨⟩
  | delim c T hd => exact TokEnd.cons (isDelim_props c hd).1 T
  | sep v T hv ht => exact TokEnd.cons (by decide) _

theorem Tail.noR {T : Bytes} (h : Tail T) : ∀ c r4, skipWs T = c :: r4 → c ≠ 0x52 := by
  intro c r4 e
  cases h with
  | nil => cases e
  | delim c0 T0 hd =>
    rw [skipWs_cons_of_not_ws _ (isDelim_props c0 hd).2.1] at e
    cases e; exact (isDelim_props c hd).2.2
  | sep v T0 hv ht =>
    obtain ⟨c', r, e', _, _, _, hc⟩ := ser_head v hv
    rw [skipWs_cons_ws _ (by decide), skipWs_ser v hv, e'] at e
    cases e; exact hc

theorem sp0R (T : Bytes) : asc " 0 R" ++ T = 0x20 :: 0x30 :: 0x20 :: 0x52 :: T := rfl

theorem refAhead_none (r p X : Bytes) (h1 : skipWs r = p ++ X) (hp : p.all isReg = true) (hX : TokEnd X)
    (h2 : isNatTok p = false ∨ ∀ c r4, skipWs X = c :: r4 → c ≠ 0x52) : refAhead r = none := by
  unfold refAhead
  simp only [h1, spanReg_append p X hp hX]
  rcases h2 with h | h
  · simp [h]
  · split
    · split
      · next c r4 e => simp [h c r4 e]
      · rfl
    · rfl

/-- a number followed by a tail is never mistaken for the start of a reference `n g R` -/
theorem Tail.noRef {T : Bytes} (h : Tail T) : P.refAhead T = none := by
  cases h with
  | nil => exact refAhead_none [] [] [] rfl rfl Tail.nil.tokEnd (Or.inl rfl)
  | delim c T0 hd =>
    have p := isDelim_props c hd
    exact refAhead_none _ [] (c :: T0) (skipWs_cons_of_not_ws _ p.2.1) rfl (TokEnd.cons p.1 T0) (Or.inl rfl)
  | sep v T0 hv ht =>
    have hsk : skipWs (0x20 :: (ser v ++ T0)) = ser v ++ T0 := by
      rw [skipWs_cons_ws _ (by decide), skipWs_ser v hv]
    have num : ∀ p : Bytes, numTok p = true → ser v = p → refAhead (0x20 :: (ser v ++ T0)) = none := fun p hp e =>
      refAhead_none _ p T0 (e ▸ hsk) (numTok_reg p hp) ht.tokEnd (Or.inr ht.noR)
    cases hc : v.continues with
    | false => exact refAhead_none _ [] _ hsk rfl (ser_head_delim v hv hc T0) (Or.inl rfl)
    | true =>
      cases v with
      | bool b => cases b <;> exact refAhead_none _ _ T0 hsk (by decide) ht.tokEnd (Or.inl (by decide))
      | int i => exact num _ (isNumTok_numTok _ (isNumTok_intBytes i)) rfl
      | num p => exact num p (isNumTok_numTok p hv) rfl
      | ref n =>
        refine refAhead_none _ (natBytes n) (asc " 0 R" ++ T0) (hsk.trans (List.append_assoc _ _ _))
          (natBytes_reg n) (by rw [sp0R]; exact TokEnd.cons rfl _) (Or.inr ?_)
        intro c r4 e
        rw [sp0R, skipWs_cons_ws _ (by decide), skipWs_cons_of_not_ws _ (by decide)] at e
        cases e; decide
      | _ => cases hc

theorem parseVal_name (f : Nat) (r : Bytes) :
    parseVal (f + 1) (0x2F :: r) = some (.name (unescName (spanReg r).1), (spanReg r).2) := by
  rw [parseVal.eq_def]; rfl

theorem parseVal_str (f : Nat) (r : Bytes) :
    parseVal (f + 1) (0x28 :: r) = (readLit 0 r).map fun x => (.str x.1, x.2) := by
  rw [parseVal.eq_def]
  show (match readLit 0 r with | some (s, r) => some (Val.str s, r) | none => none) = _
  cases readLit 0 r <;> rfl

theorem parseVal_arr (f : Nat) (r : Bytes) :
    parseVal (f + 1) (0x5B :: r) = (parseList f r).map fun x => (.arr x.1, x.2) := by
  rw [parseVal.eq_def]
  show (match parseList f r with | some (s, r) => some (Val.arr s, r) | none => none) = _
  cases parseList f r <;> rfl

theorem parseVal_dict (f : Nat) (r : Bytes) :
    parseVal (f + 1) (0x3C :: 0x3C :: r) = (parseKvs f r).map fun x => (.dict x.1, x.2) := by
  rw [parseVal.eq_def]
  show (match parseKvs f r with | some (s, r) => some (Val.dict s, r) | none => none) = _
  cases parseKvs f r <;> rfl

/-- a token of regular characters is classified without looking past what follows it, except for
the `n g R` look-ahead after a non-negative integer -/
theorem parseVal_token (f : Nat) (t T : Bytes) (hne : t ≠ []) (ht : t.all isReg = true) (hT : TokEnd T) :
    parseVal (f + 1) (t ++ T) =
      if isNatTok t then
        match refAhead T with
        | some r' => some (.ref (natOf t), r')
        | none => some (.num t, T)
      else if t = kTrue then some (.bool true, T)
      else if t = kFalse then some (.bool false, T)
      else if isNumTok t then some (.num t, T)
      else none := by
  obtain ⟨c, r, rfl⟩ := List.exists_cons_of_ne_nil hne
  have hc : isReg c = true := (Bool.and_eq_true _ _ ▸ ht : _ ∧ _).1
  have hspan : spanReg (c :: (r ++ T)) = (c :: r, T) := spanReg_append (c :: r) T ht hT
  rw [parseVal.eq_def]
  simp only [List.cons_append, skipWs_cons_of_not_ws _ (isReg_props c hc).1,
    if_neg (isReg_ne_delim hc (d := 0x2F) rfl), if_neg (isReg_ne_delim hc (d := 0x28) rfl),
    if_neg (isReg_ne_delim hc (d := 0x5B) rfl), if_neg (isReg_ne_delim hc (d := 0x3C) rfl), hc, if_true, hspan]
  rfl

theorem parseVal_ws (f : Nat) (X : Bytes) : parseVal f (0x20 :: X) = parseVal f X := by
  cases f <;> rw [parseVal.eq_def, parseVal.eq_def]
  simp only [skipWs_cons_ws X (show isWS 0x20 = true from rfl)]

theorem parseList_ws (f : Nat) (X : Bytes) : parseList f (0x20 :: X) = parseList f X := by
  cases f <;> rw [parseList.eq_def, parseList.eq_def]
  simp only [skipWs_cons_ws X (show isWS 0x20 = true from rfl)]

theorem parse_numTok (f : Nat) (p T : Bytes) (hs : isNumTok p = true) (hT : Tail T) :
    parseVal (f + 1) (p ++ T) = some (.num p, T) := by
  have hp := isNumTok_numTok p hs
  obtain ⟨c, r, e, _, _⟩ := numTok_cons p hp
  rw [parseVal_token f p T (e ▸ List.cons_ne_nil c r) (numTok_reg p hp) hT.tokEnd, hT.noRef,
    if_neg (numTok_not_kw p hp).1, if_neg (numTok_not_kw p hp).2, if_pos hs]
  split <;> rfl

theorem parse_ref (f : Nat) (n : Nat) (T : Bytes) (hT : TokEnd T) :
    parseVal (f + 1) (natBytes n ++ asc " 0 R" ++ T) = some (.ref n, T) := by
  have href : P.refAhead (asc " 0 R" ++ T) = some T := by
    cases T with
    | nil => rfl
    | cons d T' =>
      have hd := hT d T' rfl
      simp [sp0R, refAhead, skipWs, spanReg, isNatTok, hd, show isWS 0x20 = true from rfl,
        show isWS 0x30 = false from rfl, show isWS 0x52 = false from rfl, show isReg 0x30 = true from rfl,
        show isReg 0x20 = false from rfl, show isDigit 0x30 = true from rfl]
  have hnr : TokEnd (asc " 0 R" ++ T) := by rw [sp0R]; exact TokEnd.cons rfl _
  rw [List.append_assoc, parseVal_token f _ _ (natBytes_ne_nil n) (natBytes_reg n) hnr,
    if_pos (isNatTok_natBytes n), href, natOf_natBytes]

def arrRest : List Val → Bytes → Bytes
  | [], T => 0x5D :: T
  | v :: vs, T => 0x20 :: (ser v ++ arrRest vs T)

theorem joinSp_serList (v : Val) (vs : List Val) (T : Bytes) :
    joinSp (serList (v :: vs)) ++ 0x5D :: T = ser v ++ arrRest vs T := by
  induction vs generalizing v with
  | nil => simp [serList, joinSp, arrRest]
  | cons w ws ih =>
    have := ih w
    simp only [serList] at this ⊢
    simp only [joinSp, List.append_assoc, List.cons_append, arrRest]
    rw [this]

/-- the body of an array is `arrRest` without the space before the first element, which the parser
skips anyway -/
theorem parseList_arr (f : Nat) (xs : List Val) (T : Bytes) :
    parseList f (joinSp (serList xs) ++ 0x5D :: T) = parseList f (arrRest xs T) := by
  cases xs with
  | nil => rfl
  | cons v vs => rw [joinSp_serList, arrRest, parseList_ws]

theorem parse_arr (f : Nat) (xs : List Val) (T : Bytes) (h : parseList f (arrRest xs T) = some (normList xs, T)) :
    parseVal (f + 1) (ser (.arr xs) ++ T) = some (.arr (normList xs), T) := by
  show parseVal (f + 1) ((0x5B :: (joinSp (serList xs) ++ [0x5D])) ++ T) = _
  rw [List.cons_append, List.append_assoc, List.singleton_append, parseVal_arr, parseList_arr, h]; rfl

theorem tail_arrRest (vs : List Val) (T : Bytes) (h : wfList vs = true) : Tail (arrRest vs T) := by
  induction vs with
  | nil => exact Tail.delim 0x5D T (by decide)
  | cons v vs ih =>
    simp only [wfList, Bool.and_eq_true] at h
    exact Tail.sep v _ h.1 (ih h.2)

def kvBody : List (Bytes × Val) → Bytes → Bytes
  | [], T => 0x3E :: 0x3E :: T
  | (k, v) :: r, T => 0x2F :: (k ++ ((if v.continues then [0x20] else []) ++ (ser v ++ kvBody r T)))

theorem flatten_entries (kvs : List (Bytes × Val)) (T : Bytes) :
    ((serKvs kvs).map entryBytes).flatten ++ (asc ">>" ++ T) = kvBody kvs T := by
  induction kvs with
  | nil => rfl
  | cons kv r ih =>
    obtain ⟨k, v⟩ := kv
    simp only [serKvs, List.map_cons, List.flatten_cons, entryBytes, kvBody, List.append_assoc, List.cons_append, ih]

/-- no condition on what follows `>>` -/
theorem parse_dict (f : Nat) (kvs : List (Bytes × Val)) (T : Bytes) (hc : canonOK (serKvs kvs) = true)
    (h : parseKvs f (kvBody kvs T) = some (normKvs kvs, T)) :
    parseVal (f + 1) (ser (.dict kvs) ++ T) = some (.dict (normKvs kvs), T) := by
  have e : ser (.dict kvs) ++ T = 0x3C :: 0x3C :: kvBody kvs T := by
    simp only [ser]
    rw [eq_of_beq hc, List.append_assoc, List.append_assoc, flatten_entries]
    rfl
  rw [e, parseVal_dict, h]; rfl

theorem tail_kvBody (kvs : List (Bytes × Val)) (T : Bytes) : Tail (kvBody kvs T) := by
  cases kvs with
  | nil => exact Tail.delim 0x3E _ (by decide)
  | cons kv r => exact Tail.delim 0x2F _ (by decide)

theorem rt_all (f : Nat) :
    (∀ v T, wf v = true → Tail T → size v ≤ f → parseVal f (ser v ++ T) = some (norm v, T)) ∧
    (∀ vs T, wfList vs = true → sizeList vs ≤ f → parseList f (arrRest vs T) = some (normList vs, T)) ∧
    (∀ kvs T, wfKvs kvs = true → sizeKvs kvs ≤ f → parseKvs f (kvBody kvs T) = some (normKvs kvs, T)) := by
  induction f with
  | zero =>
    exact ⟨fun v _ _ _ hf => by cases v <;> simp [size] at hf,
      fun vs _ _ hf => by cases vs <;> simp [sizeList] at hf,
      fun kvs _ _ hf => by cases kvs <;> simp [sizeKvs] at hf⟩
  | succ f ih =>
    obtain ⟨iv, il, ik⟩ := ih
    refine ⟨fun v T hw hT hf => ?_, fun vs T hw hf => ?_, fun kvs T hw hf => ?_⟩
    · cases v with
      | bool b => cases b <;> exact (parseVal_token f _ T (by decide) (by decide) hT.tokEnd).trans rfl
      | int i => exact parse_numTok f _ T (isNumTok_intBytes i) hT
      | num p => exact parse_numTok f p T hw hT
      | str s =>
        show parseVal (f + 1) (0x28 :: (escStr s ++ [0x29]) ++ T) = _
        rw [List.cons_append, List.append_assoc, parseVal_str, List.singleton_append, readLit_escStr]; rfl
      | ref n => exact parse_ref f n T hT.tokEnd
      | name s =>
        show parseVal (f + 1) (0x2F :: s ++ T) = _
        rw [List.cons_append, parseVal_name, spanReg_append s T (nameOK_reg hw) hT.tokEnd, nameOK_unesc hw]; rfl
      | arr xs => exact parse_arr f xs T (il xs T hw (by simp only [size] at hf; omega))
      | dict kvs =>
        simp only [wf, Bool.and_eq_true] at hw
        exact parse_dict f kvs T hw.2 (ik kvs T hw.1 (by simp only [size] at hf; omega))
      | stream kvs body => cases hw
    · cases vs with
      | nil =>
        rw [arrRest, parseList.eq_def]
        simp only [skipWs_cons_of_not_ws _ (show isWS 0x5D = false from rfl), if_true]; rfl
      | cons v vs =>
        simp only [wfList, Bool.and_eq_true] at hw
        simp only [sizeList] at hf
        have h1 := iv v (arrRest vs T) hw.1 (tail_arrRest vs T hw.2) (by omega)
        have h2 := il vs T hw.2 (by omega)
        obtain ⟨c, r, e, _, _, hc, _⟩ := ser_head v hw.1
        rw [arrRest, parseList_ws, parseList.eq_def]
        simp only [skipWs_ser v hw.1]
        rw [e] at h1 ⊢
        simp only [List.cons_append] at h1 ⊢
        simp only [hc, if_false, h1, h2, normList]
    · cases kvs with
      | nil =>
        rw [kvBody, parseKvs.eq_def]
        simp only [skipWs_cons_of_not_ws _ (show isWS 0x3E = false from rfl), if_true]; rfl
      | cons kv r =>
        obtain ⟨k, v⟩ := kv
        simp only [wfKvs, Bool.and_eq_true] at hw
        simp only [sizeKvs] at hf
        have h1 := iv v (kvBody r T) hw.1.2 (tail_kvBody r T) (by omega)
        have h2 := ik r T hw.2 (by omega)
        -- the key ends where the value (or the space before it) begins
        have sep : TokEnd ((if v.continues then [0x20] else []) ++ (ser v ++ kvBody r T))
            ∧ parseVal f ((if v.continues then [0x20] else []) ++ (ser v ++ kvBody r T)) = some (norm v, kvBody r T) := by
          cases hc : v.continues
          · exact ⟨ser_head_delim v hw.1.2 hc _, h1⟩
          · exact ⟨TokEnd.cons (by decide) _, (parseVal_ws f _).trans h1⟩
        rw [kvBody, parseKvs.eq_def]
        simp only [skipWs_cons_of_not_ws _ (show isWS 0x2F = false from rfl)]
        simp only [show (0x2F : UInt8) ≠ 0x3E by decide, if_false, if_true, spanReg_append k _ (nameOK_reg hw.1.1) sep.1,
          nameOK_unesc hw.1.1, sep.2, h2, normKvs]

theorem rt_val (v : Val) (f : Nat) (T : Bytes) : wf v = true → Tail T → size v ≤ f →
    parseVal f (ser v ++ T) = some (norm v, T) := (rt_all f).1 v T

theorem rt_list : ∀ (vs : List Val) (f : Nat) (T : Bytes), wfList vs = true → Tail T → sizeList vs ≤ f →
      parseList f (arrRest vs T) = some (normList vs, T) := fun vs f T hw _ => (rt_all f).2.1 vs T hw

theorem rt_kvs (kvs : List (Bytes × Val)) (f : Nat) (T : Bytes) : wfKvs kvs = true → sizeKvs kvs ≤ f →
    parseKvs f (kvBody kvs T) = some (normKvs kvs, T) := (rt_all f).2.2 kvs T

end C13L
