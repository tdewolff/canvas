import CanvasProofs.Lemmas.C03Chord
import Mathlib.Analysis.SpecialFunctions.Sqrt
/-! C03: the assumptions `SqrtOK` about the environment's sqrt/hypot are satisfiable (real numbers). -/
namespace C03L
open Canvas

@[instance_reducible] noncomputable def envReal : Env ℝ where
  epsilon := 0
  tolerance := 0
  pi := 0
  sqrt := Real.sqrt
  sin := id
  cos := id
  atan2 := fun _ _ => 0
  acos := id
  hypot := fun x y => Real.sqrt (x * x + y * y)
  round := id
  cbrt := id
  pow := fun _ _ => 0
  isNaN := fun _ => false

theorem sqrtOK_real : @SqrtOK ℝ _ _ _ envReal :=
  @SqrtOK.mk ℝ _ _ _ envReal (fun x => Real.sqrt_nonneg x) (fun _ hx => Real.mul_self_sqrt hx)
    (fun _ _ => Real.sqrt_nonneg _)
    (fun x y => Real.mul_self_sqrt (add_nonneg (mul_self_nonneg x) (mul_self_nonneg y)))

end C03L
