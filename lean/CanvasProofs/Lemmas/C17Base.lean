import CanvasModel.C17.Spec
import CanvasProofs.Lemmas.Basic
/-! C17: vocabulary shared by the loop invariants and the line measures (any scalar, no laws). -/
set_option linter.unusedSectionVars false
namespace Canvas.C17

section
variable {α : Type} [Add α] [Sub α] [Mul α] [Div α] [Neg α] [LT α] [LE α] [BEq α]
  [DecidableLT α] [DecidableLE α] [NatCast α]
variable (P : Params α) (items : List (Item α))

/-- `-1 <= r && r <= tol` -/
def feasAt (tol : Option α) (r : α) : Bool := decide (-(k 1 : α) ≤ r) && leTol r tol

theorem feasibleR_eq (cx : Ctx α) (r : α) : feasibleR cx r = feasAt cx.tol r := rfl

theorem sums_eq {W Y Z : α} {s : α × α × α} (h : (W, Y, Z) = s) : W = s.1 ∧ Y = s.2.1 ∧ Z = s.2.2 := by
  subst h; exact ⟨rfl, rfl, rfl⟩

theorem pre_succ (b : Nat) (it : Item α) (h : items[b]? = some it) :
    pre items (b + 1) = addItem (pre items b) it := by
  unfold pre
  rw [List.take_add_one, h]
  simp [List.foldl_append]

theorem sumsAfter_eq {b : Nat} {it : Item α} {rest : List (Item α)} (h : items.drop b = it :: rest) :
    sumsAfter P items b = sumAfter P true (it :: rest) (pre items b) := by
  unfold sumsAfter; rw [h]

theorem legalAt_eq {b : Nat} {it : Item α} {rest : List (Item α)} (h : items.drop b = it :: rest) :
    legalAt P items b = legalLocal P (prevOf items b) it rest[0]? := by
  unfold legalAt
  rw [drop_getElem? h]
  have : items[b + 1]? = rest[0]? := by
    have := List.getElem?_drop (xs := items) (i := b + 1) (j := 0)
    rw [drop_succ_of_drop h] at this
    simpa using this.symm
  simp only [this]

theorem legalAt_not_box {P : Params α} {items : List (Item α)} {b : Nat} {it : Item α}
    (hit : items[b]? = some it) (h : legalAt P items b = true) : it.ty ≠ Ty.box := by
  unfold legalAt at h
  rw [hit] at h
  simp only at h
  unfold legalLocal at h
  intro hb
  rw [hb] at h
  cases h

theorem legalAt_some {P : Params α} {items : List (Item α)} {b : Nat} (h : legalAt P items b = true) :
    ∃ it, items[b]? = some it := by
  unfold legalAt at h
  cases hb : items[b]? with
  | none => rw [hb] at h; cases h
  | some it => exact ⟨it, rfl⟩

theorem legalAt_lt {P : Params α} {items : List (Item α)} {b : Nat} (h : legalAt P items b = true) :
    b < items.length :=
  (legalAt_some h).elim fun _ hit => (List.getElem?_eq_some_iff.mp hit).1

theorem forcedAt_eq {P : Params α} {items : List (Item α)} {b : Nat} {it : Item α} (h : items[b]? = some it) :
    forcedAt P items b = isForced P it := by
  unfold forcedAt; rw [h]

/-- sums after the previous break (`none`: start of the paragraph) -/
def afterSums (P : Params α) (items : List (Item α)) : Option Nat → α × α × α
  | none => (k 0, k 0, k 0)
  | some a => sumsAfter P items a

/-- the ratio of the line that ends at item `b` (which is `it`) and begins where the sums are `t`, as the code
measures it: the running sums at `b` against `t`. With `t = afterSums P items prev` the line from the break `prev`. -/
def ratioAt (P : Params α) (items : List (Item α)) (lineW : α) (b : Nat) (it : Item α) (t : α × α × α) : Option α :=
  adjRatio P lineW it (pre items b).1 (pre items b).2.1 (pre items b).2.2 t.1 t.2.1 t.2.2

theorem ratioAt_eq {lineW : α} {b : Nat} {W Y Z w y z : α} {t : α × α × α} (it : Item α)
    (hs : (W, Y, Z) = pre items b) (ht : (w, y, z) = t) :
    adjRatio P lineW it W Y Z w y z = ratioAt P items lineW b it t := by
  unfold ratioAt
  rw [← hs, ← ht]

theorem sumAfter_cons (first : Bool) (it : Item α) (rest : List (Item α)) (s : α × α × α) :
    sumAfter P first (it :: rest) s =
      if it.ty = Ty.box || (isForced P it && !first) then s else sumAfter P false rest (addItem s it) := by
  obtain ⟨W, Y, Z⟩ := s
  simp only [sumAfter, addItem]
  cases hty : it.ty <;> simp

theorem sumAfter_eq_pre :
    ∀ (rest : List (Item α)) (a : Nat) (first : Bool), items.drop a = rest →
      sumAfter P first rest (pre items a) = pre items (lineStartFrom P first a rest) := by
  intro rest
  induction rest with
  | nil => intro a first _; rfl
  | cons it rest ih =>
    intro a first hdrop
    rw [sumAfter_cons, lineStartFrom]
    split
    · rfl
    · rw [← pre_succ items a it (drop_getElem? hdrop)]
      exact ih (a + 1) false (drop_succ_of_drop hdrop)

theorem sumsAfter_eq_pre (a : Nat) :
    sumsAfter P items a = pre items (lineStart P items (some a)) :=
  sumAfter_eq_pre P items (items.drop a) a true rfl

theorem afterSums_eq_pre (prev : Option Nat) : afterSums P items prev = pre items (lineStart P items prev) := by
  cases prev with
  | none => rfl
  | some a => exact sumsAfter_eq_pre P items a

end
end Canvas.C17
