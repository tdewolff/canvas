import CanvasModel.C06Proto

/-! The Lean verdict `judgeWind` on a list of reported winding numbers: `ok` means every judged point
agreed with `wn`, `fail` carries a judged point that did not. -/
namespace Canvas.C06
open Canvas.Wn

theorem judgeWind_sound {P : List (List IPt)} {d2 : Int} {pts : List IPt} {reps : List Int}
    {idx c s c' s' : Nat} (h : judgeWind P d2 pts reps idx c s = .ok c' s') :
    ∀ pr ∈ pts.zip reps, farFromAll pr.1 d2 P = true → wn pr.1 P = pr.2 := by
  fun_induction judgeWind P d2 pts reps idx c s with
  | case1 p pts r reps idx c s hfar hne => simp at h
  | case2 p pts r reps idx c s hfar hne ih =>
    rw [List.zip_cons_cons]
    exact List.forall_mem_cons.mpr ⟨fun _ => by simpa using hne, ih h⟩
  | case3 p pts r reps idx c s hfar ih =>
    rw [List.zip_cons_cons]
    exact List.forall_mem_cons.mpr ⟨fun hf => absurd hf hfar, ih h⟩
  | case4 pts reps idx c s hx =>
    intro pr hpr
    cases pts with
    | nil => simp at hpr
    | cons p pts =>
      cases reps with
      | nil => simp at hpr
      | cons r reps => exact (hx p pts r reps rfl rfl).elim

theorem judgeWind_fail {P : List (List IPt)} {d2 : Int} {pts : List IPt} {reps : List Int}
    {idx c s i : Nat} {w r : Int} (h : judgeWind P d2 pts reps idx c s = .fail i w r) :
    ∃ pr ∈ pts.zip reps, farFromAll pr.1 d2 P = true ∧ wn pr.1 P = w ∧ pr.2 = r ∧ w ≠ r := by
  fun_induction judgeWind P d2 pts reps idx c s with
  | case1 p pts r' reps idx c s hfar hne =>
    simp only [Verdict.fail.injEq] at h
    refine ⟨(p, r'), by simp, hfar, h.2.1, h.2.2, ?_⟩
    rw [← h.2.1, ← h.2.2]; simpa using hne
  | case2 p pts r' reps idx c s hfar hne ih =>
    obtain ⟨pr, hm, hh⟩ := ih h
    exact ⟨pr, by simp [hm], hh⟩
  | case3 p pts r' reps idx c s hfar ih =>
    obtain ⟨pr, hm, hh⟩ := ih h
    exact ⟨pr, by simp [hm], hh⟩
  | case4 pts reps idx c s hx => simp at h

end Canvas.C06
