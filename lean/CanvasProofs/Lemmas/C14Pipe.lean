import CanvasModel.C14
import CanvasGen.CoreK
import Mathlib.Tactic.Ring

/-! ToScanxScanner's pixel map is itself one of the 2×3 matrices (`pixelAff`), so the whole canvas → pixel
pipeline is a product of L1-translated matrices (`GenK.Matrix.*`) and the laws of `Lemmas/Mat` apply. -/
namespace Canvas.C14
open Canvas GenK

section Pipeline
variable {K : Type} [Field K]

def identK : Mat K := Mat.mk 1 0 0 0 1 0

/-- ToScanxScanner's pixel map over a field: (x·dpmm, dy − y·dpmm) -/
def pxK (d x : K) : K := x * d
def pyK (dy d y : K) : K := dy - y * d

def pixelAff (d h : K) : Mat K := ⟨d, 0, 0, 0, -d, h⟩

theorem pixelAff_dot (d h : K) (p : Pt K) : Matrix.Dot (pixelAff d h) p = ⟨pxK d p.x, pyK h d p.y⟩ := by
  simp only [Matrix.Dot, pixelAff, pxK, pyK]; congr 1 <;> ring

theorem pixelAff_det (d h : K) : Matrix.Det (pixelAff d h) = -(d * d) := by
  simp only [Matrix.Det, pixelAff]; ring

end Pipeline

end Canvas.C14
