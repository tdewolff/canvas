import CanvasModel.C15
/-!
# C15 — replay order: the stable sort by z-index, and the layer map as the log grouped by z-index

The stable insertion sort `stableSortZ` is the specification of the replay order: a sorted permutation
that keeps every block of equal keys in input order, and the only such list (`sorted_stable_unique`);
`sort.Ints` of the keys is the same sort seen on the keys.
`WF layers log` : the association list `layers` (the model of the Go map `layers map[int][]layer`)
is exactly the recording-order log grouped by z-index; it holds of the empty canvas and is kept by
recording a call.  For a well-formed canvas the z-tagged replay `replayZ` (whose second projection is
`Canvas.renderViewTo`) is sorted by z and stable within each z, so it is the stable sort of the log
(`replayZ_eq_stableSort`, `renderViewTo_eq_spec`).
Core Lean only; generic in `α` and in `Ops α`.
-/
namespace C15
open Canvas Canvas.C15
variable {α : Type}

def insertZ {β : Type} (x : Int × β) : List (Int × β) → List (Int × β)
  | [] => [x]
  | y :: ys => if x.1 ≤ y.1 then x :: y :: ys else y :: insertZ x ys

/-- stable insertion sort by the `Int` key: `stableSortZ (x :: xs) = insertZ x (stableSortZ xs)` puts
`x` in front of all elements of `xs` with an equal key, so equal keys keep their input order -/
def stableSortZ {β : Type} (l : List (Int × β)) : List (Int × β) := l.foldr insertZ []

theorem insertZ_perm {β : Type} (x : Int × β) (l : List (Int × β)) : (insertZ x l).Perm (x :: l) := by
  induction l with
  | nil => exact List.Perm.refl _
  | cons y ys ih =>
    simp only [insertZ]
    split
    · exact List.Perm.refl _
    · exact (List.Perm.cons y ih).trans (List.Perm.swap x y ys)

theorem stableSortZ_perm {β : Type} (l : List (Int × β)) : (stableSortZ l).Perm l := by
  induction l with
  | nil => exact List.Perm.refl _
  | cons x xs ih => exact (insertZ_perm x _).trans (List.Perm.cons x ih)

theorem insertZ_sorted {β : Type} (x : Int × β) {l : List (Int × β)} (h : l.Pairwise (fun a b => a.1 ≤ b.1)) :
    (insertZ x l).Pairwise (fun a b => a.1 ≤ b.1) := by
  induction l with
  | nil => exact List.pairwise_singleton _ _
  | cons y ys ih =>
    have hy := List.pairwise_cons.mp h
    unfold insertZ
    split
    · rename_i hk
      exact List.pairwise_cons.mpr
        ⟨fun z hz => (List.mem_cons.mp hz).elim (· ▸ hk) fun hz => Int.le_trans hk (hy.1 z hz), h⟩
    · refine List.pairwise_cons.mpr ⟨fun z hz => ?_, ih hy.2⟩
      rcases List.mem_cons.mp ((insertZ_perm x ys).mem_iff.mp hz) with rfl | hz
      · omega
      · exact hy.1 z hz

theorem stableSortZ_sorted {β : Type} (l : List (Int × β)) : (stableSortZ l).Pairwise (fun a b => a.1 ≤ b.1) := by
  induction l with
  | nil => exact List.Pairwise.nil
  | cons x xs ih => exact insertZ_sorted x ih

/-- `insertZ` only moves `x` past elements of another key -/
theorem filter_insertZ {β : Type} (x : Int × β) (l : List (Int × β)) (k : Int) :
    (insertZ x l).filter (fun a => decide (a.1 = k)) = (x :: l).filter (fun a => decide (a.1 = k)) := by
  induction l with
  | nil => rfl
  | cons y ys ih =>
    unfold insertZ
    split
    · rfl
    · simp only [List.filter_cons, ih]
      by_cases hx : x.1 = k <;> by_cases hy : y.1 = k <;> simp [hx, hy]
      omega

theorem stableSortZ_stable {β : Type} (l : List (Int × β)) (k : Int) :
    (stableSortZ l).filter (fun a => decide (a.1 = k)) = l.filter (fun a => decide (a.1 = k)) := by
  induction l with
  | nil => rfl
  | cons x xs ih =>
    show (insertZ x (stableSortZ xs)).filter _ = _
    rw [filter_insertZ, List.filter_cons, List.filter_cons, ih]

theorem head_key_le {β : Type} {x y : Int × β} {xs ys : List (Int × β)}
    (hy : (y :: ys).Pairwise (fun a b => a.1 ≤ b.1))
    (hf : ∀ k : Int, (x :: xs).filter (fun a => decide (a.1 = k)) = (y :: ys).filter (fun a => decide (a.1 = k))) :
    y.1 ≤ x.1 := by
  have hx : x ∈ (y :: ys).filter (fun a => decide (a.1 = x.1)) := by
    rw [← hf x.1]; exact List.mem_filter.mpr ⟨List.mem_cons_self, decide_eq_true rfl⟩
  rcases List.mem_cons.mp (List.mem_filter.mp hx).1 with rfl | h
  · exact Int.le_refl _
  · exact (List.pairwise_cons.mp hy).1 x h

theorem sorted_stable_unique {β : Type} (l1 l2 : List (Int × β))
    (h1 : l1.Pairwise (fun a b => a.1 ≤ b.1)) (h2 : l2.Pairwise (fun a b => a.1 ≤ b.1))
    (hf : ∀ k : Int, l1.filter (fun a => decide (a.1 = k)) = l2.filter (fun a => decide (a.1 = k))) : l1 = l2 := by
  induction l1 generalizing l2 with
  | nil =>
    cases l2 with
    | nil => rfl
    | cons y ys => have := hf y.1; simp at this
  | cons x xs ih =>
    cases l2 with
    | nil => have := hf x.1; simp at this
    | cons y ys =>
      -- the heads have the same key, so both are the head of the sublist at that key
      have hxy : x.1 = y.1 := Int.le_antisymm (head_key_le h1 (fun k => (hf k).symm)) (head_key_le h2 hf)
      have hk := hf x.1
      rw [List.filter_cons_of_pos (by simp), List.filter_cons_of_pos (by simp [hxy])] at hk
      obtain rfl := (List.cons.inj hk).1
      congr 1
      refine ih ys (List.pairwise_cons.mp h1).2 (List.pairwise_cons.mp h2).2 (fun k => ?_)
      have := hf k
      rw [List.filter_cons, List.filter_cons] at this
      split at this
      · exact (List.cons.inj this).2
      · exact this

theorem insertZ_map {β γ : Type} (g : β → γ) (x : Int × β) (l : List (Int × β)) :
    insertZ (x.1, g x.2) (l.map (fun a => (a.1, g a.2))) = (insertZ x l).map (fun a => (a.1, g a.2)) := by
  induction l with
  | nil => rfl
  | cons y ys ih =>
    simp only [List.map_cons, insertZ]
    split
    · rfl
    · simp [ih]

theorem stableSortZ_map {β γ : Type} (g : β → γ) (l : List (Int × β)) :
    stableSortZ (l.map (fun a => (a.1, g a.2))) = (stableSortZ l).map (fun a => (a.1, g a.2)) :=
  List.foldr_map.trans (List.foldr_hom (init := []) (List.map _) (insertZ_map g))

theorem stableSortZ_const {β : Type} (k : Int) (l : List β) : stableSortZ (l.map (k, ·)) = l.map (k, ·) := by
  induction l with
  | nil => rfl
  | cons b l ih =>
    refine (congrArg (insertZ (k, b)) ih).trans ?_
    cases l with
    | nil => rfl
    | cons b' l => exact if_pos (Int.le_refl k)

theorem insertZ_keys {β : Type} (x : Int × β) (l : List (Int × β)) :
    insertSorted x.1 (l.map (·.1)) = (insertZ x l).map (·.1) := by
  induction l with
  | nil => rfl
  | cons y ys ih =>
    simp only [insertZ, insertSorted, List.map_cons]
    split
    · rfl
    · rw [List.map_cons, ih]

theorem stableSortZ_keys {β : Type} (l : List (Int × β)) :
    (stableSortZ l).map (·.1) = sortInts (l.map (·.1)) :=
  (List.foldr_map.trans (List.foldr_hom (init := []) (List.map _) insertZ_keys)).symm

theorem keys_unit (l : List Int) : (l.map (·, ())).map (·.1) = l :=
  (List.map_map ..).trans (List.map_id' l)

theorem sortInts_perm (l : List Int) : (sortInts l).Perm l := by
  have h := (stableSortZ_perm (l.map (·, ()))).map (·.1)
  rwa [stableSortZ_keys, keys_unit] at h

theorem mem_sortInts {k : Int} {l : List Int} : k ∈ sortInts l ↔ k ∈ l :=
  (sortInts_perm l).mem_iff

theorem sortInts_sorted (l : List Int) : (sortInts l).Pairwise (· ≤ ·) := by
  have h := List.pairwise_map.mpr (stableSortZ_sorted (l.map (·, ())))
  rwa [stableSortZ_keys, keys_unit] at h

theorem sortInts_nodup {l : List Int} (h : l.Nodup) : (sortInts l).Nodup :=
  (sortInts_perm l).nodup_iff.mpr h

theorem sortInts_strict {l : List Int} (h : l.Nodup) : (sortInts l).Pairwise (· < ·) := by
  have h1 := sortInts_sorted l
  have h2 : (sortInts l).Pairwise (· ≠ ·) := sortInts_nodup h
  exact (h1.and h2).imp (fun ⟨a, b⟩ => by omega)

theorem keys_assocAppend (z : Int) (c : Call α) (l : List (Int × List (Call α))) :
    (assocAppend z c l).map (·.1) =
      if z ∈ l.map (·.1) then l.map (·.1) else l.map (·.1) ++ [z] := by
  induction l with
  | nil => simp [assocAppend]
  | cons kl rest ih =>
    obtain ⟨k, l⟩ := kl
    simp only [assocAppend]
    by_cases hk : k = z
    · simp [hk]
    · have hk' : ¬ z = k := fun h => hk h.symm
      simp only [hk, if_false, List.map_cons, ih, List.mem_cons, hk', false_or]
      split <;> simp

theorem lookupZ_assocAppend (k z : Int) (c : Call α) (l : List (Int × List (Call α))) :
    lookupZ k (assocAppend z c l) = if z = k then lookupZ k l ++ [c] else lookupZ k l := by
  induction l with
  | nil =>
    simp only [assocAppend, lookupZ]
    split <;> simp
  | cons kl rest ih =>
    obtain ⟨k', l⟩ := kl
    simp only [assocAppend]
    by_cases hk : k' = z
    · subst hk
      simp only [if_true, lookupZ]
      split <;> rfl
    · simp only [hk, if_false, lookupZ, ih]
      by_cases hk2 : k' = k
      · have : ¬ z = k := fun h => hk (hk2.trans h.symm)
        simp [hk2, this]
      · simp [hk2]

theorem lookupZ_of_not_mem (k : Int) (l : List (Int × List (Call α))) (h : k ∉ l.map (·.1)) :
    lookupZ k l = [] := by
  induction l with
  | nil => rfl
  | cons kl rest ih =>
    obtain ⟨k', l⟩ := kl
    simp only [List.map_cons, List.mem_cons, not_or] at h
    have : ¬ k' = k := fun e => h.1 e.symm
    simp only [lookupZ, this, if_false]
    exact ih h.2

theorem lookupZ_map (k : Int) (f : Call α → Call α) (l : List (Int × List (Call α))) :
    lookupZ k (l.map (fun kl => (kl.1, kl.2.map f))) = (lookupZ k l).map f := by
  induction l with
  | nil => rfl
  | cons kl rest ih =>
    obtain ⟨k', l⟩ := kl
    simp only [List.map_cons, lookupZ]
    split
    · rfl
    · exact ih

/-- `layers` is `log` grouped by z-index: the keys are distinct and the list stored at `k` is the
sub-list of the log recorded at z-index `k`, in recording order. -/
def WF (layers : List (Int × List (Call α))) (log : List (Int × Call α)) : Prop :=
  (layers.map (·.1)).Nodup ∧
  ∀ k : Int, lookupZ k layers = (log.filter (fun zc => decide (zc.1 = k))).map (·.2)

theorem WF_nil : WF ([] : List (Int × List (Call α))) [] := ⟨List.nodup_nil, fun _ => rfl⟩

theorem WF_assocAppend (z : Int) (c : Call α) {layers : List (Int × List (Call α))}
    {log : List (Int × Call α)} : WF layers log → WF (assocAppend z c layers) (log ++ [(z, c)]) := by
  rintro ⟨hn, hl⟩
  refine ⟨?_, fun k => ?_⟩
  · rw [keys_assocAppend]
    split
    · exact hn
    · rename_i hz
      rw [List.nodup_append]
      refine ⟨hn, List.pairwise_singleton _ z, ?_⟩
      intro a ha b hb e
      rw [List.mem_singleton.mp hb] at e
      exact hz (e ▸ ha)
  · rw [lookupZ_assocAppend, hl k, List.filter_append, List.map_append]
    by_cases hz : z = k <;> simp [hz]

/-- `Canvas.renderViewTo` with every emitted call tagged with the key it was stored under -/
def replayZ (o : Ops α) (view : Mat α) (cv : Canvas α) : List (Int × Call α) :=
  (sortInts (cv.layers.map (·.1))).flatMap
    (fun k => (lookupZ k cv.layers).map (fun c => (k, Call.pre o view c)))

theorem replayZ_snd (o : Ops α) (view : Mat α) (cv : Canvas α) :
    (replayZ o view cv).map (·.2) = cv.renderViewTo o view := by
  simp only [replayZ, Canvas.renderViewTo, List.map_flatMap, List.map_map, Function.comp_def]

/-- sortedness needs no invariant: the keys are visited in sorted order -/
theorem replayZ_sorted (o : Ops α) (view : Mat α) (cv : Canvas α) :
    (replayZ o view cv).Pairwise (fun a b => a.1 ≤ b.1) := by
  unfold replayZ
  rw [List.pairwise_flatMap]
  constructor
  · intro k _
    rw [List.pairwise_map]
    exact List.pairwise_of_forall (fun _ _ => Int.le_refl k)
  · refine (sortInts_sorted _).imp ?_
    intro a b hab x hx y hy
    simp only [List.mem_map] at hx hy
    obtain ⟨_, _, rfl⟩ := hx
    obtain ⟨_, _, rfl⟩ := hy
    exact hab

theorem filter_flatMap_key {β : Type} {f : Int → List (Int × β)} (hf : ∀ k, ∀ x ∈ f k, x.1 = k)
    {ks : List Int} (hn : ks.Nodup) (k : Int) :
    (ks.flatMap f).filter (fun a => decide (a.1 = k)) = if k ∈ ks then f k else [] := by
  induction ks with
  | nil => rfl
  | cons k' ks ih =>
    have hn' := List.nodup_cons.mp hn
    rw [List.flatMap_cons, List.filter_append, ih hn'.2]
    by_cases hk : k' = k
    · subst hk
      have h1 : (f k').filter (fun a => decide (a.1 = k')) = f k' :=
        List.filter_eq_self.mpr (fun x hx => by simp [hf k' x hx])
      simp [h1, hn'.1]
    · have h1 : (f k').filter (fun a => decide (a.1 = k)) = [] :=
        List.filter_eq_nil_iff.mpr (fun x hx => by simp [hf k' x hx, hk])
      have hk' : ¬ k = k' := fun e => hk e.symm
      simp [h1, List.mem_cons, hk']

theorem block_eq (o : Ops α) (view : Mat α) (cv : Canvas α) (hw : WF cv.layers cv.log) (k : Int) :
    (lookupZ k cv.layers).map (fun c => (k, Call.pre o view c)) =
      (cv.log.filter (fun zc => decide (zc.1 = k))).map (fun zc => (zc.1, Call.pre o view zc.2)) := by
  rw [hw.2 k, List.map_map]
  apply List.map_congr_left
  intro zc hzc
  have : zc.1 = k := by simpa using (List.mem_filter.mp hzc).2
  simp [this]

theorem replay_stable (o : Ops α) (view : Mat α) (cv : Canvas α) (hw : WF cv.layers cv.log) (k : Int) :
    (replayZ o view cv).filter (fun a => decide (a.1 = k)) =
      (cv.log.filter (fun zc => decide (zc.1 = k))).map (fun zc => (zc.1, Call.pre o view zc.2)) := by
  unfold replayZ
  rw [filter_flatMap_key _ (sortInts_nodup hw.1) k]
  · split
    · exact block_eq o view cv hw k
    · rename_i hk
      rw [← block_eq o view cv hw k, lookupZ_of_not_mem k cv.layers (fun h => hk (mem_sortInts.mpr h))]
      rfl
  · intro k' x hx
    simp only [List.mem_map] at hx
    obtain ⟨_, _, rfl⟩ := hx
    rfl

theorem replayZ_eq_stableSort (o : Ops α) (view : Mat α) (cv : Canvas α) (hw : WF cv.layers cv.log) :
    replayZ o view cv = stableSortZ (cv.log.map (fun zc => (zc.1, Call.pre o view zc.2))) := by
  apply sorted_stable_unique _ _ (replayZ_sorted o view cv) (stableSortZ_sorted _)
  intro k
  rw [replay_stable o view cv hw k, stableSortZ_stable, List.filter_map]
  rfl

theorem replay_perm (o : Ops α) (view : Mat α) (cv : Canvas α) (hw : WF cv.layers cv.log) :
    (replayZ o view cv).Perm (cv.log.map (fun zc => (zc.1, Call.pre o view zc.2))) :=
  replayZ_eq_stableSort o view cv hw ▸ stableSortZ_perm _

theorem renderViewTo_eq_spec (o : Ops α) (view : Mat α) (cv : Canvas α) (hw : WF cv.layers cv.log) :
    cv.renderViewTo o view = (stableSortZ cv.log).map (fun zc => Call.pre o view zc.2) := by
  rw [← replayZ_snd, replayZ_eq_stableSort o view cv hw, stableSortZ_map (Call.pre o view), List.map_map]
  rfl

end C15
