import CanvasProofs.Lemmas.C20Pool
import CanvasGen.FactsC20
namespace Canvas.C20
open Canvas.FactsC20

/-- Everything that is evaluated over the table of Get sites is one declaration: the evaluation is
mostly comparisons of field names, and the kernel remembers a comparison of two literals only until
the end of the declaration it occurs in. -/
theorem getSites_evaluated :
    (∀ g, g ∈ getSites → initOk g.fields g.steps [] = true) ∧
    (∀ g, g ∈ getSites → g.stateless = true) ∧
    (∀ p, p ∈ ["canvas.boPointPool", "canvas.boNodePool", "canvas.boSquarePool"] →
      ∃ g, g ∈ getSites ∧ g.pool = p) ∧
    (∀ g, g ∈ getSites → pooledStructs.lookup g.typ = some g.fields) ∧
    (∀ g, g ∈ getSites → g.typ = "SweepPoint" → "traced" ∈ g.assigned) ∧
    (∀ g, g ∈ getSites → g.typ = "SweepNode" → g.fields.length = 5) := by
  decide +kernel

end Canvas.C20
