import CanvasProofs.Lemmas.C08

/-! # C08 — soundness of the executable verdict `Canvas.C08.verdict` / `rectNear`
(the specification that judges the real code's output on `V`/`VE` lines) -/
set_option linter.unusedSectionVars false
namespace C08
open Canvas Canvas.C08 GenK
variable {K : Type} [Field K] [LinearOrder K] [IsStrictOrderedRing K] [Env K] [ArcFns K]

@[simp] theorem ops_le' (a b : K) : Ops.le a b = decide (a ≤ b) := rfl
@[simp] theorem ops_abs (a : K) : Ops.abs a = |a| := rfl

/-- what `verdict = ok` says, per axis -/
def AxisOk (tolC tolT slo shi blo bhi flo fhi : K) : Prop :=
  (blo ≤ slo + tolC ∧ shi - tolC ≤ bhi) ∧ (|blo - slo| ≤ tolT ∧ |bhi - shi| ≤ tolT) ∧
  (flo ≤ min blo slo + tolC ∧ max bhi shi - tolC ≤ fhi)

/-- one test of the cascade -/
theorem verdict_step (b : Bool) (v r : Verdict) :
    (if (!b) = true then v else r) = .ok ↔ (b = true ∧ r = .ok) ∨ (b = false ∧ v = .ok) := by
  cases b <;> simp

theorem verdict_ok_iff (tolC tolT : K) (s b f : Rct K) :
    verdict tolC tolT s b f = Verdict.ok ↔
      AxisOk tolC tolT s.x0 s.x1 b.x0 b.x1 f.x0 f.x1 ∧ AxisOk tolC tolT s.y0 s.y1 b.y0 b.y1 f.y0 f.y1 := by
  simp only [verdict]
  simp only [verdict_step, reduceCtorEq, and_false, or_false, and_true]
  simp only [axisContains, axisTight, axisFast, AxisOk, ops_le', ops_abs, ops_mn, ops_mx, Bool.and_eq_true,
    decide_eq_true_eq]
  constructor
  · rintro ⟨c0, t0, c1, t1, f0, f1⟩; exact ⟨⟨c0, t0, f0⟩, ⟨c1, t1, f1⟩⟩
  · rintro ⟨⟨c0, t0, f0⟩, ⟨c1, t1, f1⟩⟩; exact ⟨c0, t0, c1, t1, f0, f1⟩

theorem axisOk_sound {tolC tolT slo shi blo bhi flo fhi : K} (h : AxisOk tolC tolT slo shi blo bhi flo fhi) :
    (∀ v, slo ≤ v → v ≤ shi → blo - tolC ≤ v ∧ v ≤ bhi + tolC) ∧ flo - tolC ≤ blo ∧ bhi ≤ fhi + tolC := by
  obtain ⟨a1, _, a3⟩ := h
  exact ⟨fun v h1 h2 => ⟨by linarith [a1.1], by linarith [a1.2]⟩, by linarith [a3.1, min_le_left blo slo],
    by linarith [a3.2, le_max_left bhi shi]⟩

theorem axisOk_mono {tolC tolT tolC' tolT' slo shi blo bhi flo fhi : K} (hC : tolC ≤ tolC') (hT : tolT ≤ tolT')
    (h : AxisOk tolC tolT slo shi blo bhi flo fhi) : AxisOk tolC' tolT' slo shi blo bhi flo fhi := by
  obtain ⟨a1, a2, a3⟩ := h
  exact ⟨⟨by linarith [a1.1], by linarith [a1.2]⟩, ⟨a2.1.trans hT, a2.2.trans hT⟩, ⟨by linarith [a3.1], by linarith [a3.2]⟩⟩

theorem axisOk_translate (tolC tolT d slo shi blo bhi flo fhi : K) :
    AxisOk tolC tolT (slo + d) (shi + d) (blo + d) (bhi + d) (flo + d) (fhi + d) ↔
      AxisOk tolC tolT slo shi blo bhi flo fhi := by
  simp only [AxisOk, min_add_add_right, max_add_add_right, add_sub_add_right_eq_sub, add_right_comm _ d tolC,
    add_sub_right_comm _ d tolC, add_le_add_iff_right]

theorem axisOk_zero (slo shi blo bhi flo fhi : K) :
    AxisOk 0 0 slo shi blo bhi flo fhi ↔ (blo = slo ∧ bhi = shi) ∧ flo ≤ blo ∧ bhi ≤ fhi := by
  simp only [AxisOk, add_zero, sub_zero, abs_nonpos_iff, sub_eq_zero]
  constructor
  · rintro ⟨_, ⟨rfl, rfl⟩, p⟩
    rw [min_self, max_self] at p
    exact ⟨⟨rfl, rfl⟩, p⟩
  · rintro ⟨⟨rfl, rfl⟩, p⟩
    rw [min_self, max_self]
    exact ⟨⟨le_refl _, le_refl _⟩, ⟨rfl, rfl⟩, p⟩

theorem verdict_sound (tolC tolT : K) (s b f : Rct K) (h : verdict tolC tolT s b f = Verdict.ok) :
    (∀ q, InRect s q → b.x0 - tolC ≤ q.x ∧ q.x ≤ b.x1 + tolC ∧ b.y0 - tolC ≤ q.y ∧ q.y ≤ b.y1 + tolC) ∧
    (|b.x0 - s.x0| ≤ tolT ∧ |b.x1 - s.x1| ≤ tolT ∧ |b.y0 - s.y0| ≤ tolT ∧ |b.y1 - s.y1| ≤ tolT) ∧
    (f.x0 - tolC ≤ b.x0 ∧ b.x1 ≤ f.x1 + tolC ∧ f.y0 - tolC ≤ b.y0 ∧ b.y1 ≤ f.y1 + tolC) := by
  obtain ⟨hx, hy⟩ := (verdict_ok_iff tolC tolT s b f).1 h
  have X := axisOk_sound hx
  have Y := axisOk_sound hy
  exact ⟨fun q hq => ⟨(X.1 _ hq.1 hq.2.1).1, (X.1 _ hq.1 hq.2.1).2, (Y.1 _ hq.2.2.1 hq.2.2.2).1, (Y.1 _ hq.2.2.1 hq.2.2.2).2⟩,
    ⟨hx.2.1.1, hx.2.1.2, hy.2.1.1, hy.2.1.2⟩, X.2.1, X.2.2, Y.2.1, Y.2.2⟩

theorem verdict_mono (tolC tolT tolC' tolT' : K) (hC : tolC ≤ tolC') (hT : tolT ≤ tolT') (s b f : Rct K)
    (h : verdict tolC tolT s b f = Verdict.ok) : verdict tolC' tolT' s b f = Verdict.ok := by
  rw [verdict_ok_iff] at h ⊢
  exact ⟨axisOk_mono hC hT h.1, axisOk_mono hC hT h.2⟩

theorem rectNear_iff (tol : K) (a b : Rct K) :
    rectNear tol a b = true ↔ |a.x0 - b.x0| ≤ tol ∧ |a.y0 - b.y0| ≤ tol ∧ |a.x1 - b.x1| ≤ tol ∧ |a.y1 - b.y1| ≤ tol := by
  simp [rectNear, and_assoc]

end C08
