import CanvasProofs.Lemmas.C09Chain
namespace C09L
open Canvas Canvas.Path Canvas.C09
variable {α : Type}

theorem dataLen_append (xs ys : List (Cmd α)) : dataLen (xs ++ ys) = dataLen xs + dataLen ys := by
  induction xs with
  | nil => simp [dataLen]
  | cons c cs ih => simp [dataLen, ih]; omega

theorem splitGo_concat (acc cs : List (Cmd α)) :
    (splitGo acc cs).flatten ++ splitRestGo acc cs = acc ++ cs ∧ dataLen (splitRestGo acc cs) ≤ 4 := by
  induction cs generalizing acc with
  | nil =>
    by_cases h : 4 < dataLen acc
    · simp [splitGo, splitRestGo, h, dataLen]
    · simp [splitGo, splitRestGo, h, Nat.le_of_not_lt h]
  | cons c cs ih =>
    by_cases h : (!acc.isEmpty && c.isMove) = true
    · simp only [splitGo, splitRestGo, h, if_true, List.flatten_cons, List.append_assoc]
      exact ⟨by rw [(ih [c]).1]; rfl, (ih [c]).2⟩
    · simp only [splitGo, splitRestGo, h, if_false, Bool.false_eq_true]
      exact ⟨by rw [(ih (acc ++ [c])).1]; simp, (ih _).2⟩

theorem splitGo_body {acc body rest : List (Cmd α)} (h : body.all (fun c => !c.isMove) = true) :
    splitGo acc (body ++ rest) = splitGo (acc ++ body) rest := by
  induction body generalizing acc with
  | nil => simp
  | cons c b ih =>
    simp only [List.all_cons, Bool.and_eq_true, Bool.not_eq_true'] at h
    have : (!acc.isEmpty && c.isMove) = false := by simp [h.1]
    simp only [List.cons_append, splitGo, this, Bool.false_eq_true, if_false]
    rw [ih (by simpa using h.2)]
    simp

/-- the last subpath is more than a lone MoveTo -/
def lastNontrivial (subs : List (SubPath α)) : Prop :=
  ∀ s, subs.getLast? = some s → 4 < dataLen (SubPath.flat s)

/-- `acc` is the piece in progress; when no subpath follows it is the last piece, which `Split` keeps only
if it is more than a lone MoveTo -/
theorem splitGo_flat (subs : List (SubPath α)) (hd : ∀ s ∈ subs, s.drawOnly = true) (hl : lastNontrivial subs) :
    ∀ acc : List (Cmd α), (subs = [] → acc ≠ [] → 4 < dataLen acc) →
    splitGo acc (flatF subs) = (if acc.isEmpty then [] else [acc]) ++ subs.map SubPath.flat := by
  induction subs with
  | nil =>
    intro acc h0
    cases acc with
    | nil => rfl
    | cons a as => simp [flatF, splitGo, h0 rfl]
  | cons s more ih =>
    intro acc _
    have hstep : splitGo acc (flatF (s :: more)) =
        (if acc.isEmpty then [] else [acc]) ++ splitGo (SubPath.flat s) (flatF more) := by
      rw [flatF_cons, splitGo]
      cases acc with
      | nil => exact splitGo_body (flat_body_no_move s (hd s (by simp)))
      | cons a as => exact congrArg (_ :: ·) (splitGo_body (flat_body_no_move s (hd s (by simp))))
    rw [hstep, ih (fun t ht => hd t (by simp [ht]))
      (fun t ht => hl t (by cases more with
        | nil => simp at ht
        | cons m ms => simpa [List.getLast?_cons_cons] using ht))
      _ (fun hm _ => hl s (by rw [hm]; rfl))]
    simp [SubPath.flat]

theorem encodeF_append (C : Codes α) (xs ys : List (Cmd α)) :
    encodeF C (xs ++ ys) = encodeF C xs ++ encodeF C ys := by
  simp [encodeF]

theorem encodeF_flatten (C : Codes α) (ps : List (List (Cmd α))) :
    encodeF C ps.flatten = (ps.map (encodeF C)).flatten := by
  induction ps with
  | nil => rfl
  | cons p ps ih => simp [encodeF_append, ih]

theorem encodeF_reverse (C : Codes α) (cs : RPath α) : encodeF C cs.reverse = encode C cs := by
  induction cs with
  | nil => rfl
  | cons c cs ih =>
    rw [List.reverse_cons, encodeF_append, ih]
    simp [encode, encodeF]

end C09L
