import CanvasModel.C03
import Mathlib.Algebra.Order.Field.Basic
/-! C03: the executable flattening verdict `coveredBy` over an ordered field. -/
set_option linter.unusedSectionVars false
namespace C03L
open Canvas Canvas.C03
variable {K : Type} [Field K] [LinearOrder K] [IsStrictOrderedRing K]

theorem clamp_mem (t : K) :
    0 ≤ (if t < 0 then 0 else if 1 < t then 1 else t) ∧ (if t < 0 then 0 else if 1 < t then 1 else t) ≤ 1 := by
  split_ifs with h0 h1
  exacts [⟨le_rfl, zero_le_one⟩, ⟨zero_le_one, le_rfl⟩, ⟨not_lt.mp h0, not_lt.mp h1⟩]

theorem footParam_mem (p a b : Pt K) : 0 ≤ footParam p a b ∧ footParam p a b ≤ 1 := clamp_mem _

theorem mem_edges_sublist {β : Type} : ∀ (l : List β) (e : β × β), e ∈ edges l → e.1 ∈ l ∧ e.2 ∈ l
  | [], e, h => by simp [edges] at h
  | [_], e, h => by simp [edges] at h
  | a :: b :: rest, e, h => by
    simp only [edges, List.mem_cons] at h
    rcases h with rfl | h
    · simp
    · have := mem_edges_sublist (b :: rest) e h
      exact ⟨List.mem_cons_of_mem _ this.1, List.mem_cons_of_mem _ this.2⟩

end C03L
