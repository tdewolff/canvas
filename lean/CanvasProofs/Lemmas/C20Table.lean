import CanvasProofs.Lemmas.C20
/-! # C20 lemmas: from the extracted access table to the trace discipline -/
namespace Canvas.C20

/-- the protection the table assigns to a variable (none: undisciplined) -/
def protOf (v : VarFact) : Option Prot :=
  if v.readOnly then some .readOnly
  else if v.onceDisciplined then v.onceOf.map Prot.byOnce
  else if v.lockDisciplined then v.lockOf.map (fun m => Prot.guarded (Tok.mu m))
  else if v.atomicDisciplined then some .atomicOnly
  else none

/-- the synchronisation context recorded for a site really holds at the plain read/write event `k` of
thread `t`. Sites inside a once body are not plain events of the model (they are the `body` of the
once) and atomic sites are `atomicOp` events. -/
structure Site.HoldsAt (s : Site) (tr : Trace) (t : Tid) (k : Nat) : Prop where
  lock : ∀ m, s.sync = .lock m → heldBy tr t (Tok.mu m) k = true
  after : ∀ o, s.sync = .afterOnce o → ∃ k', k' < k ∧ tr[k']? = some (t, Ev.onceDo o)
  notOnce : ∀ o, s.sync ≠ .once o
  notAtomic : s.sync ≠ .atomic

theorem Site.holdsAt_of_none (s : Site) (h : s.sync = .none) (tr : Trace) (t : Tid) (k : Nat) :
    s.HoldsAt tr t k where
  lock _ e := nomatch h.symm.trans e
  after _ e := nomatch h.symm.trans e
  notOnce _ e := nomatch h.symm.trans e
  notAtomic e := nomatch h.symm.trans e

/-- the trace's accesses to variable `v` are instances of the table's sites (reads of a variable that
is never written are not listed in the table and need no site) -/
structure Realises (body : String → List String) (v : VarFact) (tr : Trace) : Prop where
  rd : ∀ (k : Nat) (t : Tid), tr[k]? = some (t, Ev.read v.qname) →
    v.readOnly = true ∨ ∃ s, s ∈ v.reads ∧ s.HoldsAt tr t k
  wr : ∀ (k : Nat) (t : Tid), tr[k]? = some (t, Ev.write v.qname) → ∃ s, s ∈ v.writes ∧ s.HoldsAt tr t k
  atom : ∀ (k : Nat) (t : Tid), tr[k]? = some (t, Ev.atomicOp v.qname) →
    ∃ s, (s ∈ v.writes ∨ s ∈ v.reads) ∧ s.sync = .atomic
  bd : ∀ o, v.qname ∈ body o → ∃ s, s ∈ v.writes ∧ s.sync = .once o

theorem disciplined_obeys {v : VarFact} (hd : v.disciplined = true) :
    ∃ p, protOf v = some p ∧
      ∀ (body : String → List String) (tr : Trace), Realises body v tr → ObeysAt body p tr v.qname := by
  unfold protOf
  by_cases hro : v.readOnly = true
  · rw [if_pos hro]
    refine ⟨_, rfl, fun body tr hr => ?_⟩
    simp only [VarFact.readOnly, Bool.and_eq_true, List.isEmpty_iff, List.all_eq_true] at hro
    obtain ⟨⟨hw, _⟩, hrd⟩ := hro
    have nowr : ∀ s, s ∈ v.writes → False := by rw [hw]; exact fun _ h => nomatch h
    refine .of_accesses (fun _ _ _ => trivial) ?_ ?_ ?_
    · intro k t h; obtain ⟨s, hs, _⟩ := hr.wr k t h; exact (nowr s hs).elim
    · intro o ho; obtain ⟨s, hs, _⟩ := hr.bd o ho; exact (nowr s hs).elim
    · intro k t h
      obtain ⟨s, hs | hs, hsa⟩ := hr.atom k t h
      · exact (nowr s hs).elim
      · have := hrd s hs; simp [hsa] at this
  rw [if_neg hro]
  have rd : ∀ {body : String → List String} {tr : Trace}, Realises body v tr → ∀ (k : Nat) (t : Tid),
      tr[k]? = some (t, Ev.read v.qname) → ∃ s, s ∈ v.reads ∧ s.HoldsAt tr t k :=
    fun hr k t h => (hr.rd k t h).resolve_left hro
  by_cases hon : v.onceDisciplined = true
  · rw [if_pos hon]
    unfold VarFact.onceDisciplined at hon
    cases hoo : v.onceOf with
    | none => rw [hoo] at hon; cases hon
    | some o =>
      rw [hoo] at hon
      simp only [Bool.and_eq_true, List.all_eq_true, Site.inOnce, Site.inOrAfterOnce, Bool.or_eq_true,
        beq_iff_eq] at hon
      obtain ⟨hws, hrs⟩ := hon
      refine ⟨_, rfl, fun body tr hr => .of_accesses ?_ ?_ ?_ ?_⟩
      · intro k t h
        obtain ⟨s, hs, hh⟩ := rd hr k t h
        exact (hrs s hs).elim (fun h1 => absurd h1 (hh.notOnce o)) (hh.after o)
      · intro k t h; obtain ⟨s, hs, hh⟩ := hr.wr k t h; exact absurd (hws s hs) (hh.notOnce o)
      · intro o' ho'; obtain ⟨s, hs, hso⟩ := hr.bd o' ho'; cases (hws s hs).symm.trans hso; rfl
      · intro k t h
        obtain ⟨s, hs | hs, hsa⟩ := hr.atom k t h
        · cases (hws s hs).symm.trans hsa
        · rcases hrs s hs with h1 | h1 <;> cases h1.symm.trans hsa
  rw [if_neg hon]
  by_cases hld : v.lockDisciplined = true
  · rw [if_pos hld]
    unfold VarFact.lockDisciplined at hld
    cases hlo : v.lockOf with
    | none => rw [hlo] at hld; cases hld
    | some m =>
      rw [hlo] at hld
      simp only [Bool.and_eq_true, List.all_eq_true, Site.underLock, beq_iff_eq] at hld
      obtain ⟨hws, hrs⟩ := hld
      refine ⟨_, rfl, fun body tr hr => .of_accesses ?_ ?_ ?_ ?_⟩
      · intro k t h; obtain ⟨s, hs, hh⟩ := rd hr k t h; exact hh.lock m (hrs s hs)
      · intro k t h; obtain ⟨s, hs, hh⟩ := hr.wr k t h; exact ⟨_, rfl, hh.lock m (hws s hs)⟩
      · intro o ho; obtain ⟨s, hs, hso⟩ := hr.bd o ho; cases (hws s hs).symm.trans hso
      · intro k t h
        obtain ⟨s, hs | hs, hsa⟩ := hr.atom k t h
        · cases (hws s hs).symm.trans hsa
        · cases (hrs s hs).symm.trans hsa
  rw [if_neg hld]
  by_cases had : v.atomicDisciplined = true
  · rw [if_pos had]
    simp only [VarFact.atomicDisciplined, Bool.and_eq_true, List.all_eq_true, beq_iff_eq] at had
    obtain ⟨⟨_, hws⟩, hrs⟩ := had
    refine ⟨_, rfl, fun body tr hr => .of_accesses ?_ ?_ ?_ (fun _ _ _ => rfl)⟩
    · intro k t h; obtain ⟨s, hs, hh⟩ := rd hr k t h; exact hh.notAtomic (hrs s hs)
    · intro k t h; obtain ⟨s, hs, hh⟩ := hr.wr k t h; exact absurd (hws s hs) hh.notAtomic
    · intro o ho; obtain ⟨s, hs, hso⟩ := hr.bd o ho; cases (hws s hs).symm.trans hso
  · simp only [VarFact.disciplined, Bool.or_eq_true, Bool.and_eq_true] at hd
    rcases hd with h | ⟨_, (h | h) | h⟩ <;> contradiction

theorem protOf_isSome {v : VarFact} (h : v.disciplined = true) : (protOf v).isSome = true := by
  obtain ⟨p, e, _⟩ := disciplined_obeys h
  rw [e]
  rfl

end Canvas.C20
