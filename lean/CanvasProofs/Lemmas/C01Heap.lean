import CanvasModel.C01Heap
/-!
The `SweepEvents` binary heap model (`CanvasModel/C01Heap.lean`) for an abstract strict weak order
`less`. `down` and `up` carry a hole along a path of the implicit tree (`Hole`: the heap order with
nothing assumed at one index); one swap moves the hole and leaves the edges behind it in order
(`hole_down`: `Top`, `hole_up`: `Bot`), and each of `Init`, `Push`, `Pop`, `Fix` starts from a `Hole`.
Core Lean only.
-/
namespace Canvas.C01Heap
variable {α : Type}

structure StrictWeak (less : α → α → Bool) : Prop where
  irrefl : ∀ a, less a a = false
  trans : ∀ a b c, less a b = true → less b c = true → less a c = true
  ntrans : ∀ a b c, less a b = false → less b c = false → less a c = false

variable {less : α → α → Bool}

theorem StrictWeak.asymm (sw : StrictWeak less) {a b : α} (h : less a b = true) :
    less b a = false := by
  cases hb : less b a with
  | false => rfl
  | true => have := sw.trans a b a h hb; rw [sw.irrefl] at this; contradiction

/-- `a[p] ≤ a[k]` (i.e. `¬ a[k] < a[p]`) whenever both indices are in range -/
def Le (less : α → α → Bool) (a : Array α) (p k : Nat) : Prop :=
  ∀ (hp : p < a.size) (hk : k < a.size), less a[k] a[p] = false

theorem Le_congr {a b : Array α} {p k p' k' : Nat} (hp : b[p]? = a[p']?) (hk : b[k]? = a[k']?)
    (h : Le less a p' k') : Le less b p k := by
  intro hp' hk'
  rw [Array.getElem?_eq_getElem hp'] at hp
  rw [Array.getElem?_eq_getElem hk'] at hk
  obtain ⟨h1, e1⟩ := Array.getElem?_eq_some_iff.1 hp.symm
  obtain ⟨h2, e2⟩ := Array.getElem?_eq_some_iff.1 hk.symm
  rw [← e1, ← e2]; exact h h1 h2

theorem Le.trans (sw : StrictWeak less) {a : Array α} {g p k : Nat} (h1 : Le less a g p)
    (h2 : Le less a p k) (hp : p < a.size) : Le less a g k :=
  fun hg hk => sw.ntrans _ _ _ (h2 hp hk) (h1 hg hp)

theorem swap_left {a : Array α} {i j : Nat} {hi : i < a.size} {hj : j < a.size} :
    (a.swap i j hi hj)[i]? = a[j]? := by
  rw [Array.getElem?_swap, if_pos rfl, ← Array.getElem?_eq_getElem hj]
  split
  · next h => subst h; rw [Array.getElem?_eq_getElem hj]
  · rfl

theorem swap_right {a : Array α} {i j : Nat} {hi : i < a.size} {hj : j < a.size} :
    (a.swap i j hi hj)[j]? = a[i]? := by
  rw [Array.getElem?_swap, if_pos rfl, Array.getElem?_eq_getElem hi]

theorem swap_ne {a : Array α} {i j k : Nat} {hi : i < a.size} {hj : j < a.size} (h1 : k ≠ i)
    (h2 : k ≠ j) : (a.swap i j hi hj)[k]? = a[k]? := by
  rw [Array.getElem?_swap, if_neg (Ne.symm h2), if_neg (Ne.symm h1)]

/-- the edges of the implicit tree; `child_iff` links them to the `(k - 1) / 2` of `up` and `IsHeap` -/
def Child (p k : Nat) : Prop := k = 2 * p + 1 ∨ k = 2 * p + 2

theorem child_iff {p k : Nat} : Child p k ↔ 0 < k ∧ (k - 1) / 2 = p := by
  unfold Child; omega

theorem Child.le {p k : Nat} (h : Child p k) : 2 * p + 1 ≤ k := by
  unfold Child at h; omega

theorem Child.lt {p k : Nat} (h : Child p k) : p < k := by
  have := h.le; omega

theorem Child.unique {p p' k : Nat} (h : Child p k) (h' : Child p' k) : p = p' := by
  unfold Child at h h'; omega

theorem Child.parent {k : Nat} (h : 0 < k) : Child ((k - 1) / 2) k := child_iff.2 ⟨h, rfl⟩

theorem child_spec (sw : StrictWeak less) (a : Array α) (i n : Nat) (hn : n ≤ a.size)
    (h1 : 2 * i + 1 < n) :
    Child i (child less a i n hn h1) ∧
    ∀ k, Child i k → k < n → Le less a (child less a i n hn h1) k := by
  unfold child
  split
  · split
    · rename_i h2 hl
      refine ⟨Or.inr rfl, fun k hk hkn hp hk' => ?_⟩
      rcases hk with rfl | rfl
      · exact sw.asymm hl
      · exact sw.irrefl _
    · rename_i h2 hl
      refine ⟨Or.inl rfl, fun k hk hkn hp hk' => ?_⟩
      rcases hk with rfl | rfl
      · exact sw.irrefl _
      · simpa using hl
  · rename_i h2
    refine ⟨Or.inl rfl, fun k hk hkn hp hk' => ?_⟩
    rcases hk with rfl | rfl
    · exact sw.irrefl _
    · exact absurd hkn h2

theorem downLoop_perm (a : Array α) (i n : Nat) (hn : n ≤ a.size) :
    (downLoop less a i n hn).1.Perm a := by
  fun_induction downLoop less a i n hn with
  | case1 => exact Array.Perm.refl _
  | case2 => exact Array.Perm.refl _
  | case3 a i hn h1 h1' j hj hji hl ih => exact ih.trans (Array.swap_perm _ _)

theorem up_perm (a : Array α) (j : Nat) (hj : j < a.size) :
    (up less a j hj).Perm a := by
  fun_induction up less a j hj with
  | case1 => exact Array.Perm.refl _
  | case2 a j hj i h ih => exact ih.trans (Array.swap_perm _ _)

theorem size_up (a : Array α) (j : Nat) (hj : j < a.size) :
    (up less a j hj).size = a.size := (up_perm a j hj).size_eq

theorem size_push (less : α → α → Bool) (a : Array α) (x : α) : (push less a x).size = a.size + 1 := by
  unfold push
  rw [size_up]
  simp

theorem size_downLoop (a : Array α) (i n : Nat) (hn : n ≤ a.size) :
    (downLoop less a i n hn).1.size = a.size := (downLoop_perm a i n hn).size_eq

/-- `n` is the bound of `down(i, n)` (`Pop` leaves the last slot out); `lo` is how far `Init` has
come: only the edges whose parent is `≥ lo` are in order yet -/
def HeapFrom (less : α → α → Bool) (a : Array α) (n lo : Nat) : Prop :=
  ∀ p k, Child p k → k < n → lo ≤ p → Le less a p k

/-- `HeapFrom` with a hole at `i`: nothing is assumed about the edges touching `i`, but the
children of `i` are `≥` the parent of `i` -/
structure Hole (less : α → α → Bool) (a : Array α) (n lo i : Nat) : Prop where
  off : ∀ p k, Child p k → k < n → lo ≤ p → p ≠ i → k ≠ i → Le less a p k
  across : ∀ g k, Child g i → Child i k → k < n → lo ≤ g → Le less a g k

/-- the edge above a hole at `i` (if the parent is in scope) and the edges below it -/
def Top (less : α → α → Bool) (a : Array α) (lo i : Nat) : Prop :=
  ∀ g, Child g i → lo ≤ g → Le less a g i

def Bot (less : α → α → Bool) (a : Array α) (n i : Nat) : Prop :=
  ∀ k, Child i k → k < n → Le less a i k

theorem heapFrom_of_hole {a : Array α} {n lo i : Nat} (hd : Hole less a n lo i)
    (ht : Top less a lo i) (hb : Bot less a n i) : HeapFrom less a n lo := by
  intro p k hpk hkn hlo
  by_cases hki : k = i
  · subst hki; exact ht p hpk hlo
  · by_cases hpi : p = i
    · subst hpi; exact hb k hpk hkn
    · exact hd.off p k hpk hkn hlo hpi hki

/-- `down` swaps the hole `i` with its least child `j` -/
theorem hole_down (sw : StrictWeak less) {a : Array α} {i j n lo : Nat} (hi : i < a.size)
    (hj : j < a.size) (hjn : j < n) (hc : Child i j) (hmin : ∀ k, Child i k → k < n → Le less a j k)
    (hl : ¬ less a[j] a[i] = false) (hd : Hole less a n lo i) :
    Hole less (a.swap i j hi hj) n lo j ∧ Top less (a.swap i j hi hj) lo j := by
  refine ⟨⟨fun p k hpk hkn hlo hpj hkj => ?_, fun g k hg hk hkn hlo => ?_⟩, fun g hg _ => ?_⟩
  · by_cases hki : k = i
    · -- the old child, now at `i`, against the parent of `i`
      subst hki
      exact Le_congr (swap_ne (Nat.ne_of_lt hpk.lt) hpj) swap_left (hd.across p j hpk hc hjn hlo)
    · by_cases hpi : p = i
      · -- the sibling against the old child
        subst hpi
        exact Le_congr swap_left (swap_ne hki hkj) (hmin k hpk hkn)
      · exact Le_congr (swap_ne hpi hpj) (swap_ne hki hkj) (hd.off p k hpk hkn hlo hpi hki)
  · obtain rfl := hc.unique hg
    have hik : k ≠ i := Nat.ne_of_lt' (Nat.lt_trans hc.lt hk.lt)
    exact Le_congr swap_left (swap_ne hik (Nat.ne_of_lt' hk.lt))
      (hd.off j k hk hkn (Nat.le_trans hlo (Nat.le_of_lt hc.lt)) (Nat.ne_of_lt' hc.lt) hik)
  · obtain rfl := hc.unique hg
    exact Le_congr swap_left swap_right fun _ _ => sw.asymm (eq_true_of_ne_false hl)

/-- `up` swaps the hole `j` with its parent `i` -/
theorem hole_up (sw : StrictWeak less) {a : Array α} {i j n : Nat} (hi : i < a.size)
    (hj : j < a.size) (hjn : j < n) (hc : Child i j) (hl : ¬ less a[j] a[i] = false)
    (hd : Hole less a n 0 j) :
    Hole less (a.swap i j hi hj) n 0 i ∧ Bot less (a.swap i j hi hj) n i := by
  have hin : i < n := Nat.lt_trans hc.lt hjn
  have hl := eq_true_of_ne_false hl
  refine ⟨⟨fun p k hpk hkn _ hpi hki => ?_, fun g k hg hk hkn _ => ?_⟩, fun k hk hkn => ?_⟩
  · by_cases hpj : p = j
    · -- the old parent, now at `j`, against the children of `j`
      subst hpj
      exact Le_congr swap_right (swap_ne hki (Nat.ne_of_lt' hpk.lt))
        (hd.across i k hc hpk hkn (Nat.zero_le _))
    · have hkj : k ≠ j := fun e => hpi (hpk.unique (e ▸ hc))
      exact Le_congr (swap_ne hpi hpj) (swap_ne hki hkj)
        (hd.off p k hpk hkn (Nat.zero_le _) hpj hkj)
  · -- the grandparent against the children of `i`: through the old parent
    have hgj : g ≠ j := Nat.ne_of_lt (Nat.lt_trans hg.lt hc.lt)
    have hgi := hd.off g i hg hin (Nat.zero_le _) hgj (Nat.ne_of_lt hc.lt)
    have e1 := swap_ne (a := a) (hi := hi) (hj := hj) (Nat.ne_of_lt hg.lt) hgj
    by_cases hkj : k = j
    · subst hkj; exact Le_congr e1 swap_right hgi
    · exact Le_congr e1 (swap_ne (Nat.ne_of_lt' hk.lt) hkj)
        (hgi.trans sw (hd.off i k hk hkn (Nat.zero_le _) (Nat.ne_of_lt hc.lt) hkj) hi)
  · by_cases hkj : k = j
    · subst hkj; exact Le_congr swap_left swap_right fun _ _ => sw.asymm hl
    · refine Le_congr swap_left (swap_ne (Nat.ne_of_lt' hk.lt) hkj) fun _ hk' => ?_
      have h1 := hd.off i k hk hkn (Nat.zero_le _) (Nat.ne_of_lt hc.lt) hkj hi hk'
      cases hb' : less a[k] a[j] with
      | false => rfl
      | true => rw [sw.trans _ _ _ hb' hl] at h1; contradiction

/-- `down` repairs a hole at `i` if the edge above `i` is in order, or else if it moves the element
at all (then its old child takes the place, which is in order with the parent of `i`) -/
theorem downLoop_heapFrom (sw : StrictWeak less) (a : Array α) (i n lo : Nat) (hn : n ≤ a.size)
    (hd : Hole less a n lo i) (ht : Top less a lo i ∨ i < (downLoop less a i n hn).2) :
    HeapFrom less (downLoop less a i n hn).1 n lo := by
  fun_induction downLoop less a i n hn with
  | case1 a i hn h1 =>
    exact heapFrom_of_hole hd (ht.resolve_right (Nat.lt_irrefl i)) fun k hk hkn => by
      have := hk.le; omega
  | case2 a i hn h1 h1' j hj hji hl =>
    exact heapFrom_of_hole hd (ht.resolve_right (Nat.lt_irrefl i)) fun k hk hkn =>
      Le.trans sw (fun _ _ => hl) ((child_spec sw a i n hn h1').2 k hk hkn) (Nat.lt_of_lt_of_le hj hn)
  | case3 a i hn h1 h1' j hj hji hl ih =>
    obtain ⟨hc, hmin⟩ := child_spec sw a i n hn h1'
    obtain ⟨h1, h2⟩ := hole_down sw (by omega) (by omega) hj hc hmin hl hd
    exact ih h1 (.inl h2)

theorem downLoop_ge {a : Array α} {i n : Nat} {hn : n ≤ a.size} :
    i ≤ (downLoop less a i n hn).2 := by
  fun_induction downLoop less a i n hn with
  | case1 => exact Nat.le_refl _
  | case2 => exact Nat.le_refl _
  | case3 a i hn h1 h1' j hj hji hl ih => omega

theorem downLoop_getElem?_out {a : Array α} {i n : Nat} {hn : n ≤ a.size}
    {k : Nat} (hout : k < i ∨ n ≤ k) :
    (downLoop less a i n hn).1[k]? = a[k]? := by
  fun_induction downLoop less a i n hn with
  | case1 => rfl
  | case2 => rfl
  | case3 a i hn h1 h1' j hj hji hl ih =>
    rw [ih (by omega), Array.getElem?_swap]
    rw [if_neg (by omega), if_neg (by omega)]

/-- `h`: `down` returned `false` -/
theorem downLoop_stay (sw : StrictWeak less) (a : Array α) (i n : Nat) (hn : n ≤ a.size)
    (h : ¬ i < (downLoop less a i n hn).2) :
    (downLoop less a i n hn).1 = a ∧ Bot less a n i := by
  fun_induction downLoop less a i n hn with
  | case1 a i hn h1 => exact ⟨rfl, fun k hk hkn => by have := hk.le; omega⟩
  | case2 a i hn h1 h1' j hj hji hl =>
    exact ⟨rfl, fun k hk hkn =>
      Le.trans sw (fun _ _ => hl) ((child_spec sw a i n hn h1').2 k hk hkn) (by omega)⟩
  | case3 a i hn h1 h1' j hj hji hl ih =>
    exact absurd (Nat.lt_of_lt_of_le hji downLoop_ge) h

theorem up_heapFrom (sw : StrictWeak less) (a : Array α) (j n : Nat) (hj : j < a.size)
    (hjn : j < n) (hd : Hole less a n 0 j) (hb : Bot less a n j) :
    HeapFrom less (up less a j hj) n 0 := by
  fun_induction up less a j hj with
  | case1 a j hj i h =>
    refine heapFrom_of_hole hd (fun g hg _ hp hk => ?_) hb
    obtain rfl : g = i := hg.unique (Child.parent (Nat.zero_lt_of_lt hg.lt))
    exact h.resolve_left (Nat.ne_of_lt hg.lt)
  | case2 a j hj i h ih =>
    have hc : Child i j := Child.parent (by omega)
    obtain ⟨h1, h2⟩ := hole_up sw (by omega) hj hjn hc (fun e => h (.inr e)) hd
    exact ih (Nat.lt_trans hc.lt hjn) h1 h2

/-- the binary min-heap invariant: no element is smaller than its parent -/
def IsHeap (less : α → α → Bool) (a : Array α) : Prop :=
  ∀ k (hk : k < a.size), 0 < k → less a[k] (a[(k - 1) / 2]'(by omega)) = false

theorem IsHeap.le {a : Array α} (h : IsHeap less a) {p k : Nat} (hpk : Child p k) :
    Le less a p k := by
  intro _ hk
  obtain ⟨hk0, rfl⟩ := child_iff.1 hpk
  exact h k hk hk0

/-- `Push`, `Pop` and `Fix` each start from an array that reads as a heap everywhere but at one index -/
theorem hole_of_agree (sw : StrictWeak less) {a b : Array α} {n i : Nat} (h : IsHeap less a)
    (hb : ∀ k, k ≠ i → k < n → b[k]? = a[k]?) : Hole less b n 0 i := by
  constructor
  · intro p k hpk hkn _ hpi hki
    exact Le_congr (hb p hpi (Nat.lt_trans hpk.lt hkn)) (hb k hki hkn) (h.le hpk)
  · intro g k hg hk hkn _
    exact Le_congr (hb g (Nat.ne_of_lt hg.lt) (Nat.lt_trans hg.lt (Nat.lt_trans hk.lt hkn)))
      (hb k (Nat.ne_of_lt' hk.lt) hkn)
      fun hg' hk' => sw.ntrans _ _ _ (h.le hk (Nat.lt_trans hk.lt hk') hk')
        (h.le hg hg' (Nat.lt_trans hk.lt hk'))

theorem isHeap_iff {a : Array α} : IsHeap less a ↔ HeapFrom less a a.size 0 := by
  constructor
  · intro h p k hpk _ _; exact h.le hpk
  · intro h k hk hk0; exact h _ k (Child.parent hk0) hk (Nat.zero_le _) (by omega) hk

theorem root_min (sw : StrictWeak less) (a : Array α) (h : IsHeap less a)
    (k : Nat) (hk : k < a.size) : less a[k] (a[0]'(by omega)) = false := by
  induction k using Nat.strongRecOn with
  | _ k ih =>
    by_cases hk0 : k = 0
    · subst hk0; exact sw.irrefl _
    · have h1 := h k hk (by omega)
      have h2 := ih ((k - 1) / 2) (by omega) (by omega)
      exact sw.ntrans _ _ _ h1 h2

theorem perm_pop_back {c : Array α} {m : α} (h : c.back? = some m) : c.toList.Perm (m :: c.pop.toList) := by
  obtain ⟨ys, rfl⟩ := Array.back?_eq_some_iff.mp h
  rw [Array.pop_push, Array.toList_push]
  exact List.perm_append_singleton _ _

theorem heap_push (sw : StrictWeak less) (a : Array α) (x : α) (h : IsHeap less a) :
    IsHeap less (push less a x) := by
  unfold push
  rw [isHeap_iff, size_up, Array.size_push]
  refine up_heapFrom sw _ _ _ _ (Nat.lt_succ_self _)
    (hole_of_agree sw h fun k hk _ => by rw [Array.getElem?_push, if_neg hk]) fun k hk hkn => ?_
  have := hk.le
  omega

theorem pop_back (a : Array α) (h0 : 0 < a.size) :
    (downLoop less (a.swap 0 (a.size - 1) h0 (by omega)) 0 (a.size - 1) (by simp)).1.back? = some a[0] := by
  rw [Array.back?_eq_getElem?, (size_downLoop ..).trans (Array.size_swap ..),
    downLoop_getElem?_out (.inr (Nat.le_refl _)), swap_right, Array.getElem?_eq_getElem h0]

/-- `none` is the Go index-out-of-range panic; the `none` branch of the model's `match` is never
taken (`pop_back`) -/
theorem pop_eq (a : Array α) :
    pop less a = if h0 : 0 < a.size then
      some (a[0], (downLoop less (a.swap 0 (a.size - 1) h0 (by omega)) 0 (a.size - 1) (by simp)).1.pop)
    else none := by
  unfold pop
  split
  · rename_i h0; simp only [pop_back a h0]
  · rfl

theorem pop_spec {a : Array α} {m : α} {b : Array α} (h : pop less a = some (m, b)) :
    ∃ (h0 : 0 < a.size), m = a[0] ∧
      b = (downLoop less (a.swap 0 (a.size - 1) h0 (by omega)) 0 (a.size - 1) (by simp)).1.pop := by
  rw [pop_eq] at h
  split at h
  · rename_i h0
    obtain ⟨rfl, rfl⟩ := Prod.mk.inj (Option.some.inj h)
    exact ⟨h0, rfl, rfl⟩
  · contradiction

theorem pop_root {a : Array α} {m : α} {b : Array α} (h : pop less a = some (m, b)) :
    a[0]? = some m := by
  obtain ⟨h0, rfl, -⟩ := pop_spec h
  exact Array.getElem?_eq_getElem h0

theorem pop_isSome (a : Array α) : (pop less a).isSome ↔ 0 < a.size := by
  rw [pop_eq]
  split
  · rename_i h0; simp only [h0, Option.isSome_some]
  · rename_i h0; simp only [h0, Option.isSome_none, Bool.false_eq_true]

theorem heap_pop (sw : StrictWeak less) (a : Array α) (m : α) (b : Array α)
    (h : IsHeap less a) (hp : pop less a = some (m, b)) : IsHeap less b := by
  obtain ⟨h0, -, rfl⟩ := pop_spec hp
  -- a hole at the root, which has no edge above it
  have hheap : HeapFrom less
      (downLoop less (a.swap 0 (a.size - 1) h0 (by omega)) 0 (a.size - 1) (by simp)).1 (a.size - 1) 0 :=
    downLoop_heapFrom sw _ _ _ 0 _ (hole_of_agree sw h fun k hk0 hkn => swap_ne hk0 (by omega))
      (.inl fun g hg => absurd hg.lt (Nat.not_lt_zero g))
  intro k hk hk0
  rw [Array.size_pop, size_downLoop, Array.size_swap] at hk
  rw [Array.getElem_pop, Array.getElem_pop]
  exact hheap _ k (Child.parent hk0) hk (Nat.zero_le _) _ _

theorem root_is_min (sw : StrictWeak less) (a : Array α) (m : α) (h : IsHeap less a)
    (h0 : a[0]? = some m) : m ∈ a ∧ ∀ x ∈ a, less x m = false := by
  obtain ⟨hs, rfl⟩ := Array.getElem?_eq_some_iff.mp h0
  refine ⟨Array.getElem_mem hs, fun x hx => ?_⟩
  obtain ⟨k, hk, rfl⟩ := Array.mem_iff_getElem.mp hx
  exact root_min sw a h k hk

theorem heap_pop_min {less : α → α → Bool} (sw : StrictWeak less) (a : Array α) (m : α) (b : Array α)
    (h : IsHeap less a) (hp : pop less a = some (m, b)) : m ∈ a ∧ ∀ x ∈ a, less x m = false :=
  root_is_min sw a m h (pop_root hp)

theorem heap_top_min {less : α → α → Bool} (sw : StrictWeak less) (a : Array α) (m : α)
    (h : IsHeap less a) (ht : top a = some m) : m ∈ a ∧ ∀ x ∈ a, less x m = false :=
  root_is_min sw a m h ht

theorem initLoop_perm (a : Array α) (k : Nat) : (initLoop less a k).Perm a := by
  induction k generalizing a with
  | zero => exact Array.Perm.refl _
  | succ k ih => unfold initLoop; exact (ih _).trans (downLoop_perm _ _ _ _)

theorem size_initLoop (a : Array α) (k : Nat) : (initLoop less a k).size = a.size :=
  (initLoop_perm a k).size_eq

theorem initLoop_heapFrom (sw : StrictWeak less) (a : Array α) (k n : Nat) (hn : a.size = n)
    (h : HeapFrom less a n k) : HeapFrom less (initLoop less a k) n 0 := by
  induction k generalizing a n with
  | zero => exact h
  | succ k ih =>
    unfold initLoop
    subst hn
    apply ih _ _ (size_downLoop _ _ _ _)
    exact downLoop_heapFrom sw _ _ _ _ _ ⟨fun p j hpj hjn hlo hpk _ => h p j hpj hjn (by omega),
      fun g j hg _ _ hlo => absurd hg.lt (by omega)⟩ (.inl fun g hg hlo => absurd hg.lt (by omega))

theorem heap_init (sw : StrictWeak less) (a : Array α) : IsHeap less (init less a) := by
  unfold init
  rw [isHeap_iff, size_initLoop]
  apply initLoop_heapFrom sw a _ _ rfl
  intro p k hpk hkn hlo; have := hpk.le; omega

theorem fix_spec (sw : StrictWeak less) (a : Array α) (i : Nat) (hi : i < a.size) (b : Array α)
    (hd : Hole less a a.size 0 i) (hf : fix less a i = some b) : IsHeap less b := by
  unfold fix down at hf
  simp only at hf
  split at hf
  · rename_i hmoved
    obtain rfl := Option.some.inj hf
    rw [isHeap_iff, size_downLoop]
    exact downLoop_heapFrom sw a i a.size 0 _ hd (.inr (by simpa using hmoved))
  · rename_i hstay
    obtain ⟨heq, hbot⟩ := downLoop_stay sw a i a.size _ (by simpa using hstay)
    rw [heq, up?, dif_pos hi] at hf
    obtain rfl := Option.some.inj hf
    rw [isHeap_iff, size_up]
    exact up_heapFrom sw a i a.size hi hi hd hbot

theorem heap_fix (sw : StrictWeak less) (a : Array α) (i : Nat) (x : α) (b : Array α)
    (h : IsHeap less a) (hf : setFix less a i x = some b) : IsHeap less b := by
  unfold setFix at hf
  split at hf
  · rename_i hi
    exact fix_spec sw _ i (by rw [Array.size_set]; exact hi) b
      (hole_of_agree sw h fun k hk _ => Array.getElem?_set_ne hi (Ne.symm hk)) hf
  · contradiction

theorem fix_perm {a : Array α} {i : Nat} {b : Array α} (hf : fix less a i = some b) :
    b.Perm a := by
  unfold fix down at hf
  simp only at hf
  split at hf
  · rw [← Option.some.inj hf]; exact downLoop_perm _ _ _ _
  · unfold up? at hf
    split at hf
    · rw [← Option.some.inj hf]; exact (up_perm _ _ _).trans (downLoop_perm _ _ _ _)
    · split at hf
      · rw [← Option.some.inj hf]; exact downLoop_perm _ _ _ _
      · contradiction

theorem fix_isSome {a : Array α} {i : Nat} (hi : i < a.size) : (fix less a i).isSome = true := by
  unfold fix up?
  simp only
  split
  · rfl
  · rw [dif_pos (show i < (down less a i a.size (Nat.le_refl _)).1.size from
      Nat.lt_of_lt_of_eq hi (size_downLoop a i a.size _).symm)]
    rfl

theorem setFix_isSome (a : Array α) (i : Nat) (x : α) :
    (setFix less a i x).isSome ↔ i < a.size := by
  unfold setFix
  split
  · rename_i hi
    simp only [hi, iff_true]
    exact fix_isSome (by rw [Array.size_set]; exact hi)
  · rename_i hi; simp [hi]

/-- `run = none` iff some `Pop` hit the empty heap or some `Fix` index was out of range
(`pop_isSome`, `setFix_isSome`) -/
theorem run_heap (sw : StrictWeak less) {a : Array α} {ops : List (Op α)}
    {c : Array α} {recs : List (PopRec α)} (h : IsHeap less a) (hr : run less a ops = some (c, recs)) :
    IsHeap less c ∧
    ∀ r ∈ recs, IsHeap less r.before ∧ r.popped ∈ r.before ∧ ∀ x ∈ r.before, less x r.popped = false := by
  induction ops generalizing a c recs with
  | nil =>
    obtain ⟨rfl, rfl⟩ := Prod.mk.inj (Option.some.inj hr)
    exact ⟨h, fun r hr => by cases hr⟩
  | cons op ops ih =>
    cases op with
    | push x => exact ih (heap_push sw a x h) hr
    | pop =>
      simp only [run] at hr
      split at hr
      · contradiction
      · rename_i m b hp
        split at hr
        · contradiction
        · rename_i c' recs' hr'
          obtain ⟨rfl, rfl⟩ := Prod.mk.inj (Option.some.inj hr)
          obtain ⟨h1, h2⟩ := ih (heap_pop sw a m b h hp) hr'
          refine ⟨h1, fun r hrm => ?_⟩
          rcases List.mem_cons.mp hrm with rfl | hrm
          · exact ⟨h, heap_pop_min sw a m b h hp⟩
          · exact h2 r hrm
    | fix i x =>
      simp only [run] at hr
      split at hr
      · contradiction
      · rename_i b hf
        exact ih (heap_fix sw a i x b h hf) hr

/-- the order used by the line protocol: the theorems are not vacuous -/
theorem strictWeak_ltInt : StrictWeak ltInt := by
  constructor
  · intro a; simp [ltInt]
  · intro a b c; simp only [ltInt, decide_eq_true_eq]; omega
  · intro a b c; simp only [ltInt, decide_eq_false_iff_not]; omega

example : IsHeap ltInt (init ltInt #[5, 3, 8, 1]) := heap_init strictWeak_ltInt _

/-- the hypothesis `run … = some _` of `C01.heap_any_history` is satisfiable: a push followed by a pop never panics -/
example (a0 : Array Int) (x : Int) : ∃ c r, run ltInt (init ltInt a0) [.push x, .pop] = some (c, [r]) := by
  have h := (pop_isSome (less := ltInt) (push ltInt (init ltInt a0) x)).mpr (by rw [size_push]; omega)
  obtain ⟨⟨m, b⟩, hp⟩ := Option.isSome_iff_exists.mp h
  exact ⟨b, ⟨push ltInt (init ltInt a0) x, m⟩, by simp [run, hp]⟩

end Canvas.C01Heap
