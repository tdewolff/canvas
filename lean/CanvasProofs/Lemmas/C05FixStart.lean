import CanvasProofs.Lemmas.C05

/-! `dashStart` after the repair e14817f (negative offsets reduced modulo the period). `fmod`
(`math.Mod`) is a parameter of which only `FmodSpec` is used; the driver plugs in the exact float
remainder. -/
set_option linter.unusedSectionVars false
namespace C05L
open Canvas.C05
variable {K : Type} [Field K] [LinearOrder K] [IsStrictOrderedRing K]

/-- all that the theorems assume of `math.Mod(x, P)`, for `x < 0 < P` -/
def FmodSpec (fmod : K → K → K) (d : List K) : Prop :=
  ∀ x : K, x < 0 → ∃ q : Nat, fmod x (period d) = x + pre d (q * d.length) ∧
    -period d < fmod x (period d) ∧ fmod x (period d) ≤ 0

theorem reducedOffset_spec (fmod : K → K → K) (d : List K) (hmod : FmodSpec fmod d)
    (offset : K) :
    ∃ m : Nat, reducedOffset fmod offset d = offset + pre d (m * d.length) ∧
      0 ≤ reducedOffset fmod offset d ∧ (0 ≤ offset → m = 0) ∧
      (offset < 0 → reducedOffset fmod offset d < period d) := by
  unfold reducedOffset
  split
  · next hneg =>
    obtain ⟨q, e, h1, h2⟩ := hmod offset hneg
    have hm (n : Nat) : 0 ≤ offset → n = 0 := fun h => absurd h (not_le.mpr hneg)
    unfold total
    split
    · next hr =>
      refine ⟨q + 1, ?_, le_of_lt (neg_lt_iff_pos_add.mp h1), hm _,
        fun _ => add_lt_of_neg_left _ hr⟩
      rw [Nat.succ_mul, pre_add_length, e, add_assoc]
    · next hr =>
      exact ⟨q, e, not_lt.mp hr, hm _,
        fun _ => lt_of_le_of_lt h2 (neg_lt_zero.mp (lt_of_lt_of_le h1 h2))⟩
  · next hnn =>
    exact ⟨0, by rw [Nat.zero_mul, pre_zero, add_zero], not_lt.mp hnn, fun _ => rfl, fun h => absurd h hnn⟩

theorem dashStart_isSome (fmod : K → K → K) (fuel : Nat) (offset : K) (d : List K) :
    (dashStart fmod fuel offset d).isSome = (dashStartLoop d fuel 0 (reducedOffset fmod offset d)).isSome := by
  unfold dashStart
  cases dashStartLoop d fuel 0 (reducedOffset fmod offset d) <;> rfl

set_option linter.unusedVariables false in
/-- `C05.start_invariant` restates this and says how to read it. `hnn` is not used:
`0 ≤ -pos0 < d[i0]` comes from the loop's exit test. -/
theorem start_invariant (fmod : K → K → K) (d : List K) (hne : d ≠ []) (hnn : ∀ x ∈ d, 0 ≤ x)
    (hmod : FmodSpec fmod d)
    (fuel : Nat) (offset : K) (i0 : Nat) (pos0 : K)
    (h : dashStart fmod fuel offset d = some (i0, pos0)) :
    pos0 ≤ 0 ∧ i0 < d.length ∧
      ∃ J m : Nat, J % d.length = i0 ∧ -pos0 < cyc d J ∧
        offset + pos0 + pre d (m * d.length) = pre d J ∧ (0 ≤ offset → m = 0) := by
  obtain ⟨m, e, h0, hm, _⟩ := reducedOffset_spec fmod d hmod offset
  unfold dashStart at h
  split at h
  · cases h
  · next i off' hloop =>
    cases h
    rw [← Nat.zero_mod d.length] at hloop
    obtain ⟨J', e1, _, e3, e4, e5⟩ := dashStartLoop_spec hne h0 hloop
    refine ⟨neg_nonpos.mpr e4, e1 ▸ Nat.mod_lt _ (List.length_pos_iff.mpr hne), J', m, e1,
      by rwa [neg_neg], ?_, hm⟩
    rw [e, pre_zero, add_zero] at e3
    rw [add_right_comm, e3, add_neg_cancel_comm]

end C05L
