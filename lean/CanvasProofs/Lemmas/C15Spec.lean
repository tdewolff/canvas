import CanvasModel.C15
import CanvasProofs.Lemmas.C15Core
import CanvasProofs.Lemmas.C15Replay
/-!
# C15 — refinement of the Canvas model to an abstract specification without a map

`Grouped cv`: the association list `layers` (model of the Go map z-index → slice of layers) is the
recording-order log grouped by z-index (`group`); it implies `WF`.  The abstract machine `specStep` keeps
only the log and replays it by `stableSortZ`; the Context state after a setter and the calls of a draw it takes from
the model (`step`, `drawCalls` on the concretisation), so the refinement speaks of the canvas only.  A state
whose canvas is grouped is the concretisation `conc` of its abstraction, and on such states the model and the
abstract machine are one (`step_conc`, `run_conc`): every fact about the canvas reached by a history is read off that.
Generic in the scalar type and in `Ops`.
-/
namespace C15
open Canvas Canvas.C15
variable {α : Type}

def group (log : List (Int × Call α)) : List (Int × List (Call α)) :=
  log.foldl (fun l zc => assocAppend zc.1 zc.2 l) []

theorem group_append (a b : List (Int × Call α)) :
    group (a ++ b) = b.foldl (fun l zc => assocAppend zc.1 zc.2 l) (group a) :=
  List.foldl_append ..

def Grouped (cv : Canvas α) : Prop := cv.layers = group cv.log

theorem assocAppend_map (f : Call α → Call α) (z : Int) (c : Call α) (l : List (Int × List (Call α))) :
    assocAppend z (f c) (l.map (fun kl => (kl.1, kl.2.map f))) =
      (assocAppend z c l).map (fun kl => (kl.1, kl.2.map f)) := by
  induction l with
  | nil => simp [assocAppend]
  | cons kl rest ih =>
    obtain ⟨k, ks⟩ := kl
    simp only [assocAppend, List.map_cons]
    split
    · simp
    · simp [ih]

theorem group_map (f : Call α → Call α) (log : List (Int × Call α)) :
    group (log.map (fun zc => (zc.1, f zc.2))) = (group log).map (fun kl => (kl.1, kl.2.map f)) :=
  List.foldl_map.trans (List.foldl_hom (init := []) (List.map _) fun _ _ => assocAppend_map f _ _ _)

theorem WF_foldl_assocAppend (ks : List (Int × Call α)) {layers : List (Int × List (Call α))}
    {log : List (Int × Call α)} (hw : WF layers log) :
    WF (ks.foldl (fun l zc => assocAppend zc.1 zc.2 l) layers) (log ++ ks) := by
  induction ks generalizing layers log with
  | nil => rwa [List.append_nil]
  | cons zc rest ih => rw [List.append_cons]; exact ih (WF_assocAppend zc.1 zc.2 hw)

theorem WF_group (log : List (Int × Call α)) : WF (group log) log :=
  WF_foldl_assocAppend log WF_nil

theorem Grouped_WF (cv : Canvas α) (h : Grouped cv) : WF cv.layers cv.log :=
  h ▸ WF_group cv.log

structure ACanvas (α : Type) where
  log : List (Int × Call α)
  z : Int
  W : α
  H : α

structure ACtx (α : Type) where
  st : CState α
  stack : List (CState α)
  cv : ACanvas α
  emitted : List (Call α)

def absCanvas (cv : Canvas α) : ACanvas α := ⟨cv.log, cv.z, cv.W, cv.H⟩
def absCtx (c : Ctx α) : ACtx α := ⟨c.st, c.stack, absCanvas c.cv, c.emitted⟩

def conc (a : ACtx α) : Ctx α :=
  ⟨a.st, a.stack, ⟨group a.cv.log, a.cv.z, a.cv.W, a.cv.H, a.cv.log⟩, a.emitted⟩

/-- replay of an abstract canvas: the recorded calls in ascending z, then drawing order, each
pre-multiplied by the view -/
def ACanvas.replay (o : Ops α) (view : Mat α) (a : ACanvas α) : List (Call α) :=
  (stableSortZ a.log).map (fun zc => Call.pre o view zc.2)

def ACanvas.mapCalls (f : Call α → Call α) (a : ACanvas α) : ACanvas α :=
  { a with log := a.log.map (fun zc => (zc.1, f zc.2)) }

def ACanvas.clip (o : Ops α) (r : Rct α) (a : ACanvas α) : ACanvas α :=
  { a.mapCalls (Call.pre o (o.translate o.ident (o.neg r.x0) (o.neg r.y0))) with
    W := o.sub r.x1 r.x0, H := o.sub r.y1 r.y0 }

def specStep (o : Ops α) (op : Op α) (a : ACtx α) : ACtx α :=
  if op.isDraw then
    let ks := drawCalls o op (conc a)
    { a with emitted := a.emitted ++ ks,
             cv := { a.cv with log := a.cv.log ++ ks.map (fun k => (a.cv.z, k)) } }
  else
    match op with
    | .setZIndex z => { a with cv := { a.cv with z := z } }
    | .cvTransform m => { a with cv := a.cv.mapCalls (Call.pre o m) }
    | .cvClip r => { a with cv := a.cv.clip o r }
    | .cvFit margin =>
      let r := fitRect o (group a.cv.log)
      { a with cv := a.cv.clip o ⟨o.sub r.x0 margin, o.sub r.y0 margin, o.add r.x1 margin, o.add r.y1 margin⟩ }
    | .cvReset => { a with cv := { a.cv with log := [] } }
    | .cvNest view =>
      { a with cv := { a.cv with log := (a.cv.replay o view).map (fun k => ((0 : Int), k)), z := 0 } }
    | op => { a with st := (step o op (conc a)).st, stack := (step o op (conc a)).stack }

def specRun (o : Ops α) : List (Op α) → ACtx α → ACtx α
  | [], a => a
  | op :: ops, a => specRun o ops (specStep o op a)

theorem conc_abs (c : Ctx α) (hg : Grouped c.cv) : conc (absCtx c) = c := by
  obtain ⟨st, stack, ⟨layers, z, W, H, log⟩, emitted⟩ := c
  obtain rfl : layers = group log := hg
  rfl

theorem abs_conc (a : ACtx α) : absCtx (conc a) = a := rfl

theorem Grouped_conc (a : ACtx α) : Grouped (conc a).cv := rfl

theorem foldl_render_conc (ks : List (Call α)) (a : ACanvas α) :
    ks.foldl Canvas.render ⟨group a.log, a.z, a.W, a.H, a.log⟩ =
      ⟨group (a.log ++ ks.map (fun k => (a.z, k))), a.z, a.W, a.H, a.log ++ ks.map (fun k => (a.z, k))⟩ := by
  rw [foldl_render_eq, group_append]

theorem renderInto_new (o : Ops α) (src : Canvas α) (view : Mat α) (W H : α) :
    src.renderInto o view (newCanvas W H) =
      ⟨group ((src.renderViewTo o view).map (fun k => ((0 : Int), k))), 0, W, H,
        (src.renderViewTo o view).map (fun k => ((0 : Int), k))⟩ :=
  foldl_render_conc _ ⟨[], 0, W, H⟩

theorem renderViewTo_conc (o : Ops α) (view : Mat α) (a : ACtx α) :
    (conc a).cv.renderViewTo o view = a.cv.replay o view :=
  renderViewTo_eq_spec o view _ (WF_group a.cv.log)

theorem step_conc (o : Ops α) (op : Op α) (a : ACtx α) : step o op (conc a) = conc (specStep o op a) := by
  cases hd : op.isDraw
  case true =>
    rw [step_draw o op _ hd, emitAll_eq, show specStep o op a = _ from if_pos hd]
    exact congrArg (Ctx.mk a.st a.stack · _) (foldl_render_conc _ a.cv)
  case false =>
    cases op <;> cases hd
    case pop =>
      obtain ⟨st, stack, cv, emitted⟩ := a
      cases stack <;> rfl
    -- `Clip` and `Fit` are a `Transform` and a new size
    case cvTransform m => exact congrArg (Ctx.mk a.st a.stack ⟨·, _, _, _, _⟩ _) (group_map _ _).symm
    case cvClip r => exact congrArg (Ctx.mk a.st a.stack ⟨·, _, _, _, _⟩ _) (group_map _ _).symm
    case cvFit μ => exact congrArg (Ctx.mk a.st a.stack ⟨·, _, _, _, _⟩ _) (group_map _ _).symm
    case cvNest view =>
      show Ctx.mk a.st a.stack ((conc a).cv.renderInto o view (newCanvas a.cv.W a.cv.H)) a.emitted = _
      rw [renderInto_new, renderViewTo_conc]
      rfl
    -- elsewhere `specStep` reads the Context state off the concretisation
    all_goals rfl

theorem run_conc (o : Ops α) (h : List (Op α)) (a : ACtx α) : run o h (conc a) = conc (specRun o h a) := by
  induction h generalizing a with
  | nil => rfl
  | cons op ops ih => exact (congrArg (run o ops) (step_conc o op a)).trans (ih _)

/-- Stated apart because unifying `conc ?a` with `newContext …` is slow: a user of `run_conc` at a fresh
Context would have to give the abstract state. -/
theorem run_new (o : Ops α) (h : List (Op α)) (W H : α) :
    run o h (newContext o (newCanvas W H)) = conc (specRun o h (absCtx (newContext o (newCanvas W H)))) :=
  run_conc o h (absCtx (newContext o (newCanvas W H)))

theorem Grouped_run (o : Ops α) (h : List (Op α)) (c : Ctx α) (hg : Grouped c.cv) : Grouped (run o h c).cv := by
  rw [← conc_abs c hg, run_conc]
  exact Grouped_conc _

theorem nested_replay_log (o : Ops α) (src : Canvas α) (view : Mat α) (W H : α) (hw : WF src.layers src.log) :
    (src.renderInto o view (newCanvas W H)).log =
      (stableSortZ src.log).map (fun zc => ((0 : Int), Call.pre o view zc.2)) := by
  rw [renderInto_new, renderViewTo_eq_spec o view src hw, List.map_map]
  rfl

theorem nested_replay (o : Ops α) (hassoc : ∀ a b c : Mat α, o.mmul (o.mmul a b) c = o.mmul a (o.mmul b c))
    (src : Canvas α) (view view2 : Mat α) (W H : α) (hw : WF src.layers src.log) :
    (src.renderInto o view (newCanvas W H)).renderViewTo o view2 = src.renderViewTo o (o.mmul view2 view) := by
  rw [renderInto_new, renderViewTo_eq_spec o view2 _ (WF_group _), renderViewTo_eq_spec o view src hw,
    renderViewTo_eq_spec o (o.mmul view2 view) src hw,
    stableSortZ_const 0]
  simp only [List.map_map]
  apply List.map_congr_left
  intro a _
  simp [Function.comp, Call.pre, hassoc]

end C15
