import CanvasProofs.Lemmas.C20Table
import CanvasProofs.Lemmas.Basic
/-! # C20 lemmas: judging a concrete trace — the executable checks `wfB`, `obeysB` are sound, and no
happens-before edge leaves a thread whose events hand nothing over (how a witness trace shows a race) -/
namespace Canvas.C20

theorem wfB_sound {tr : Trace} (h : wfB tr = true) : WF tr := by
  intro k t e tok hk
  have hk' := all_range_at h hk
  rw [hk] at hk'
  simp only [Bool.and_eq_true] at hk'
  exact ⟨fun ha => by simpa [ha] using hk'.1, fun hr => by simpa [hr] using hk'.2⟩

/-- `obeysB` looks at the once bodies of the events of the trace only; `ObeysAt.inBody` speaks of
every once, so that clause is asked for separately -/
theorem obeysB_sound {body : String → List String} {prot : Prot} {tr : Trace} {x : String}
    (bd : ∀ o, x ∈ body o → prot = .byOnce o) (h : obeysB body prot tr x = true) :
    ObeysAt body prot tr x := by
  refine .of_accesses ?_ ?_ bd ?_
  · intro k t hk
    have hk' := all_range_at h hk
    rw [hk] at hk'
    cases prot with
    | guarded tok => simpa using hk'
    | byOnce o =>
      -- `any` over `range k` is an index below `k`
      simpa using hk'
    | readOnly => trivial
    | atomicOnly => simp at hk'
  · intro k t hk
    have hk' := all_range_at h hk
    rw [hk] at hk'
    cases prot with
    | guarded tok => exact ⟨tok, rfl, by simpa using hk'⟩
    | _ => simp at hk'
  · intro k t hk
    have hk' := all_range_at h hk
    rw [hk] at hk'
    simpa using hk'

/-- `e` hands nothing over: it releases no token and is no once call, so the only happens-before
edges that start at it are those of program order -/
def Ev.silent (e : Ev) : Bool :=
  e.rel.isNone && match e with
    | .onceDo _ => false
    | _ => true

theorem hb_stays_in_thread {tr : Trace} (t : Tid) (hno : ∀ p, p ∈ tr → p.1 = t → p.2.silent = true) {i j : Nat}
    (h : HB tr i j) : tidAt tr i = some t → tidAt tr j = some t := by
  induction h with
  | po _ hi hj => intro h; simp [tidAt, hi] at h; simp [tidAt, hj, h]
  | sync _ hi _ hr _ =>
    intro h; simp [tidAt, hi] at h
    have hs := hno _ (List.mem_of_getElem? hi) h
    simp only [Ev.silent, Bool.and_eq_true, Option.isNone_iff_eq_none] at hs
    rw [hs.1] at hr; cases hr
  | once _ hi _ _ =>
    intro h; simp [tidAt, hi] at h
    cases hno _ (List.mem_of_getElem? hi) h
  | trans _ _ ih1 ih2 => intro h; exact ih2 (ih1 h)

theorem not_hb_pair {e e' : Ev} (hs : e.silent = true) : ¬ HB [((0 : Tid), e), (1, e')] 0 1 := by
  intro h
  cases hb_stays_in_thread 0 (by simp [hs]) h rfl

/-- the trace of a use-after-Put: goroutine 0 returns the object to the pool and reads its field
afterwards, goroutine 1 has taken it from the pool and initialises it -/
def useAfterPut : Trace :=
  [(0, Ev.poolGet "p" 1), (0, Ev.poolPut "p" 1), (1, Ev.poolGet "p" 1), (1, Ev.write "f"), (0, Ev.read "f")]

end Canvas.C20
