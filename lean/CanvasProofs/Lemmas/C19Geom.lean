import CanvasProofs.Lemmas.C19Ops
import CanvasProofs.Lemmas.C19Elem
import CanvasProofs.Lemmas.Mat
import Mathlib.Tactic.Linarith.Frontend
set_option linter.unusedSectionVars false
namespace C19
open Canvas Canvas.C19 GenK
variable {K : Type} [Field K] [LinearOrder K] [IsStrictOrderedRing K] [Env K] (cd : K → K → List K → K → List K × Bool)

def identK : Mat K := ⟨1, 0, 0, 0, 1, 0⟩

/-! The laws of `GenK.Matrix.Mul`/`Dot` that the transform lists fold with, about this file's `identK`. -/
namespace M
theorem mul_assoc (m q r : Mat K) : Matrix.Mul (Matrix.Mul m q) r = Matrix.Mul m (Matrix.Mul q r) :=
  Aff.mul_assoc m q r
theorem identity_mul (m : Mat K) : Matrix.Mul identK m = m := Aff.one_mul m
theorem mul_identity (m : Mat K) : Matrix.Mul m identK = m := Aff.mul_one m
theorem dot_mul (m q : Mat K) (p : Pt K) : Matrix.Dot (Matrix.Mul m q) p = Matrix.Dot m (Matrix.Dot q p) :=
  Aff.dot_mul m q p
end M

theorem dot_identK (p : Pt K) : Matrix.Dot identK p = p := Aff.one_dot p

/-- the matrix one transform function contributes -/
def fnMatrix (f : String × List K) : Mat K := (xformStep (opsK cd) (identK, false) f).1

/-- the arity table of the six transform functions (anything else is ignored without error) -/
def badArity (f : String × List K) : Bool :=
  match f.1 with
  | "matrix" => f.2.length != 6
  | "translate" => f.2.length != 1 && f.2.length != 2
  | "scale" => f.2.length != 1 && f.2.length != 2
  | "rotate" => f.2.length != 1 && f.2.length != 3
  | "skewx" => f.2.length != 1
  | "skewy" => f.2.length != 1
  | _ => false

/-! Of an alternative `[a]` of a `match` on `l` that was not taken, `split` leaves `∀ a, l = [a] → False`. -/
variable {l : List K}
theorem length_bne_one (h : ∀ a, l = [a] → False) : (l.length != 1) = true :=
  bne_iff_ne.mpr fun hl => match l, hl with | [a], _ => h a rfl
theorem length_bne_two (h : ∀ a b, l = [a, b] → False) : (l.length != 2) = true :=
  bne_iff_ne.mpr fun hl => match l, hl with | [a, b], _ => h a b rfl
theorem length_bne_three (h : ∀ a b c, l = [a, b, c] → False) : (l.length != 3) = true :=
  bne_iff_ne.mpr fun hl => match l, hl with | [a, b, c], _ => h a b c rfl
theorem length_bne_six (h : ∀ a b c d e f, l = [a, b, c, d, e, f] → False) : (l.length != 6) = true :=
  bne_iff_ne.mpr fun hl => match l, hl with | [a, b, c, d, e, f], _ => h a b c d e f rfl

theorem xformStep_eq (m : Mat K) (e : Bool) (f : String × List K) :
    xformStep (opsK cd) (m, e) f = (Matrix.Mul m (fnMatrix cd f), e || badArity f) := by
  obtain ⟨name, args⟩ := f
  unfold fnMatrix xformStep
  simp only []
  -- with the right number of arguments both sides are products of the same matrices; with a wrong number the
  -- alternatives that were not taken are the hypotheses of `length_bne_one` … `length_bne_six`
  split <;>
    simp (disch := assumption) only [opsK, rotate, Matrix.Translate, Matrix.Scale, M.identity_mul, M.mul_identity,
      M.mul_assoc, badArity, List.length_cons, List.length_nil, Nat.reduceAdd, bne_self_eq_false, Bool.or_false,
      Bool.false_and, Bool.and_false, Nat.reduceBneDiff, length_bne_one, length_bne_two, length_bne_three, length_bne_six,
      Bool.and_self, Bool.or_true]

theorem foldl_xformStep (l : List (String × List K)) : ∀ (m : Mat K) (e : Bool),
    l.foldl (xformStep (opsK cd)) (m, e) = ((l.map (fnMatrix cd)).foldl Matrix.Mul m, e || l.any badArity) := by
  induction l with
  | nil => intro m e; simp only [List.foldl_nil, List.map_nil, List.any_nil, Bool.or_false]
  | cons f t ih =>
    intro m e
    rw [List.foldl_cons, xformStep_eq, ih, List.map_cons, List.foldl_cons, List.any_cons, Bool.or_assoc]

theorem foldl_mul (l : List (Mat K)) :
    ∀ m : Mat K, l.foldl Matrix.Mul m = Matrix.Mul m (l.foldl Matrix.Mul identK) := by
  induction l with
  | nil => intro m; exact (M.mul_identity m).symm
  | cons q t ih =>
    intro m
    rw [List.foldl_cons, List.foldl_cons, ih, ih (Matrix.Mul identK q), M.identity_mul, M.mul_assoc]

/-- the right side is `canvasMatrix p` of the property file, translated by the shape's `x y` -/
theorem layerOf_canvasMatrix (p : P K) (x y : K) (path : RPath K) :
    (layerOf (opsK cd) p x y path).m =
      Matrix.Translate (Matrix.Mul (Matrix.ReflectYAbout identK (p.ch / 2)) p.ctx.view) x y := by
  simp only [layerOf, opsK, arithK, Nat.cast_ofNat]
  rfl

/-- the dash lengths a canvas layer means: `Dashes` are multiples of the stroke width (canvas.go ScaleDash) -/
def effectiveDashes (l : Layer K) : List K := l.dashes.map (fun d => d * l.sw)

/-- the layer a `<path>` records means the dash lengths the context holds, whatever the stroke width (`dash_units` of
the property file).  Nothing is assumed about what is painted: a path that is only stroked, the usual dashed line,
records its layer as a filled one does, and one that is not painted at all records none -/
theorem dash_units_of_pos (q : P K) (d : List (PCmd K)) (hw : 0 < q.ctx.sw) (hcd : ∀ w off l len, cd w off l len = (l, true)) :
    let r := drawShape (opsK cd) q "path" [.plain "d" (.path d)]
    (∀ L, r.layers = L :: q.layers → effectiveDashes L = q.ctx.dashes) ∧ r.ctx.dashes = q.ctx.dashes := by
  refine ⟨fun L hL => ?_, congrArg (·.ctx.dashes) (inhOf_drawShape (opsK cd) q _ _)⟩
  -- the layer carries the dashes and the width of the state `p` in which the path is drawn
  have hcore (p : P K) (hL : (drawShapeCore (opsK cd) p "path" [.plain "d" (.path d)]).layers = L :: p.layers) :
      effectiveDashes L = p.ctx.dashes.map (· * p.ctx.sw) := by
    rw [drawPath_layer (opsK cd) p 0 0 d.reverse L hL, effectiveDashes, layerOf]
    simp only [opsK, hcd]
  simp only [drawShape] at hL
  split at hL
  · -- the dashes were divided by the width for the shape
    rw [hcore _ hL, List.map_map]
    refine List.map_id'' (fun a => ?_) _
    have w0 : q.ctx.sw ≠ 0 := ne_of_gt hw
    simp only [Function.comp, opsK, arithK]
    rw [mul_one_div, div_mul_cancel₀ _ w0]
  · rename_i hcond
    rw [hcore q hL]
    -- not divided: there are no dashes or the width is 1
    by_cases he : q.ctx.dashes = []
    · rw [he]; rfl
    · have h1 : q.ctx.sw = 1 := by
        by_contra hne
        exact hcond (by simp [opsK, arithK, hw, he, hne])
      rw [h1]; simp

theorem init_view (w h x y W H : K) (e : Bool) (lens : List K) (hW : 0 < W) (hH : 0 < H) :
    (init (opsK cd) w h (x, y, W, H) e lens).ctx.view =
      Matrix.Translate (Matrix.Scale identK (w / W) (h / H)) (-x) (-y) := by
  simp only [init, opsK, arithK, hW, hH, decide_true, Bool.and_self, if_true]
  rfl

theorem dot_flip_init (w h x y W H : K) (e : Bool) (lens : List K) (hW : 0 < W) (hH : 0 < H) (p : Pt K) :
    Matrix.Dot (Matrix.Mul (Matrix.ReflectYAbout identK ((init (opsK cd) w h (x, y, W, H) e lens).ch / 2))
      (init (opsK cd) w h (x, y, W, H) e lens).ctx.view) p = ⟨w / W * (p.x - x), h - h / H * (p.y - y)⟩ := by
  rw [init_view cd w h x y W H e lens hW hH]
  simp only [M.dot_mul, Aff.translate_dot, Aff.scale_dot, Aff.reflectYAbout_dot, dot_identK]
  show (⟨_, 2 * (h / 2) - _⟩ : Pt K) = _
  congr 1 <;> ring

/-- `fitViewBox` gives the view box the size of the viewport divided by s = min(w/W, h/H) and keeps
its centre -/
theorem fitViewBox_eq (w h x y W H : K) (hW : 0 < W) (hH : 0 < H) (hw : 0 < w) (hh : 0 < h) :
    fitViewBox (opsK cd) w h (x, y, W, H) =
      (x - (w / min (w / W) (h / H) - W) / 2, y - (h / min (w / W) (h / H) - H) / 2,
       w / min (w / W) (h / H), h / min (w / W) (h / H)) := by
  have a : w / (w / W) = W := div_div_cancel₀ (ne_of_gt hw)
  have b : h / (h / H) = H := div_div_cancel₀ (ne_of_gt hh)
  simp only [fitViewBox, opsK, arithK, hW, hH, hw, hh, decide_true, Bool.and_self, if_true, Nat.cast_ofNat,
    decide_eq_true_eq]
  rcases lt_trichotomy (w / W) (h / H) with hlt | heq | hgt
  · rw [if_pos hlt, min_eq_left hlt.le, a, sub_self, zero_div, sub_zero]
  · rw [if_neg heq.not_lt, if_neg heq.not_gt, min_eq_left heq.le, a, heq, b]
    simp only [sub_self, zero_div, sub_zero]
  · rw [if_neg hgt.not_gt, if_pos hgt, min_eq_right hgt.le, b, sub_self, zero_div, sub_zero]

theorem equal_neg {r : K} (h : GenK.Equal r 0 = false) :
    GenK.Equal r (-r) = false ∧ GenK.Equal (-r) r = false := by
  have key : GenK.Equal r (-r) = false := by
    rw [Bool.eq_false_iff, Ne, equal_iff_abs] at h ⊢
    rw [sub_zero] at h
    rw [sub_neg_eq_add, ← two_mul, abs_mul, abs_two]
    exact fun h' => h (le_trans (by linarith [abs_nonneg r]) h')
  exact ⟨key, by rw [equal_comm]; exact key⟩

/-- an ellipse is two half arcs; `a b phi` is the canonical form `ArcTo` gives the radii -/
theorem ellipse_path {rx ry a b phi : K}
    (hx : GenK.Equal rx 0 = false) (hy : GenK.Equal ry 0 = false)
    (hf : ∀ s e : Pt K, arcFixK s rx ry e = (a, b, phi)) :
    (ellipse (opsK cd) rx ry).reverse =
      [.move ⟨rx, 0⟩, .arc a b phi false true ⟨-rx, 0⟩, .arc a b phi false true ⟨rx, 0⟩, .close ⟨rx, 0⟩] := by
  -- `hx hy`: not empty, and `ArcTo` draws arcs, not lines; `equal_neg`: neither half ends where it starts, so none is dropped
  obtain ⟨n1, n2⟩ := equal_neg hx
  simp [ellipse, arcTo0, moveTo, close, pos, startPos, ptEquals, prep, PCmd.endp, opsK, arithK,
    hx, hy, n1, n2, hf]

theorem arcFix_circle {r : K} (hr : 0 < r) (heps : (0 : K) ≤ Env.epsilon) (s e : Pt K) :
    arcFixK s r r e = (r, r, 0) := by
  unfold arcFixK
  simp [abs_of_pos hr, equal_self heps r]

theorem roundedRectangle_path {W h r : K} (hr : 0 < r) (heps : (0 : K) ≤ Env.epsilon)
    (hW0 : GenK.Equal W 0 = false) (hh0 : GenK.Equal h 0 = false) (hr0 : GenK.Equal r 0 = false)
    (hA : GenK.Equal r (W - r) = false) (hB : GenK.Equal r (h - r) = false)
    (hC : GenK.Equal (h - r) h = false)
    (hrW : r ≤ W / 2) (hrh : r ≤ h / 2) :
    (roundedRectangle (opsK cd) W h r).reverse =
      [.move ⟨0, r⟩, .arc r r 0 false true ⟨r, 0⟩, .line ⟨W - r, 0⟩, .arc r r 0 false true ⟨W, r⟩,
       .line ⟨W, h - r⟩, .arc r r 0 false true ⟨W - r, h⟩, .line ⟨r, h⟩, .arc r r 0 false true ⟨0, h - r⟩,
       .close ⟨0, r⟩] := by
  -- `hW0 hh0 hr0`: neither empty nor a plain rectangle; `hr hrW hrh`: the radius is taken as it is.  `ArcTo` and `LineTo`
  -- drop a segment that ends where it starts: `hr0` excludes that for the first, second and fourth arc, `hC` for the
  -- third, `hA` for the lines along y = 0 and y = h, `hB` for the line along x = W.  Each line and the `Close` follow
  -- an arc, so no two commands are joined.
  simp [roundedRectangle, arcTo0, lineTo, moveTo, close, pos, startPos, ptEquals, prep, PCmd.endp, opsK, arithK,
    hW0, hh0, hr0, hA, hB, hC, (equal_comm 0 r).trans hr0, (equal_comm (W - r) r).trans hA, not_lt.mpr hr.le,
    arcFix_circle hr heps, min_eq_left hrW, min_eq_left hrh]

theorem transformArc_scaleX (s r : K) (hs : 0 < s) (sweep : Bool) :
    transformArcK (Matrix.Scale identK s 1) r r 0 sweep =
      (if s * r < r then (r, s * r, Env.pi / 2, sweep) else (s * r, r, 0, sweep)) := by
  have hn : ¬ (s < 0) := not_lt.mpr (le_of_lt hs)
  simp [transformArcK, Matrix.Scale, Matrix.Mul, identK, abs_of_pos hs, hn]

theorem transformPath_reverse (m : Mat K) (cs : RPath K) :
    (transformPath (opsK cd) m cs).reverse = transformPath (opsK cd) m cs.reverse := by
  unfold transformPath; rw [List.map_reverse]

end C19
