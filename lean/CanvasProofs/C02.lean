import CanvasProofs.C01
import CanvasGen.SweepF
import CanvasProofs.Lemmas.C02Column
import CanvasProofs.Lemmas.C02Verdict
import CanvasProofs.Lemmas.C02Trace
import CanvasProofs.Lemmas.C02Endpoints

/-! # C02 — Settle preserves the filled region and returns a canonical simple path (partial)

Proved for all inputs: the Settle row of the edge decision, Settle along one column as a function
(columns rewritten by `mergeOverlapping` included), the verdict function that judges real outputs,
the checker of the real final sweep/tracer state with the tracer's hole rule, and operand
preparation. The sweep and the tracer as a whole are refined against the exact specification on
generated inputs only (region, winding ∈ {0,1}, no proper crossings, re-settling). -/
namespace C02
open Canvas GenK Canvas.Wn

/-- Settle keeps a closed segment iff the subject's fill under the rule changes across it. -/
theorem inResult_settle (s : SweepPoint ℚ) (r : Wn.Rule) (hs : s.open_ = false) :
    SweepPoint.InResult s opSettle (C01.ruleOf r) =
      if r.fills (C01.below s).1 ≠ r.fills (C01.above s).1 then 1 else 0 := by
  obtain ⟨clipping, open_, osw, ow, sw, w⟩ := s
  simp only at hs
  subst hs
  cases clipping <;> simp [SweepPoint.InResult, C01.fills_agrees, C01.below, C01.above, opSettle]

/-- open subject segments are always kept by Settle -/
theorem inResult_settle_open (s : SweepPoint ℚ) (r : Wn.Rule) (hs : s.open_ = true) :
    SweepPoint.InResult s opSettle (C01.ruleOf r) = 1 := by
  obtain ⟨clipping, open_, osw, ow, sw, w⟩ := s
  simp only at hs
  subst hs
  cases clipping <;> simp [SweepPoint.InResult, opSettle]

/-- A canonical path (every point has winding 0 or 1) fills the same set under NonZero, EvenOdd
and Positive, and nothing under Negative. -/
theorem canonical_rule_independent (w : Int) (h : w = 0 ∨ w = 1) :
    Wn.Rule.nonZero.fills w = decide (w = 1) ∧ Wn.Rule.evenOdd.fills w = decide (w = 1) ∧
    Wn.Rule.positive.fills w = decide (w = 1) ∧ Wn.Rule.negative.fills w = false := by
  rcases h with h | h <;> subst h <;> decide

example : (0 : Int) = 0 ∨ (0 : Int) = 1 := Or.inl rfl

/-- the contrapositive is what the check uses: if the three rules disagree somewhere the winding is
not in {0,1} -/
theorem rules_agree_of_01 (w : Int) (h : w = 0 ∨ w = 1) :
    Wn.Rule.nonZero.fills w = Wn.Rule.evenOdd.fills w ∧ Wn.Rule.nonZero.fills w = Wn.Rule.positive.fills w :=
  have ⟨a, b, c, _⟩ := canonical_rule_independent w h
  ⟨a.trans b.symm, a.trans c.symm⟩

/-- Closing an open subpath with an explicit straight segment back to its start does not change
the winding number the specification assigns to the implicitly closed subpath. -/
theorem implicit_close_wn (p a : IPt) (t : List IPt) : wn1 p (a :: t ++ [a]) = wn1 p (a :: t) := by
  have := chainW_append_single p (a :: t) a a
  rw [edgeW_self, Int.add_zero] at this
  simpa [wn1] using this

/-- Reversal (which Settle may apply to a whole contour to orient it) negates the winding number,
so the NonZero and EvenOdd readings of a contour do not depend on its direction. -/
theorem orientation_irrelevant_nonzero_evenodd (w : Int) :
    Wn.Rule.nonZero.fills (-w) = Wn.Rule.nonZero.fills w ∧ Wn.Rule.evenOdd.fills (-w) = Wn.Rule.evenOdd.fills w :=
  ⟨(fills_neg w).1, (fills_neg w).2.1⟩

/-- column induction specialised to Settle (a single polygon: every segment is subject) -/
theorem settle_windings_are_crossing_sums (col : List C01.Seg) (pre below : List (C01.Seg × C01.Fields))
    (s : C01.Seg) (f : C01.Fields) (h : C01.foldColumn col = pre ++ (s, f) :: below) (hc : s.clipping = false) :
    f.w = (C01.sums below).1 :=
  Canvas.C02.w_of_expected hc (C01.sweep_windings_are_crossing_sums col pre below s f h)

/-- the model's `keep` is the Settle row of the generated `InResult`, open segments included -/
theorem keep_is_inResult (r : Wn.Rule) (s : C01.Seg) (f : C01.Fields) (hc : s.clipping = false) :
    SweepPoint.InResult (⟨s.clipping, s.open_, f.osw, f.ow, f.sw, f.w⟩ : SweepPoint ℚ) opSettle (C01.ruleOf r)
      = if Canvas.C02.keep r s f then 1 else 0 := by
  cases ho : s.open_
  · rw [inResult_settle _ r rfl]
    simp [Canvas.C02.keep, ho, C01.below, C01.above, hc]
  · rw [inResult_settle_open _ r rfl]
    simp [Canvas.C02.keep, ho]

/-- the executable `InResult` the drivers run (group Sweep, Float mode) and the one the theorems
are about (field mode) are the same function -/
theorem driver_inResult_is_proved_inResult (c o : Bool) (osw ow sw w op rule : Int) :
    GenF.SweepPoint.InResult (⟨c, o, osw, ow, sw, w⟩ : GenF.SweepPoint Float) op rule
      = GenK.SweepPoint.InResult (⟨c, o, osw, ow, sw, w⟩ : GenK.SweepPoint ℚ) op rule := rfl

section Column
open Canvas.C02 Canvas.C01

/-- `computeSweepFields` folded up any column of subject segments establishes the Settle invariant -/
theorem settle_invariant_of_sweep (col : List Seg) (hc : ∀ s ∈ col, s.clipping = false) :
    GoodS (foldColumn col) ∧ OpenZero (foldColumn col) := by
  refine ⟨goodS_of_good _ (good_foldColumn col) (fun e he => hc _ (mem_foldColumn col e he).1), fun e he hop => ?_⟩
  rw [(mem_foldColumn col e he).2]; simp [selfW, hop]

/-- `mergeOverlapping` anywhere in a column keeps the Settle invariant of the whole column (the
entries above the run included), given that coincident segments agree on being vertical and the
first segment that is not absorbed is not vertical and itself correct -/
theorem settle_invariant_merge (above : List (Seg × Fields)) (s : C01Merge.Ent) (below : List C01Merge.Ent)
    (hg : GoodS (above ++ C01Merge.pairs (s :: below)))
    (hv : ∀ p ∈ below, p.geom = s.geom → p.seg.vertical = s.seg.vertical)
    (hp : ∀ p rest', (C01Merge.absorb s below).2.2 = p :: rest' →
      p.seg.vertical = false ∧ p.f.w = (sums (C01Merge.pairs rest')).1) :
    GoodS (above ++ C01Merge.pairs ((C01Merge.merge s below).s :: (C01Merge.merge s below).below)) :=
  goodS_congr_below (C01.merge_preserves_sums s below hv).symm
    (goodS_merge s below (goodS_suffix hg) hp) hg

/-- Region preservation along a column: in a column with the Settle invariant (any height, any
self windings — merged overlapping segments included), for each of the four rules, at every
height: if every kept edge is directed with the filled side on its left (`resSW`), the winding
number of the result is 1 exactly where the input is filled under the rule, and 0 elsewhere -/
theorem column_region_preserved (r : Wn.Rule) (pre L : List (Seg × Fields)) (h : GoodS (pre ++ L)) :
    resSum r L = ind (r.fills (sums L).1) := (column_profile r L (goodS_suffix h)).1

theorem column_winding_01 (r : Wn.Rule) (pre L : List (Seg × Fields)) (h : GoodS (pre ++ L)) :
    resSum r L = 0 ∨ resSum r L = 1 := resSum_01 r L (goodS_suffix h)

/-- the kept edges alternate: walking down from any height, the first boundary edge is directed
+1 iff the region above it is filled, every boundary edge flips that, and the walk ends unfilled -/
theorem column_kept_edges_alternate (r : Wn.Rule) (pre L : List (Seg × Fields)) (h : GoodS (pre ++ L)) :
    altDown (r.fills (sums L).1) (keptDirs r L) = true := (column_profile r L (goodS_suffix h)).2

/-- an edge has a non-zero direction in the canonical result iff Settle keeps it (closed edges) -/
theorem column_kept_iff_boundary (r : Wn.Rule) (s : Seg) (f : Fields) (ho : s.open_ = false) :
    keep r s f = true ↔ resSW r f ≠ 0 := by
  rw [resSW_closed r f ho]
  cases keep r s f
  · simp
  · rw [if_pos rfl]
    split <;> decide

/-- for the real sweep: every column of subject segments, every rule, every height -/
theorem sweep_column_region_preserved (r : Wn.Rule) (col : List Seg) (hc : ∀ s ∈ col, s.clipping = false)
    (pre L : List (Seg × Fields)) (h : foldColumn col = pre ++ L) :
    resSum r L = ind (r.fills (sums L).1) ∧ altDown (r.fills (sums L).1) (keptDirs r L) = true := by
  have hg := (settle_invariant_of_sweep col hc).1
  rw [h] at hg
  exact column_profile r L (goodS_suffix hg)

/-- Settle as a function on columns returns a column that (1) carries the crossing sums of its own
edges (`Good`: sweeping it again recomputes the same fields), (2) is canonical: winding 0 or 1
below and above every edge, directions ±1 consistent with the `increasing` flags, and (3) has the
winding number 1 exactly where the input column is filled -/
theorem column_result_canonical (r : Wn.Rule) (L : List (Seg × Fields)) (h : GoodS L) (ho : OpenZero L) :
    Good (outCol r L) ∧ Canonical (outCol r L) ∧ (sums (outCol r L)).1 = ind (r.fills (sums L).1) :=
  have ⟨hs, hg, hk⟩ := outCol_spec r L h ho
  ⟨hg, hk, by rw [hs]; exact (column_profile r L h).1⟩

/-- a canonical column is a fixed point of Settle under NonZero, EvenOdd and Positive: every edge
is kept with its direction and fields -/
theorem column_canonical_fixed_point (r : Wn.Rule) (hr : threeRules r) (L : List (Seg × Fields))
    (hg : Good L) (hk : Canonical L) : outCol r L = L := by
  induction L with
  | nil => rfl
  | cons e below ih =>
    obtain ⟨s, f⟩ := e
    obtain ⟨⟨hc, hv, how, hosw, hsw, hw, hws⟩, hkb⟩ := canonical_cons.mp hk
    have hgs := goodS_of_good below hg.2 (fun x hx => (hkb x hx).1)
    have hrs : resSum r below = f.w := by
      rw [(column_profile r below hgs).1, ← w_of_expected hc hg.1, ind_fills_01 hr hw]
    have hd : resSW r f = f.sw := by
      rw [resSW, ind_fills_01 hr hws, ind_fills_01 hr hw]
      omega
    simp only [outCol, hv, Bool.false_eq_true, if_false, ih hg.2 hkb, hrs, hd]
    obtain ⟨cl, ve, inc, op⟩ := s
    obtain ⟨w, ow, sw, osw⟩ := f
    simp only at hc hv how hosw hsw
    subst hc hv how hosw hsw
    cases op
    · -- closed: `selfW s = ±1`, so the edge is kept, and `outSeg` rebuilds `s` from that direction
      cases inc <;> rfl
    · -- open: carried as it is, with `sw = 0 = selfW s`
      rfl

theorem column_canonical_negative_empty (L : List (Seg × Fields)) (hk : Canonical L) :
    keptDirs .negative L = [] := by
  induction L with
  | nil => rfl
  | cons e below ih =>
    obtain ⟨s, f⟩ := e
    obtain ⟨⟨-, -, -, -, -, hw, hws⟩, hkb⟩ := canonical_cons.mp hk
    have : resSW .negative f = 0 := by
      rw [resSW, (canonical_rule_independent _ hws).2.2.2, (canonical_rule_independent _ hw).2.2.2]
      rfl
    rw [keptDirs_cons, dir, this, ite_self, if_pos rfl]
    exact ih hkb

/-- Idempotence along a column: settling (any rule r) a column of subject segments, feeding the
result's segments to the sweep again and settling with NonZero, EvenOdd or Positive gives back the
same column: same edges, same directions, same winding fields -/
theorem column_settle_idempotent (r r' : Wn.Rule) (hr : threeRules r') (col : List Seg)
    (hc : ∀ s ∈ col, s.clipping = false) :
    settleCol r' (segsOf (settleCol r col)) = settleCol r col := by
  obtain ⟨hg, ho⟩ := settle_invariant_of_sweep col hc
  obtain ⟨-, h1, h2⟩ := outCol_spec r _ hg ho
  unfold settleCol
  rw [foldColumn_segsOf h1 h2]
  exact column_canonical_fixed_point r' hr _ h1 h2

end Column

section Verdict
open Canvas.C02

/-- Soundness: verdict ok ⇒ for every query point farther than δ from input and result the result
(read NonZero) fills it iff the input fills it under the rule, and its winding number in the result
is 0 or 1; no two result segments cross by more than δ; every query point is accounted for -/
theorem verdict_sound (rule : Wn.Rule) (P R : List (List IPt)) (pts : List IPt) (d2 : Int) (c k : Nat)
    (h : verdict rule P R pts d2 = .ok c k) :
    (∀ p ∈ pts, judged P R d2 p = true →
      rule.fills (wn p P) = Wn.Rule.nonZero.fills (wn p R) ∧ (wn p R = 0 ∨ wn p R = 1)) ∧
    NoCross d2 (allSegs R) ∧ c + k = pts.length := by
  obtain ⟨⟨h1, h2⟩, h3⟩ := verdict_ok_sound rule P R pts d2 c k h
  exact ⟨h1, h2, h3⟩

/-- Completeness: an observation that satisfies the predicate is never reported -/
theorem verdict_complete (rule : Wn.Rule) (P R : List (List IPt)) (pts : List IPt) (d2 : Int)
    (h : Holds rule P R pts d2) : ∃ c k, verdict rule P R pts d2 = .ok c k :=
  ⟨_, _, (verdict_eq_ok ..).mpr ⟨h, rfl, rfl⟩⟩

/-- a judged point that passes reads the same under NonZero, EvenOdd and Positive (and is empty
under Negative): the "fills the same region under the three rules" clause of the property -/
theorem verdict_point_rule_independent (rule : Wn.Rule) (wp wr : Int) (h : PointOK rule wp wr) :
    Wn.Rule.evenOdd.fills wr = Wn.Rule.nonZero.fills wr ∧ Wn.Rule.positive.fills wr = Wn.Rule.nonZero.fills wr ∧
      Wn.Rule.negative.fills wr = false :=
  have ⟨a, b, c, d⟩ := canonical_rule_independent wr h.2
  ⟨b.trans a.symm, c.trans a.symm, d⟩

/-- Monotone in the tolerance: accepted at δ ⇒ accepted at every δ' ≥ δ -/
theorem verdict_tolerance_monotone (rule : Wn.Rule) (P R : List (List IPt)) (pts : List IPt) (d d' : Int)
    (hd : d ≤ d') (c k : Nat) (h : verdict rule P R pts d = .ok c k) :
    ∃ c' k', verdict rule P R pts d' = .ok c' k' :=
  verdict_complete rule P R pts d' (holds_mono hd (verdict_ok_sound rule P R pts d c k h).1)

/-- symmetries of the judgement of one point: reversing the input does not matter under NonZero and
EvenOdd, and exchanges Positive and Negative -/
theorem verdict_point_symmetries (wp wr : Int) :
    pointClass .nonZero (-wp) wr = pointClass .nonZero wp wr ∧
    pointClass .evenOdd (-wp) wr = pointClass .evenOdd wp wr ∧
    pointClass .positive (-wp) wr = pointClass .negative wp wr :=
  ⟨pointClass_congr wr (fills_neg wp).1, pointClass_congr wr (fills_neg wp).2.1,
   pointClass_congr wr (fills_neg wp).2.2⟩

end Verdict

section Trace
open Canvas.C02 Canvas.C01

/-- a prev-chain of the real final sweep state accepted by the checker satisfies the Settle
invariant, hence region preservation and winding-01 hold along it at every height -/
theorem trace_chain_sound (r : Wn.Rule) (pre L : List TEnt) (h : chainCheck r (pre ++ L) = none) :
    GoodS (tpairs L) ∧ resSum r (tpairs L) = ind (r.fills (colSum (tpairs L))) ∧
      altDown (r.fills (colSum (tpairs L))) (keptDirs r (tpairs L)) = true := by
  have hg := chainCheck_goodS (chainCheck_suffix h)
  rw [colSum_eq_sums hg]
  exact ⟨hg, column_profile r _ hg⟩

/-- an accepted traced closed edge leaves the tracer with the direction of the canonical result,
is kept by the Settle decision, and where its direction could be observed in the returned path it
is that direction -/
theorem trace_edge_direction (r : Wn.Rule) (e : TEnt) (below : List TEnt) (h : chainCheck r (e :: below) = none)
    (ho : e.overlapped = false) (ht : e.traced = true) (hop : e.seg.open_ = false) :
    keep r e.seg e.f = true ∧ dirOfRW e.rw = resSW r e.f ∧ (e.dir = 0 ∨ e.dir = resSW r e.f) := by
  obtain ⟨-, hk, hd⟩ := (entryCheck_none ((chainCheck_cons r e below).mp h).1).2.2 ho
  obtain ⟨hp, hdir⟩ := hd ht hop
  have hk' : keep r e.seg e.f = true := hk ▸ ht
  exact ⟨hk', by rw [resSW_closed r e.f hop, hk', if_pos rfl, dirOfRW, hp], hdir⟩

/-- Hole rule: with `resultWindings = depth + [traversed left-to-right]` and the contour reversed iff
its depth is odd, an edge ends up running left-to-right iff its `resultWindings` is odd — for every
depth and both traversal directions -/
theorem tracer_hole_rule (d : Int) (right : Bool) :
    dirOfRW (tracerRW d right) = if finalRight d right then 1 else -1 := tracer_direction d right

/-- consequently a contour whose first edge lies directly above a region that the result fills
(odd nesting depth below it) is a hole and is reversed, and one above an unfilled region is not -/
theorem tracer_reverses_iff_filled_below (d : Int) : finalRight d true = (d % 2 == 0) := by
  rcases Int.emod_two_eq d with h | h <;> simp [finalRight, h]

/-- Cycle guard (fix d8460b7): on every acyclic chain, for every skip predicate, the guarded nesting
walk returns what the unguarded walk returns — the guard changes nothing except on a cyclic chain,
where it ends the walk (the trace checker rejects such a state as `prev-cycle`) -/
theorem tracer_cycle_guard_noop_on_acyclic (skip : TEnt → Bool) (chain : Array TEnt) (fuel : Nat) :
    walkGuarded skip chain fuel 0 0 0 = walkPlain skip chain fuel 0 :=
  walkGuarded_eq_plain skip chain fuel 0 0 0 (Or.inr ⟨rfl, rfl⟩)

end Trace

section Endpoints
open Canvas.C02 Canvas.C01

/-- every sweep segment of a closed subpath is closed, every segment of an open subpath is open
(no closing edge is ever added for the subject), and all are subject segments -/
theorem endpoints_open_flag (seg : Nat) (verts : List IPt) (closed : Bool) :
    ∀ e ∈ addPathEndpoints seg verts closed, e.flags.open_ = !closed ∧ e.flags.clipping = false :=
  epChain_open (!closed) seg _

/-- a closed contour crosses every vertical line that passes through none of its vertices as often
left-to-right as right-to-left — for every contour, self-intersecting or not -/
theorem closed_contour_balanced (c : Int) (seg : Nat) (verts : List IPt) (h : ∀ v ∈ verts, v.x ≠ c) :
    crossSum c (addPathEndpoints seg verts true) = 0 := by
  cases verts with
  | nil => rfl
  | cons v0 rest =>
    have h0 := h v0 List.mem_cons_self
    simp only [addPathEndpoints, epVerts, if_true, List.cons_append]
    rw [crossSum_chain h0 (fun v hv => h v (List.mem_cons_of_mem _ hv)) h0]; omega

/-- the flags `AddPathEndpoints` stores say the same: a segment crossing the line is not vertical
and the self winding `computeSweepFields` derives from `increasing` is its crossing direction -/
theorem endpoint_flags_are_crossing_direction (c : Int) (seg : Nat) (a b : IPt)
    (h : crossDir c (mkEP false seg a b) ≠ 0) :
    (mkEP false seg a b).flags.vertical = false ∧ selfW (mkEP false seg a b).flags = crossDir c (mkEP false seg a b) := by
  have hx : crossDir c (mkEP false seg a b) = crossX a.x b.x c := rfl
  rw [hx] at h ⊢
  unfold crossX at h ⊢
  simp only [mkEP, selfW]
  by_cases h1 : a.x < c ∧ c < b.x
  · have h2 := Int.lt_trans h1.1 h1.2
    simp [Int.ne_of_lt h2, h1, h2]
  · by_cases h3 : b.x < c ∧ c < a.x
    · have h2 := Int.lt_trans h3.1 h3.2
      simp [Int.ne_of_gt h2, h1, h3, Int.lt_asymm h2]
    · rw [if_neg h1, if_neg h3] at h; exact absurd rfl h

/-- hence, in a column whose crossing sum is 0 (any column cut out of closed contours by
`closed_contour_balanced`), the result of Settle is unfilled above the topmost edge, for every rule:
the kept edges pair up, the topmost one is directed −1 -/
theorem balanced_column_closes (r : Wn.Rule) (L : List (Seg × Fields)) (h : GoodS L) (h0 : (sums L).1 = 0) :
    resSum r L = 0 ∧ altDown false (keptDirs r L) = true := by
  have h1 := column_profile r L h
  rw [h0, fills_zero] at h1
  exact h1

end Endpoints

section NonVacuity
open Canvas.C02 Canvas.C01

/-- a column with a doubly wound region: two left-to-right edges, a vertical one, two right-to-left ones -/
def exCol : List Seg := [⟨false, false, true, false⟩, ⟨false, false, true, false⟩, ⟨false, true, true, false⟩,
  ⟨false, false, false, false⟩, ⟨false, false, false, false⟩]

example : ∀ s ∈ exCol, s.clipping = false := by decide +kernel
example : keptDirs .nonZero (foldColumn exCol) = [-1, 1] := by decide +kernel
example : keptDirs .evenOdd (foldColumn exCol) = [-1, 1, -1, 1] := by decide +kernel
example : (settleCol .nonZero exCol).length = 2 ∧ (settleCol .evenOdd exCol).length = 4 := by decide +kernel
example : settleCol .positive (segsOf (settleCol .evenOdd exCol)) = settleCol .evenOdd exCol := by decide +kernel
/-- a merged entry (|sw| = 2) between winding −1 and +1: kept under Positive, dropped under NonZero -/
example : keep .positive ⟨false, false, true, false⟩ ⟨-1, 0, 2, 0⟩ = true ∧
    keep .nonZero ⟨false, false, true, false⟩ ⟨-1, 0, 2, 0⟩ = false := by decide +kernel
example : GoodS [(⟨false, false, true, false⟩, ⟨-1, 0, 2, 0⟩), (⟨false, false, false, false⟩, ⟨0, 0, -1, 0⟩)] :=
  ⟨rfl, Or.inl rfl, rfl, Or.inl rfl, trivial⟩
example : threeRules .evenOdd := Or.inr (Or.inl rfl)
/-- a chain on which `mergeOverlapping` really merges (the receiver absorbs the coincident edge
below it and carries self winding 2 afterwards) and which meets every hypothesis of
`settle_invariant_merge` -/
def exS : C01Merge.Ent := ⟨⟨false, false, true, false⟩, 1, false, ⟨0, 0, 1, 0⟩⟩
def exBelow : List C01Merge.Ent :=
  [⟨⟨false, false, true, false⟩, 1, false, ⟨-1, 0, 1, 0⟩⟩, ⟨⟨false, false, false, false⟩, 2, false, ⟨0, 0, -1, 0⟩⟩]
example : (C01Merge.merge exS exBelow).touched = true ∧ (C01Merge.merge exS exBelow).s.f = ⟨-1, 0, 2, 0⟩ := by decide +kernel
example : GoodS ([] ++ C01Merge.pairs ((C01Merge.merge exS exBelow).s :: (C01Merge.merge exS exBelow).below)) := by
  apply settle_invariant_merge [] exS exBelow
  · exact ⟨rfl, Or.inl rfl, rfl, Or.inl rfl, rfl, Or.inl rfl, trivial⟩
  · decide
  · intro p rest' h
    have : (C01Merge.absorb exS exBelow).2.2 = [⟨⟨false, false, false, false⟩, 2, false, ⟨0, 0, -1, 0⟩⟩] := by decide +kernel
    rw [this] at h
    obtain ⟨rfl, rfl⟩ := List.cons.inj h
    exact ⟨rfl, rfl⟩
/-- the verdict accepts a square settled to itself: its centre and an outside point are judged, the
point on its left edge is skipped -/
example : verdict .nonZero [[⟨0, 0⟩, ⟨4, 0⟩, ⟨4, 4⟩, ⟨0, 4⟩]] [[⟨0, 0⟩, ⟨4, 0⟩, ⟨4, 4⟩, ⟨0, 4⟩]] [⟨2, 2⟩, ⟨9, 9⟩, ⟨0, 1⟩] 1
    = .ok 2 1 := by decide +kernel
/-- … and rejects the same square returned clockwise under Positive -/
example : verdict .positive [[⟨0, 0⟩, ⟨4, 0⟩, ⟨4, 4⟩, ⟨0, 4⟩]] [[⟨0, 4⟩, ⟨4, 4⟩, ⟨4, 0⟩, ⟨0, 0⟩]] [⟨2, 2⟩] 1
    = .failPoint "winding-not-01" 0 1 (-1) := by decide +kernel
/-- a two-edge chain as the tracer leaves it: bottom edge depth 0 traversed rightwards, top edge leftwards -/
example : chainCheck .nonZero [⟨⟨false, false, false, false⟩, ⟨1, 0, -1, 0⟩, false, true, 0, -1⟩,
    ⟨⟨false, false, true, false⟩, ⟨0, 0, 1, 0⟩, false, true, 1, 1⟩] = none := by decide +kernel
/-- … and the same chain with the top edge's nesting count off by one is rejected -/
example : chainCheck .nonZero [⟨⟨false, false, false, false⟩, ⟨1, 0, -1, 0⟩, false, true, 1, 0⟩,
    ⟨⟨false, false, true, false⟩, ⟨0, 0, 1, 0⟩, false, true, 1, 1⟩] = some ("nesting-parity", 0) := by decide +kernel

/-- a self-intersecting closed contour (a bow tie) and a line through no vertex -/
example : crossSum 1 (addPathEndpoints 0 [⟨0, 0⟩, ⟨2, 2⟩, ⟨2, 0⟩, ⟨0, 2⟩] true) = 0 := by decide +kernel
example : (addPathEndpoints 0 [⟨0, 0⟩, ⟨2, 2⟩, ⟨2, 0⟩, ⟨0, 2⟩] true).map (crossDir 1) = [1, 0, -1, 0] := by decide +kernel
/-- the same vertices as an open subpath: no closing edge, the crossings do not balance -/
example : crossSum 1 (addPathEndpoints 0 [⟨0, 0⟩, ⟨2, 2⟩, ⟨2, 0⟩] false) = 1 := by decide +kernel
example : crossDir 1 (mkEP false 1 ⟨0, 0⟩ ⟨2, 2⟩) ≠ 0 := by decide +kernel
example : (sums (foldColumn exCol)).1 = 0 := by decide +kernel

/-- the guarded walk skips two untraced entries and stops at the traced third one -/
example : walkGuarded (fun e => !e.traced) #[⟨⟨false, false, true, false⟩, ⟨0, 0, 1, 0⟩, false, false, 0, 0⟩,
    ⟨⟨false, false, true, false⟩, ⟨0, 0, 1, 0⟩, false, false, 0, 0⟩,
    ⟨⟨false, false, true, false⟩, ⟨0, 0, 1, 0⟩, false, true, 1, 1⟩] 4 0 0 0 = some 2 := by decide +kernel

end NonVacuity

end C02
