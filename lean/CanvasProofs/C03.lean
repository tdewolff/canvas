import CanvasGen.CoreK
import CanvasGen.BezierK
import CanvasModel.C03
import CanvasProofs.Lemmas.C03Split
import CanvasProofs.Lemmas.C03Loop
import CanvasProofs.Lemmas.C03Chord
import CanvasProofs.Lemmas.C03Replace
import CanvasProofs.Lemmas.C03Real
import CanvasProofs.Lemmas.C03Spec
import CanvasProofs.Lemmas.C03XMono
import CanvasProofs.Lemmas.C03Arc
import CanvasProofs.Lemmas.C03CubicDev

/-! # C03 — flattening: exact splits, vertices on the curve in order, chord deviation, structure

`GenK.*` definitions are regenerated from /repo/path_util.go and /repo/util.go on every check.
`Canvas.C03.*` are the hand-written loop / `replace` models, tied to the real flatteners by the
correspondence run (bit exact for quadratics). All theorems are over an arbitrary linearly ordered
field `K`; the step-size rule of the loops is an ARBITRARY function (`vertices_*`) or is
characterised by the two bounds the repaired code takes the minimum of (`*_within_two_tol`). -/
set_option linter.unusedSectionVars false
namespace C03
open Canvas Canvas.C03 GenK C03L
variable {K : Type} [Field K] [LinearOrder K] [IsStrictOrderedRing K] [Env K]

/-- the left part of `quadraticBezierSplit` at `t` is the curve on `[0,t]` -/
theorem split_exact_quad_left (p0 p1 p2 : Pt K) (t s : K) :
    quadraticBezierPos (quadL p0 p1 p2 t).1 (quadL p0 p1 p2 t).2.1 (quadL p0 p1 p2 t).2.2 s
      = quadraticBezierPos p0 p1 p2 (t * s) := quad_left p0 p1 p2 t s

/-- … and the right part is the curve on `[t,1]` -/
theorem split_exact_quad_right (p0 p1 p2 : Pt K) (t s : K) :
    quadraticBezierPos (quadR p0 p1 p2 t).1 (quadR p0 p1 p2 t).2.1 (quadR p0 p1 p2 t).2.2 s
      = quadraticBezierPos p0 p1 p2 (t + (1 - t) * s) := quad_right p0 p1 p2 t s

theorem split_exact_cubic_left (p0 p1 p2 p3 : Pt K) (t s : K) :
    cubicBezierPos (cubL p0 p1 p2 p3 t).1 (cubL p0 p1 p2 p3 t).2.1 (cubL p0 p1 p2 p3 t).2.2.1 (cubL p0 p1 p2 p3 t).2.2.2 s
      = cubicBezierPos p0 p1 p2 p3 (t * s) := cub_left p0 p1 p2 p3 t s

theorem split_exact_cubic_right (p0 p1 p2 p3 : Pt K) (t s : K) :
    cubicBezierPos (cubR p0 p1 p2 p3 t).1 (cubR p0 p1 p2 p3 t).2.1 (cubR p0 p1 p2 p3 t).2.2.1 (cubR p0 p1 p2 p3 t).2.2.2 s
      = cubicBezierPos p0 p1 p2 p3 (t + (1 - t) * s) := cub_right p0 p1 p2 p3 t s

/-- the split pieces join where the curve is: left end = right start = B(t) -/
theorem split_joins_on_curve (p0 p1 p2 p3 : Pt K) (t : K) :
    (cubL p0 p1 p2 p3 t).2.2.2 = cubicBezierPos p0 p1 p2 p3 t
      ∧ (cubR p0 p1 p2 p3 t).1 = cubicBezierPos p0 p1 p2 p3 t
      ∧ (quadL p0 p1 p2 t).2.2 = quadraticBezierPos p0 p1 p2 t
      ∧ (quadR p0 p1 p2 t).1 = quadraticBezierPos p0 p1 p2 t := by
  refine ⟨?_, ?_, ?_, ?_⟩
  · have := cub_left p0 p1 p2 p3 t 1; rw [cub_pos_one, mul_one] at this; exact this
  · have := cub_right p0 p1 p2 p3 t 0; rw [cub_pos_zero, mul_zero, add_zero] at this; exact this
  · exact quadL_end p0 p1 p2 t
  · have := quad_right p0 p1 p2 t 0; rw [quad_pos_zero, mul_zero, add_zero] at this; exact this

/-- degree elevation (the callers of `quadraticToCubicBezier` are `offset`, `ToPS`, `ToPDF` and
`Triangulate`): the cubic on the control points it returns is the same curve -/
theorem quadratic_elevation_exact (p0 p1 p2 : Pt K) (t : K) :
    cubicBezierPos p0 (quadraticToCubicBezier p0 p1 p2).1 (quadraticToCubicBezier p0 p1 p2).2 p2 t
      = quadraticBezierPos p0 p1 p2 t := by
  simp only [quadraticToCubicBezier, cubicBezierPos, quadraticBezierPos, Point.Interpolate, Point.Mul, Point.Add]
  congr 1 <;> ring

/-- `flattenQuadraticBezier`'s loop with ANY step rule that returns parameters in (0,1): the vertices
are `B(T₁), …, B(T_k), p2` with `0 < T₁ < … < T_k < 1` (all control polygons, all tolerances, any
number of iterations). -/
theorem vertices_on_curve_in_order_quad (step : Pt K → Pt K → Pt K → Option K)
    (hstep : ∀ q0 q1 q2 t, step q0 q1 q2 = some t → 0 < t ∧ t < 1)
    (fuel : Nat) (p0 p1 p2 : Pt K) (vs : List (Pt K))
    (h : flattenQuadLoop step quadSplitR fuel p0 p1 p2 = some vs) :
    ∃ Ts : List K, vs = Ts.map (quadraticBezierPos p0 p1 p2) ++ [p2]
      ∧ Ts.Pairwise (· < ·) ∧ ∀ T ∈ Ts, 0 < T ∧ T < 1 := by
  obtain ⟨Ts, hpw, hrange, -, hvs, -⟩ := (quadLoop step).chain (quadraticBezierPos p0 p1 p2) (fun _ _ => True)
    (hrange := fun _ => hstep _ _ _) (hcut := fun _ _ _ _ _ _ _ _ _ => trivial) (hstop := fun _ _ _ _ _ => trivial)
    fuel (p0, p1, p2) 0 vs zero_lt_one (OnTail.zero _) h
  exact ⟨Ts, by rw [hvs, quad_pos_one], hpw, hrange⟩

/-- `flattenSmoothCubicBezier`'s loop (d = 0), any step rule and any degenerate-piece filter: the
vertices are curve points at increasing parameters in (0,1), optionally followed by the end point. -/
theorem vertices_on_curve_in_order_cubic (step : Cub K → CStep K) (keep : Cub K → Bool)
    (hstep : ∀ q t, step q = .cut t → 0 < t ∧ t < 1)
    (fuel : Nat) (p : Cub K) (vs : List (Pt K))
    (h : flattenCubicLoop step keep cubSplitR fuel p = some vs) :
    ∃ (Ts : List K) (e : List (Pt K)), vs = Ts.map (cubPos p) ++ e ∧ (e = [] ∨ e = [p.p3])
      ∧ Ts.Pairwise (· < ·) ∧ ∀ T ∈ Ts, 0 < T ∧ T < 1 := by
  obtain ⟨Ts, hpw, hrange, -, hsub, -⟩ := (cubLoop step keep).chain (cubPos p) (fun _ _ => True)
    (hrange := hstep) (hcut := fun _ _ _ _ _ _ _ _ _ => trivial) (hstop := fun _ _ _ _ _ => trivial)
    fuel p 0 vs zero_lt_one (OnTail.zero _) h
  -- the kept vertices are the curve points at a sublist of the cut parameters
  obtain ⟨vs₁, e, rfl, h₁, he⟩ := List.sublist_append_iff.mp hsub
  obtain ⟨Ts', hTs', rfl⟩ := List.sublist_map_iff.mp h₁
  exact ⟨Ts', e, rfl, List.sublist_singleton.mp (cubPos_one p ▸ he), hpw.sublist hTs',
    fun T hT => hrange T (hTs'.subset hT)⟩

/-- the curve starts and ends at its first and last control point (first vertex = MoveTo point) -/
theorem curve_end_points (p0 p1 p2 p3 : Pt K) :
    quadraticBezierPos p0 p1 p2 0 = p0 ∧ quadraticBezierPos p0 p1 p2 1 = p2
      ∧ cubicBezierPos p0 p1 p2 p3 0 = p0 ∧ cubicBezierPos p0 p1 p2 p3 1 = p3 :=
  ⟨quad_pos_zero _ _ _, quad_pos_one _ _ _, cub_pos_zero _ _ _ _, cub_pos_one _ _ _ _⟩

/-- B(s) − L(s) = −s(1−s)·(p0 − 2p1 + p2) -/
theorem chord_identity (p0 p1 p2 : Pt K) (s : K) :
    (quadraticBezierPos p0 p1 p2 s).x - (Point.Interpolate p0 p2 s).x = -(s * (1 - s)) * (p0.x - 2 * p1.x + p2.x)
      ∧ (quadraticBezierPos p0 p1 p2 s).y - (Point.Interpolate p0 p2 s).y = -(s * (1 - s)) * (p0.y - 2 * p1.y + p2.y) := by
  simp only [quadraticBezierPos, Point.Interpolate, Point.Mul, Point.Add]; constructor <;> ring

/-- on [0,1] the curve is within |p0 − 2p1 + p2|/4 of the chord point at the same parameter -/
theorem chord_bound (p0 p1 p2 : Pt K) (s : K) (h0 : 0 ≤ s) (h1 : s ≤ 1) :
    |(quadraticBezierPos p0 p1 p2 s).x - (Point.Interpolate p0 p2 s).x| ≤ |p0.x - 2 * p1.x + p2.x| / 4
      ∧ |(quadraticBezierPos p0 p1 p2 s).y - (Point.Interpolate p0 p2 s).y| ≤ |p0.y - 2 * p1.y + p2.y| / 4 := by
  rw [(chord_identity p0 p1 p2 s).1, (chord_identity p0 p1 p2 s).2]
  exact ⟨abs_scaled_le _ h0 h1, abs_scaled_le _ h0 h1⟩

/-- the piece `[0,t]` cut off by one iteration deviates from its chord by at most `t²·|Δ²p|/4` -/
theorem chord_bound_piece (p0 p1 p2 : Pt K) (t s : K) (h0 : 0 ≤ s) (h1 : s ≤ 1) :
    |(quadraticBezierPos p0 p1 p2 (t * s)).x - (Point.Interpolate p0 (quadraticBezierPos p0 p1 p2 t) s).x|
        ≤ |t * t * (p0.x - 2 * p1.x + p2.x)| / 4
      ∧ |(quadraticBezierPos p0 p1 p2 (t * s)).y - (Point.Interpolate p0 (quadraticBezierPos p0 p1 p2 t) s).y|
        ≤ |t * t * (p0.y - 2 * p1.y + p2.y)| / 4 := by
  have hb := chord_bound (quadL p0 p1 p2 t).1 (quadL p0 p1 p2 t).2.1 (quadL p0 p1 p2 t).2.2 s h0 h1
  rw [quad_left, (left_second_difference p0 p1 p2 t).1, (left_second_difference p0 p1 p2 t).2] at hb
  have hstart : (quadL p0 p1 p2 t).1 = p0 := rfl
  rw [quadL_end, hstart] at hb
  exact hb

/-- One iteration of the repaired `flattenQuadraticBezier`. The step is
`t = min(2·sqrt(tol·|denom/s2nom|), D·D/(D·D − turn))` (the second bound only when
`turn = (p1−p0)·(p2−p1) < 0`), so `t²·|s2nom| ≤ 4·tol·denom` with `denom² = |p1−p0|²` and
`t·(D·D − turn) ≤ D·D` (`step_cap_establishes_hypothesis`). Then every point `B(u·t)` of the piece is
within `2·tol` of the chord line through `p0` and `B(t)`:  cross² ≤ (2·tol)²·|chord|².
All control polygons, all tolerances. -/
theorem quad_piece_within_two_tol (p0 p1 p2 : Pt K) (tol d t u : K)
    (hd2 : d * d = dd p0 p1)
    (ht0 : 0 ≤ t) (hu0 : 0 ≤ u) (hu1 : u ≤ 1)
    (hstep : t * t * |s2nom p0 p1 p2| ≤ 4 * tol * d)
    (hcap : t * (dd p0 p1 - turnDot p0 p1 p2) ≤ dd p0 p1) :
    (Point.PerpDot (Point.Sub (quadraticBezierPos p0 p1 p2 (u * t)) p0) (Point.Sub (quadraticBezierPos p0 p1 p2 t) p0)) ^ 2
      ≤ (2 * tol) ^ 2 * Point.Dot (Point.Sub (quadraticBezierPos p0 p1 p2 t) p0) (Point.Sub (quadraticBezierPos p0 p1 p2 t) p0) :=
  piece_two_tol ⟨d, hd2, hstep, hcap⟩ hu0 hu1

/-- The two bounds of the code's step give the hypotheses of `quad_piece_within_two_tol`: if the
polygon turns by more than 90° the step is at most `D·D/(D·D − turn)`, otherwise any `t ≤ 1` will do. -/
theorem step_cap_establishes_hypothesis (p0 p1 p2 : Pt K) (t : K) (ht0 : 0 ≤ t) (ht1 : t ≤ 1)
    (hmin : turnDot p0 p1 p2 < 0 → t ≤ dd p0 p1 / (dd p0 p1 - turnDot p0 p1 p2)) :
    t * (dd p0 p1 - turnDot p0 p1 p2) ≤ dd p0 p1 :=
  mul_sub_le_of_le_cap (dd_nonneg p0 p1) ht0 ht1 hmin

/-- The loop is never left (`t ≥ 1`) while the polygon turns by more than 90°: the cap is below 1.
So at the last piece `turn ≥ 0` holds. -/
theorem step_cap_below_one (p0 p1 p2 : Pt K) (hturn : turnDot p0 p1 p2 < 0) :
    dd p0 p1 / (dd p0 p1 - turnDot p0 p1 p2) < 1 := cap_lt_one (dd_nonneg p0 p1) hturn

/-- The last piece: the loop is left when `t ≥ 1`, i.e. `|s2nom| ≤ 4·tol·denom` and (by
`step_cap_below_one`) `turn ≥ 0`, or when `p0 = p1` (then `s2nom = 0 = turn` and `d = 0`); the rest of
the curve is replaced by the chord `p0 → p2` and every curve point is within `2·tol` of that chord line. -/
theorem quad_last_piece_within_two_tol (p0 p1 p2 : Pt K) (tol d u : K)
    (hd2 : d * d = dd p0 p1)
    (hu0 : 0 ≤ u) (hu1 : u ≤ 1)
    (hstop : |s2nom p0 p1 p2| ≤ 4 * tol * d)
    (hturn : 0 ≤ turnDot p0 p1 p2) :
    (Point.PerpDot (Point.Sub (quadraticBezierPos p0 p1 p2 u) p0) (Point.Sub p2 p0)) ^ 2
      ≤ (2 * tol) ^ 2 * Point.Dot (Point.Sub p2 p0) (Point.Sub p2 p0) := by
  have h := piece_two_tol (t := 1) ⟨d, hd2, by rwa [mul_one, one_mul],
    mul_sub_le_of_le_cap (dd_nonneg p0 p1) zero_le_one le_rfl fun hneg => absurd hturn hneg.not_ge⟩ hu0 hu1
  rwa [quad_pos_one, mul_one] at h

/-- Along a piece cut by the capped step the curve advances monotonically in the direction of its
chord, so the nearest point of the chord LINE lies on the chord SEGMENT (distance to the line =
distance to the polyline edge): B'(x)·(B(t) − p0) ≥ 0 for 0 ≤ x ≤ t. -/
theorem quad_monotone_along_chord (p0 p1 p2 : Pt K) (t x : K) (hx0 : 0 ≤ x) (hxt : x ≤ t)
    (hcap : t * (dd p0 p1 - turnDot p0 p1 p2) ≤ dd p0 p1) :
    0 ≤ Point.Dot (quadraticBezierDeriv p0 p1 p2 x) (Point.Sub (quadraticBezierPos p0 p1 p2 t) p0) := by
  -- B' is affine in x, so it suffices to look at x = 0 and x = t
  have ht0 : 0 ≤ t := le_trans hx0 hxt
  have hR := sub_nonneg.mpr hcap
  rw [deriv_dot_affine]
  refine affine_nonneg ?_ ?_ hx0 hxt
  · rw [deriv_zero_dot_chord]
    exact mul_nonneg (mul_nonneg zero_le_two ht0) (add_nonneg (dot_self_nonneg _) hR)
  · rw [← deriv_dot_affine]
    have h := mul_nonneg ht0 (add_nonneg (dot_self_nonneg (quadraticBezierDeriv p0 p1 p2 t))
      (mul_nonneg (by norm_num : (0 : K) ≤ 4) hR))
    rw [← deriv_dot_chord] at h
    linarith

/-- non-vacuity, over ℚ: the hairpin (0,0),(30,40),(1,0) with tol = 1 (|D| = 50, turn = −2470,
s2nom = −40): the cap 2500/4970 is a legal step and satisfies both hypotheses -/
example : (50 : ℚ) * 50 = dd (Pt.mk (0 : ℚ) 0) (Pt.mk 30 40)
    ∧ turnDot (Pt.mk (0 : ℚ) 0) (Pt.mk 30 40) (Pt.mk 1 0) < 0
    ∧ (2500 / 4970 : ℚ) * (2500 / 4970) * |s2nom (Pt.mk (0 : ℚ) 0) (Pt.mk 30 40) (Pt.mk 1 0)| ≤ 4 * 1 * 50
    ∧ (2500 / 4970 : ℚ) * (dd (Pt.mk (0 : ℚ) 0) (Pt.mk 30 40) - turnDot (Pt.mk (0 : ℚ) 0) (Pt.mk 30 40) (Pt.mk 1 0))
        ≤ dd (Pt.mk (0 : ℚ) 0) (Pt.mk 30 40) := by
  simp only [dd, turnDot, s2nom, Point.Dot, Point.Sub, Point.PerpDot]
  norm_num

/-- The whole loop, for any step rule that respects the two bounds (`StepOK`): the emitted polyline
`p0, B(T₁), …, B(T_k), p2` has strictly increasing break parameters in (0,1), consecutive edges are
contiguous pieces of the ORIGINAL curve (`chainOK`: for every edge [a,b] and every parameter x in [a,b]
the curve point B(x) is within 2·tol of the line through B(a), B(b)), and it has at most `fuel`
vertices. All control polygons, all tolerances, any number of iterations. -/
theorem flatten_quad_every_edge_within_two_tol (tol : K) (step : Pt K → Pt K → Pt K → Option K)
    (hstep : ∀ q0 q1 q2 t, step q0 q1 q2 = some t → 0 < t ∧ t < 1 ∧ StepOK tol q0 q1 q2 t)
    (hstop : ∀ q0 q1 q2, step q0 q1 q2 = none → StepOK tol q0 q1 q2 1)
    (fuel : Nat) (p0 p1 p2 : Pt K) (vs : List (Pt K))
    (h : flattenQuadLoop step quadSplitR fuel p0 p1 p2 = some vs) :
    ∃ Ts : List K, vs = Ts.map (quadraticBezierPos p0 p1 p2) ++ [p2]
      ∧ Ts.Pairwise (· < ·) ∧ (∀ T ∈ Ts, 0 < T ∧ T < 1) ∧ chainOK tol p0 p1 p2 0 Ts
      ∧ vs.length ≤ fuel := by
  obtain ⟨Ts, hpw, hrange, hchain, hvs, hlen⟩ :=
    (quadLoop step).chain (quadraticBezierPos p0 p1 p2) (chainOK tol p0 p1 p2)
      (hrange := fun _ t ht => ⟨(hstep _ _ _ t ht).1, (hstep _ _ _ t ht).2.1⟩)
      (hcut := fun _ a t _ ha1 hpos ht0 ht hrest =>
        ⟨piece_of_current ha1 ht0 rfl hpos (hstep _ _ _ t ht).2.2, hrest⟩)
      (hstop := fun _ a ha1 hpos hn =>
        piece_of_current ha1 zero_lt_one (by ring) hpos (hstop _ _ _ hn))
      fuel (p0, p1, p2) 0 vs zero_lt_one (OnTail.zero _) h
  exact ⟨Ts, by rw [hvs, quad_pos_one], hpw, hrange, hchain, hvs ▸ hlen⟩

/-- The step rule of path_util.go:815-833 written over K (`quadStepK`: `Env.sqrt`, `Env.hypot`, the
90° cap, `+Inf` for `s2nom = 0`) satisfies both requirements, for every tolerance > 0 — assuming only
that sqrt and hypot are a square root and a Euclidean norm (`SqrtOK`) and that `Point.Equals` is
equality (the Epsilon fuzz is outside the theorem). -/
theorem code_step_rule_respects_bounds (hs : SqrtOK K) (tol : K) (htol : 0 < tol) (eqp : Pt K → Pt K → Bool)
    (heq : ∀ a b, eqp a b = true → a = b) (q0 q1 q2 : Pt K) :
    (∀ t, quadStepK tol eqp q0 q1 q2 = some t → 0 < t ∧ t < 1 ∧ StepOK tol q0 q1 q2 t)
      ∧ (quadStepK tol eqp q0 q1 q2 = none → StepOK tol q0 q1 q2 1) := by
  by_cases hq : q0 = q1
  · -- p0 = p1, whatever `eqp` says: D, s2nom and turn vanish and the loop is left
    subst hq
    have hn : quadStepK tol eqp q0 q0 q2 = none := by
      simp [quadStepK, Point.Dot, Point.Sub, Point.PerpDot]
    rw [hn]
    exact none_eq_cases (stepOK_degenerate tol q0 q2)
  · have he : eqp q0 q1 = false := Bool.eq_false_iff.mpr fun hh => hq (heq _ _ hh)
    have hA : 0 < dd q0 q1 := dd_pos_of_ne hq
    have hd2 : Env.hypot (Point.Sub q1 q0).x (Point.Sub q1 q0).y * Env.hypot (Point.Sub q1 q0).x (Point.Sub q1 q0).y
        = dd q0 q1 := hs.hypot_sq _ _
    have hd0 := hs.hypot_nonneg (Point.Sub q1 q0).x (Point.Sub q1 q0).y
    simp only [quadStepK, he, Bool.false_eq_true, if_false, StepOK]
    rw [← dd, ← turnDot, ← s2nom]
    -- from here on only the scalars d = |D|, A = D·D, T = turn and S = s2nom matter
    generalize Env.hypot (Point.Sub q1 q0).x (Point.Sub q1 q0).y = d at hd2 hd0 ⊢
    generalize dd q0 q1 = A at hA hd2 ⊢
    generalize turnDot q0 q1 q2 = T
    generalize s2nom q0 q1 q2 = S
    have hd : 0 < d := hd0.lt_of_ne fun h0 => by rw [← h0, mul_zero] at hd2; exact hA.ne hd2
    -- a step below the flatness bound (none if S = 0) and the cap (none if T ≥ 0) is as required
    have hok : ∀ t, 0 ≤ t → t ≤ 1 → (S ≠ 0 → t ≤ 2 * Env.sqrt (tol * |d / S|)) → (T < 0 → t ≤ A / (A - T)) →
        ∃ d, d * d = A ∧ t * t * |S| ≤ 4 * tol * d ∧ t * (A - T) ≤ A := fun t ht0 ht1 hflat hcap =>
      ⟨d, hd2, sq_mul_abs_le_of_le_sqrt hs htol.le hd0 ht0 hflat, mul_sub_le_of_le_cap hA.le ht0 ht1 hcap⟩
    have hcap : T < 0 → 0 < A / (A - T) ∧ A / (A - T) < 1 := fun hT =>
      ⟨div_pos hA (sub_pos.mpr (hT.trans hA)), cap_lt_one hA.le hT⟩
    have hflat : S ≠ 0 → 0 < 2 * Env.sqrt (tol * |d / S|) := fun hS =>
      mul_pos two_pos (hs.sqrt_pos (mul_pos htol (abs_pos.mpr (div_ne_zero hd.ne' hS))))
    rcases eq_or_ne S 0 with rfl | hS
    · -- s2nom = 0, the code's t is +Inf: the step is the cap when there is one, else the loop is left
      rw [if_pos rfl]
      rcases lt_or_ge T 0 with hT | hT
      · rw [if_pos hT]
        exact some_eq_cases ⟨(hcap hT).1, (hcap hT).2, hok _ (hcap hT).1.le (hcap hT).2.le (absurd rfl) fun _ => le_rfl⟩
      · rw [if_neg hT.not_gt]
        exact none_eq_cases (hok 1 zero_le_one le_rfl (absurd rfl) (absurd · hT.not_gt))
    · rw [if_neg hS]
      rcases lt_or_ge T 0 with hT | hT
      · -- capped: t = min(flatness bound, cap) < 1 and the loop goes on
        have h1 := lt_of_le_of_lt (min_le_right (2 * Env.sqrt (tol * |d / S|)) _) (hcap hT).2
        rw [if_pos hT, if_neg h1.not_ge]
        exact some_eq_cases ⟨lt_min (hflat hS) (hcap hT).1, h1,
          hok _ (lt_min (hflat hS) (hcap hT).1).le h1.le (fun _ => min_le_left _ _) fun _ => min_le_right _ _⟩
      · -- no cap: the loop is left iff the flatness bound is at least 1
        rw [if_neg hT.not_gt]
        rcases le_or_gt 1 (2 * Env.sqrt (tol * |d / S|)) with h1 | h1
        · rw [if_pos h1]
          exact none_eq_cases (hok 1 zero_le_one le_rfl (fun _ => h1) (absurd · hT.not_gt))
        · rw [if_neg h1.not_ge]
          exact some_eq_cases ⟨hflat hS, h1, hok _ (hflat hS).le h1.le (fun _ => le_rfl) (absurd · hT.not_gt)⟩

/-- Hence: `flattenQuadraticBezier` (model loop + the code's step rule) approximates EVERY quadratic
Bézier within 2·tol, with vertices on the curve in curve order. -/
theorem flatten_quad_within_two_tol (hs : SqrtOK K) (tol : K) (htol : 0 < tol) (eqp : Pt K → Pt K → Bool)
    (heq : ∀ a b, eqp a b = true → a = b) (fuel : Nat) (p0 p1 p2 : Pt K) (vs : List (Pt K))
    (h : flattenQuadLoop (quadStepK tol eqp) quadSplitR fuel p0 p1 p2 = some vs) :
    ∃ Ts : List K, vs = Ts.map (quadraticBezierPos p0 p1 p2) ++ [p2]
      ∧ Ts.Pairwise (· < ·) ∧ (∀ T ∈ Ts, 0 < T ∧ T < 1) ∧ chainOK tol p0 p1 p2 0 Ts
      ∧ vs.length ≤ fuel :=
  flatten_quad_every_edge_within_two_tol tol (quadStepK tol eqp)
    (fun q0 q1 q2 => (code_step_rule_respects_bounds hs tol htol eqp heq q0 q1 q2).1)
    (fun q0 q1 q2 => (code_step_rule_respects_bounds hs tol htol eqp heq q0 q1 q2).2) fuel p0 p1 p2 vs h

/-- non-vacuity: the assumptions on sqrt/hypot hold for the real numbers -/
example : @SqrtOK ℝ _ _ _ envReal := sqrtOK_real

/-- non-vacuity of `StepOK` with a genuine step: hairpin (0,0),(30,40),(1,0), tol = 1, t = cap -/
example : StepOK (1 : ℚ) (Pt.mk 0 0) (Pt.mk 30 40) (Pt.mk 1 0) (2500 / 4970) :=
  ⟨50, by simp only [dd, Point.Dot, Point.Sub]; norm_num,
    by simp only [s2nom, Point.Sub, Point.PerpDot]; norm_num,
    by simp only [dd, turnDot, Point.Dot, Point.Sub]; norm_num⟩

/-- Hull bound (no square roots): if the inner control points of a cubic are within D of points of its
chord segment, every point B(s), 0 ≤ s ≤ 1, is within 3/4·D of a point of the chord segment — the curve is
a convex combination of its control points with weight at most 3/4 on the inner ones. -/
theorem cubic_hull_bound (p0 p1 p2 p3 : Pt K) (l1 l2 D s : K)
    (hl1 : 0 ≤ l1 ∧ l1 ≤ 1) (hl2 : 0 ≤ l2 ∧ l2 ≤ 1) (hD : 0 ≤ D)
    (h1 : dsq p1 (segPt p0 p3 l1) ≤ D * D) (h2 : dsq p2 (segPt p0 p3 l2) ≤ D * D)
    (hs0 : 0 ≤ s) (hs1 : s ≤ 1) :
    ∃ m : K, 0 ≤ m ∧ m ≤ 1 ∧ dsq (cubicBezierPos p0 p1 p2 p3 s) (segPt p0 p3 m) ≤ (3 / 4 * D) * (3 / 4 * D) := by
  have h1s : 0 ≤ 1 - s := sub_nonneg.mpr hs1
  -- the Bernstein weights of p1, p2, p3; that of p0 is (1−s)³
  refine near_chord_of_weights (3 * s * ((1 - s) * (1 - s))) (3 * (s * s) * (1 - s)) (s * s * s)
    (mul_nonneg (mul_nonneg (by norm_num) hs0) (mul_self_nonneg _))
    (mul_nonneg (mul_nonneg (by norm_num) (mul_self_nonneg s)) h1s) (mul_nonneg (mul_self_nonneg s) hs0)
    ?_ ?_ hl1 hl2 h1 h2 ?_ ?_
  · linarith [mul_nonneg (mul_self_nonneg (1 - s)) h1s]
  · linarith [(unit_prod_le_quarter hs0 hs1).2]
  · simp only [cubicBezierPos, Point.Mul, Point.Add]; ring
  · simp only [cubicBezierPos, Point.Mul, Point.Add]; ring

/-- `cubicBezierDeviation(p0,p1,p2,p3, 0)` over K (`devK`: the three-case distance to the chord segment with
`Env.hypot`, times 3/4) bounds the distance of EVERY point of the cubic from its chord segment. -/
theorem cubic_within_deviation_of_chord (hs : SqrtOK K) (c : Cub K) (s : K) (hs0 : 0 ≤ s) (hs1 : s ≤ 1) :
    ∃ m : K, 0 ≤ m ∧ m ≤ 1 ∧ dsq (cubPos c s) (segPt c.p0 c.p3 m) ≤ devK c * devK c := by
  obtain ⟨d1nn, l1, hl10, hl11, e1⟩ := distSegK_attained hs c.p0 c.p3 c.p1
  obtain ⟨d2nn, l2, hl20, hl21, e2⟩ := distSegK_attained hs c.p0 c.p3 c.p2
  exact cubic_hull_bound c.p0 c.p1 c.p2 c.p3 l1 l2 _ s ⟨hl10, hl11⟩ ⟨hl20, hl21⟩ (le_trans d1nn (le_max_left _ _))
    (e1 ▸ mul_self_le_mul_self d1nn (le_max_left _ _)) (e2 ▸ mul_self_le_mul_self d2nn (le_max_right _ _)) hs0 hs1

/-- The whole loop of `flattenSmoothCubicBezier` (d = 0), for any step function that only returns steps whose cut-off
piece passed the flatness test (the exit condition of the halving loop) and that stops only on a flat rest:
cut parameters strictly increase in (0,1); every piece [T_k, T_k+1] of the ORIGINAL curve, and the rest up
to 1, is within r of the segment between its end points; the emitted vertices are a sublist of the piece
end points followed by p3 (pieces `addCubicBezierLine` calls degenerate add no vertex); at most `fuel`
vertices. All cubics, all tolerances. -/
theorem flatten_cubic_every_piece_within (r : K) (step : Cub K → CStep K) (keep : Cub K → Bool)
    (hcut : ∀ q t, step q = .cut t → 0 < t ∧ t < 1 ∧ PieceFlat r (cubSplitLK q t))
    (hstop : ∀ q, step q = .stop → PieceFlat r q)
    (hstraight : ∀ q, step q = .straight → PieceFlat r q)
    (fuel : Nat) (p : Cub K) (vs : List (Pt K))
    (h : flattenCubicLoop step keep cubSplitR fuel p = some vs) :
    ∃ Ts : List K, Ts.Pairwise (· < ·) ∧ (∀ T ∈ Ts, 0 < T ∧ T < 1) ∧ cubChainOK r p 0 Ts
      ∧ vs.Sublist (Ts.map (cubPos p) ++ [p.p3]) ∧ vs.length ≤ fuel := by
  obtain ⟨Ts, hpw, hrange, hchain, hsub, hlen⟩ := (cubLoop step keep).chain (cubPos p) (cubChainOK r p)
    (hrange := fun q t ht => ⟨(hcut q t ht).1, (hcut q t ht).2.1⟩)
    (hcut := fun c a t _ ha1 hpos ht0 ht hrest =>
      ⟨cubPiece_of_front ha1 ht0 rfl hpos (hcut c t ht).2.2, hrest⟩)
    (hstop := fun c a ha1 hpos hn => cubPiece_of_front ha1 zero_lt_one (by ring) hpos
      ((flat_left_one r c).mpr (hn.elim (hstop c) (hstraight c))))
    fuel p 0 vs zero_lt_one (OnTail.zero _) h
  exact ⟨Ts, hpw, hrange, hchain, cubPos_one p ▸ hsub, hsub.length_le.trans hlen⟩

/-- With the step of the repaired code (`cubStepK`: ANY positive first estimate, clipped to 1, halved while
`4·tol < cubicBezierDeviation(left piece)`), every piece is within 4·tol of its chord — provided the halving
loop is always left by that test and not by its cap of 20 iterations (`hexit`; the cap is the only way the
code can emit a chord that failed the test). -/
theorem flatten_cubic_within_four_tol (hs : SqrtOK K) (tol : K) (eqp : Pt K → Pt K → Bool) (est : Cub K → K)
    (keep : Cub K → Bool) (heq : ∀ a b, eqp a b = true → a = b) (hest : ∀ q, 0 < est q)
    (hexit : ∀ q, devK (cubSplitLK q (halveK tol q 20 (min (est q) 1))) ≤ 4 * tol)
    (fuel : Nat) (p : Cub K) (vs : List (Pt K))
    (h : flattenCubicLoop (cubStepK tol eqp est) keep cubSplitR fuel p = some vs) :
    ∃ Ts : List K, Ts.Pairwise (· < ·) ∧ (∀ T ∈ Ts, 0 < T ∧ T < 1) ∧ cubChainOK (4 * tol) p 0 Ts
      ∧ vs.Sublist (Ts.map (cubPos p) ++ [p.p3]) ∧ vs.length ≤ fuel :=
  have hok := cubStepK_ok tol (4 * tol) heq hest fun q =>
    PieceFlat.mono (cubic_within_deviation_of_chord hs _) (devK_nonneg hs _) (hexit q)
  flatten_cubic_every_piece_within (4 * tol) (cubStepK tol eqp est) keep hok.1 hok.2.1 hok.2.2 fuel p vs h

/-- non-vacuity of the hull bound: `M0 0C0 4 4 4 4 0` — inner control points 4 above the chord, D = 4 -/
example : dsq (Pt.mk (0 : ℚ) 4) (segPt (Pt.mk 0 0) (Pt.mk 4 0) 0) ≤ 4 * 4
    ∧ dsq (Pt.mk (4 : ℚ) 4) (segPt (Pt.mk 0 0) (Pt.mk 4 0) 1) ≤ 4 * 4 := by
  simp only [dsq, segPt]; norm_num

/-- `Flatten` on the command-list model, for ANY callbacks: the result consists of MoveTo / LineTo /
Close only and has the same signature — the same number of subpaths and for each the same start
point, the same end point and the same open/closed status. -/
theorem replace_structure {κ : Type} (f : Pt K → κ → Pt K → List (Pt K)) (cur : Pt K) (cs : List (Cmd K κ)) :
    (∀ c ∈ flattenCmds f cur cs, c.isFlat = true)
      ∧ signature (flattenCmds f cur cs) = signature cs :=
  ⟨flatten_isFlat f cs cur, sigGo_flatten f cs none cur⟩

/-- a path that is already flat is returned unchanged -/
theorem replace_flat_unchanged {κ : Type} (f : Pt K → κ → Pt K → List (Pt K)) (cur : Pt K) (cs : List (Cmd K κ))
    (h : ∀ c ∈ cs, c.isFlat = true) : flattenCmds f cur cs = cs :=
  flatten_flat_id f cs h cur

/-- The splice in `Path.replace` never starts a new subpath: `p.LineTo(end)` is skipped only when
LineTo's test says the replacement already ends on `end` (`skip`), `Join` continues the subpath when
its test says the points coincide (`eq`); as long as `skip a b → eq a b` (in the library both are
`Point.Equals`, tolerance Epsilon) and `eq` is reflexive, the number of subpaths of
Flatten / ReplaceArcs / XMonotone equals that of the input — for ANY replacement callbacks, including
ones whose recomputed end point misses the stored end point (elliptic arcs at large coordinates). -/
theorem replace_preserves_subpath_count {κ : Type} (skip eq : Pt K → Pt K → Bool)
    (f : Pt K → κ → Pt K → List (Pt K))
    (hse : ∀ a b, skip a b = true → eq a b = true) (hrefl : ∀ a, eq a a = true)
    (cur : Pt K) (cs : List (Cmd K κ)) :
    subpathCount (replaceCmds skip eq f cur cs) = subpathCount cs :=
  replaceCmds_count skip eq f hse hrefl cs cur

/-- the coupling hypothesis is needed: a skip test that is laxer than Join's test (here: always skip,
exact equality in Join) splits `M(0,0) K(2,0) L(3,0)` whose replacement ends at (1,0) into two subpaths -/
example : subpathCount (replaceCmds (fun _ _ => true) (fun a b => decide (a = b))
      (fun _ (_ : Unit) _ => [Pt.mk (1 : ℚ) 0]) (Pt.mk 0 0)
      [Cmd.M (Pt.mk 0 0), Cmd.Curve () (Pt.mk 2 0), Cmd.L (Pt.mk 3 0)]) = 2 := by
  decide

/-- the executable verdict `coveredBy` judges the real code's output on `!` lines; verdict ok ⇒ every
sample of the curve has a point of some polyline edge within the radius -/
theorem verdict_sound (r2 : K) (samples poly : List (Pt K)) (h : coveredBy r2 samples poly = true) :
    ∀ s ∈ samples, ∃ e ∈ edges poly, ∃ t : K, 0 ≤ t ∧ t ≤ 1 ∧ distSqAt s e.1 e.2 t ≤ r2 := by
  intro s hs
  simp only [coveredBy, List.all_eq_true] at h
  have := h s hs
  simp only [nearPolyline, List.any_eq_true, decide_eq_true_eq] at this
  obtain ⟨e, he, hd⟩ := this
  exact ⟨e, he, footParam s e.1 e.2, (footParam_mem s e.1 e.2).1, (footParam_mem s e.1 e.2).2, hd⟩

/-- a pass at tolerance r stays a pass at any larger tolerance -/
theorem verdict_monotone (r2 r2' : K) (hr : r2 ≤ r2') (samples poly : List (Pt K))
    (h : coveredBy r2 samples poly = true) : coveredBy r2' samples poly = true := by
  simp only [coveredBy, List.all_eq_true, nearPolyline, List.any_eq_true, decide_eq_true_eq] at *
  intro s hs
  obtain ⟨e, he, hd⟩ := h s hs
  exact ⟨e, he, le_trans hd hr⟩

/-- the distance the verdict is built from does not depend on where the drawing is placed -/
theorem verdict_distance_translation_invariant (p a b v : Pt K) :
    distSqPointSeg ⟨p.x + v.x, p.y + v.y⟩ ⟨a.x + v.x, a.y + v.y⟩ ⟨b.x + v.x, b.y + v.y⟩ = distSqPointSeg p a b := by
  -- the foot parameter only sees differences of coordinates
  have hf : footParam (⟨p.x + v.x, p.y + v.y⟩ : Pt K) ⟨a.x + v.x, a.y + v.y⟩ ⟨b.x + v.x, b.y + v.y⟩ = footParam p a b := by
    simp only [footParam, add_sub_add_right_eq_sub]
  rw [distSqPointSeg, hf, distSqPointSeg]
  simp only [distSqAt, add_sub_add_right_eq_sub]
  ring

/-- non-vacuity: the chord (0,0)→(2,0) covers the sample (1,1) of `M0 0Q1 2 2 0` within r² = 1 but not 1/2 -/
example : coveredBy (1 : ℚ) [Pt.mk 1 1] [Pt.mk 0 0, Pt.mk 2 0] = true
    ∧ coveredBy (1 / 2 : ℚ) [Pt.mk 1 1] [Pt.mk 0 0, Pt.mk 2 0] = false := by
  simp only [coveredBy, nearPolyline, edges, distSqPointSeg, footParam, distSqAt, List.all_cons, List.all_nil,
    List.any_cons, List.any_nil]
  norm_num

/-- `xmonotoneQuadraticBezier` splits at t = (p0.x − p1.x)/(p0.x − 2p1.x + p2.x): that is the root of
the x-derivative, and by `split_exact_*` the two pieces are the original curve. -/
theorem xmonotone_quad_split_at_extremum (p0 p1 p2 : Pt K) (h : p0.x - 2 * p1.x + p2.x ≠ 0) :
    (quadraticBezierDeriv p0 p1 p2 ((p0.x - p1.x) / (p0.x - 2 * p1.x + p2.x))).x = 0 := by
  rw [quad_deriv_x, mul_assoc, mul_div_cancel₀ _ h]; ring

/-- on a piece whose x-derivative has no sign change the x-coordinate is monotone; for the quadratic
the derivative is affine in s, so it keeps the sign it has at both ends. -/
theorem xmonotone_quad_piece_monotone (p0 p1 p2 : Pt K) (s : K) (h0 : 0 ≤ s) (h1 : s ≤ 1)
    (ha : 0 ≤ (quadraticBezierDeriv p0 p1 p2 0).x) (hb : 0 ≤ (quadraticBezierDeriv p0 p1 p2 1).x) :
    0 ≤ (quadraticBezierDeriv p0 p1 p2 s).x := by
  rw [quad_deriv_x_interp]
  exact add_nonneg (mul_nonneg (sub_nonneg.mpr h1) ha) (mul_nonneg h0 hb)

/-- `xmonotoneQuadraticBezier` over K (`xmonoQuadK`): the result is the curve itself or its two
de Casteljau halves at a parameter t in (0,1) where the x-derivative vanishes — by `split_exact_quad_*`
the pieces trace exactly the original curve in order. -/
theorem xmonotone_quad_pieces_exact (p0 p1 p2 : Pt K) :
    xmonoQuadK p0 p1 p2 = [(p0, p1, p2)] ∨
      ∃ t : K, 0 < t ∧ t < 1 ∧ xmonoQuadK p0 p1 p2 = [quadL p0 p1 p2 t, quadR p0 p1 p2 t]
        ∧ (quadraticBezierDeriv p0 p1 p2 t).x = 0 := by
  simp only [xmonoQuadK]
  split_ifs with hd hin
  · exact Or.inl rfl
  · exact Or.inr ⟨_, hin.1, hin.2, rfl, xmonotone_quad_split_at_extremum p0 p1 p2 hd⟩
  · exact Or.inl rfl

/-- … and EVERY piece it returns is x-monotone: the x-derivative of the piece has the same sign at any
two parameters of [0,1] (all control polygons). -/
theorem xmonotone_quad_pieces_monotone (p0 p1 p2 : Pt K) : ∀ q ∈ xmonoQuadK p0 p1 p2, XMonotone q := by
  -- the curve itself when x' has no root in (0,1), else the two halves, whose x' vanishes at the common end
  intro q hq
  simp only [xmonoQuadK] at hq
  split_ifs at hq with hd hin
  · obtain rfl := List.mem_singleton.mp hq
    refine xmono_of_ends ?_
    simp only [quad_deriv_x, hd, mul_zero, zero_mul, add_zero]
    exact mul_self_nonneg _
  · have hroot := xmonotone_quad_split_at_extremum p0 p1 p2 hd
    rcases List.mem_pair.mp hq with rfl | rfl
    · refine xmono_of_ends (le_of_eq ?_)
      rw [quadL_deriv_end, hroot, mul_zero, mul_zero]
    · refine xmono_of_ends (le_of_eq ?_)
      rw [quadR_deriv_start, hroot, mul_zero, zero_mul]
  · obtain rfl := List.mem_singleton.mp hq
    exact xmono_of_root (div_mul_cancel₀ _ hd) hin

/-- non-vacuity: `M0 0Q2 1 1 2` is split at t = 2/3 -/
example : ∃ t : ℚ, xmonoQuadK (Pt.mk (0 : ℚ) 0) (Pt.mk 2 1) (Pt.mk 1 2) = [quadL (Pt.mk 0 0) (Pt.mk 2 1) (Pt.mk 1 2) t, quadR (Pt.mk 0 0) (Pt.mk 2 1) (Pt.mk 1 2) t] :=
  ⟨2 / 3, by simp only [xmonoQuadK]; norm_num⟩

/-- `ellipseToCubicBeziers` on a 90° piece of the unit circle (control length `kappaK 1 √7`, the value
of path_util.go:301 for sin 90° = 1, tan 45° = 1): the midpoint of the cubic lies between 1.9e-3 and
2.0e-3 inside the circle. This is the fixed small relative error of ReplaceArcs that the property allows
and the oracle bounds by 2.0e-3·rx. (Flatten no longer goes through these cubics since f749928.) -/
theorem arc_to_cube_quarter_midpoint_error (a : K) (ha : 0 ≤ a) (ha2 : a * a = 4 + 3 * (1 * 1)) :
    let k := kappaK 1 a
    let m := cubicBezierPos (Pt.mk 1 0) (Pt.mk 1 k) (Pt.mk k 1) (Pt.mk 0 1) (1 / 2)
    (1 - 20 / 10000) ^ 2 ≤ m.x * m.x + m.y * m.y ∧ m.x * m.x + m.y * m.y ≤ (1 - 19 / 10000) ^ 2 := by
  intro k m
  have hlo : (26457 : K) / 10000 < a := lt_of_mul_self_lt_mul_self₀ ha (by rw [ha2]; norm_num)
  have hhi : a < (26458 : K) / 10000 := lt_of_mul_self_lt_mul_self₀ (by norm_num) (by rw [ha2]; norm_num)
  -- m = ((3+a)/8, (3+a)/8), and with a² = 7 its squared distance from the centre is linear in a
  have e : m.x * m.x + m.y * m.y = (8 + 3 * a) / 16 := by
    simp only [m, quarter_midpoint, k, kappaK]
    linear_combination (1 / 32) * ha2
  rw [e]
  constructor <;> linarith

/-- non-vacuity: a nonnegative square root of 7 exists (reals) -/
example : ∃ a : ℝ, 0 ≤ a ∧ a * a = 4 + 3 * (1 * 1) :=
  ⟨Real.sqrt 7, Real.sqrt_nonneg 7, by rw [Real.mul_self_sqrt (by norm_num)]; norm_num⟩

end C03
