import CanvasGen.SweepK
import CanvasModel.Wn
import CanvasProofs.Lemmas.Wn
import CanvasProofs.Lemmas.C01Column
import CanvasProofs.Lemmas.C01Avl
import CanvasProofs.Lemmas.C01Heap
import CanvasProofs.Lemmas.C01Cmp
import CanvasProofs.Lemmas.C01Merge
import CanvasProofs.Lemmas.C01Split

/-! # C01 — Boolean path operations compute the set algebra of the filled regions (partial)

Proved here, for all inputs:
* the decision `SweepPoint.InResult` (generated from /repo/path_intersection.go) keeps an edge
  exactly when the region algebra of the L3 specification changes across it;
* the winding bookkeeping of `computeSweepFields`, folded up any column, yields the signed crossing
  sums per polygon (induction over columns of any height);
* the laws of the specification itself (reversal, start vertex, additivity, translation, dyadic
  rescaling; commutativity, `P op P` and inclusion–exclusion of the region operations).
* for the sweep-line data structures (hand-written models): the AVL tree `SweepStatus`, the binary
  heap `SweepEvents`, the comparators, `mergeOverlapping`, and the re-sort flag of `addIntersections`.
Not proved (refined against the specification by the correspondence run): event order, snap
rounding, segment break-up, contour tracing. -/
namespace C01
open Canvas GenK Canvas.Wn

def ruleOf : Wn.Rule → Int
  | .nonZero => NonZero | .evenOdd => EvenOdd | .positive => Positive | .negative => Negative

def opOf : Wn.Op → Int
  | .and => opAND | .or => opOR | .not => opNOT | .xor => opXOR | .div => opDIV

theorem tmod2 (w : Int) : (w.tmod 2 = 0) ↔ (w % 2 = 0) :=
  tmod_two_eq_zero w

/-- The library's `FillRule.Fills` is the specification's fill rule. -/
theorem fills_agrees (r : Wn.Rule) (w : Int) : FillRule.Fills (ruleOf r) w = r.fills w := by
  cases r <;> simp [FillRule.Fills, ruleOf, Wn.Rule.fills, NonZero, EvenOdd, Positive, Negative, tmod2]

/-- windings (subject, clipping) just below / just above a closed segment -/
def below (s : SweepPoint ℚ) : Int × Int :=
  if s.clipping then (s.otherWindings, s.windings) else (s.windings, s.otherWindings)
def above (s : SweepPoint ℚ) : Int × Int :=
  if s.clipping then (s.otherWindings + s.otherSelfWindings, s.windings + s.selfWindings)
  else (s.windings + s.selfWindings, s.otherWindings + s.otherSelfWindings)

/-- AND/OR/NOT/XOR: a closed segment is kept iff `regionOp` differs on its two sides. -/
theorem inResult_iff_boundary (s : SweepPoint ℚ) (op : Wn.Op) (hop : op ≠ .div) (r : Wn.Rule)
    (hs : s.open_ = false) :
    SweepPoint.InResult s (opOf op) (ruleOf r) =
      if regionOp op (r.fills (below s).1) (r.fills (below s).2)
          ≠ regionOp op (r.fills (above s).1) (r.fills (above s).2) then 1 else 0 := by
  obtain ⟨clipping, open_, osw, ow, sw, w⟩ := s
  simp only at hs
  subst hs
  cases op
  case div => exact absurd rfl hop
  -- AND, OR, NOT: `simp` brings both sides to the same `if`; XOR is left, as a table over the four fills
  all_goals
    cases clipping <;>
      simp [SweepPoint.InResult, fills_agrees, below, above, opOf, opAND, opOR, opNOT, opXOR, opSettle, regionOp] <;>
      (cases r.fills w <;> cases r.fills ow <;> cases r.fills (w + sw) <;> cases r.fills (ow + osw) <;> decide)

/-- DIV: the value is the number of subject-filled sides (0, 1 or 2). -/
theorem inResult_div (s : SweepPoint ℚ) (r : Wn.Rule) (hs : s.open_ = false) :
    SweepPoint.InResult s opDIV (ruleOf r) =
      (if r.fills (below s).1 then 1 else 0) + (if r.fills (above s).1 then 1 else 0) := by
  obtain ⟨clipping, open_, osw, ow, sw, w⟩ := s
  simp only at hs
  subst hs
  cases clipping <;>
    simp [SweepPoint.InResult, fills_agrees, below, above, opSettle, opDIV, opAND, opOR, opNOT, opXOR] <;>
    (cases r.fills w <;> cases r.fills ow <;> cases r.fills (w + sw) <;> cases r.fills (ow + osw) <;> decide)

/-- Open subject segments: kept for Settle/OR/DIV; for AND iff the clipping path fills a side;
for NOT/XOR iff the clipping path leaves a side unfilled. -/
theorem inResult_open (s : SweepPoint ℚ) (op : Wn.Op) (r : Wn.Rule) (hs : s.open_ = true) :
    SweepPoint.InResult s (opOf op) (ruleOf r) =
      match op with
      | .or | .div => 1
      | .and => if r.fills (below s).2 ∨ r.fills (above s).2 then 1 else 0
      | .not | .xor => if ¬ r.fills (below s).2 ∨ ¬ r.fills (above s).2 then 1 else 0 := by
  obtain ⟨clipping, open_, osw, ow, sw, w⟩ := s
  simp only at hs
  subst hs
  cases clipping <;> cases op <;>
    simp [SweepPoint.InResult, fills_agrees, below, above, opOf, opAND, opOR, opNOT, opXOR, opSettle, opDIV]

/-- Folding `computeSweepFields` up ANY column gives every segment the signed crossing sums of
the non-vertical segments below it: own polygon in `windings`, the other in `otherWindings`. -/
theorem sweep_windings_are_crossing_sums (col : List C01.Seg) (pre below : List (C01.Seg × C01.Fields))
    (s : C01.Seg) (f : C01.Fields) (h : C01.foldColumn col = pre ++ (s, f) :: below) :
    (f.w, f.ow) = C01.expected s (C01.sums below) := by
  have := C01.good_foldColumn col
  rw [h] at this
  exact C01.good_at this

theorem spec_reverse_negates (p : IPt) (polys : List (List IPt)) :
    wn p (polys.map List.reverse) = - wn p polys := wn_reverse p polys

theorem spec_start_vertex_irrelevant (p a : IPt) (l : List IPt) : wn1 p (l ++ [a]) = wn1 p (a :: l) :=
  wn1_rotate p a l

theorem spec_additive (p : IPt) (a b : List (List IPt)) : wn p (a ++ b) = wn p a + wn p b :=
  wn_append p a b

theorem spec_translation_invariant (p t : IPt) (poly : List IPt) :
    wn1 (p.add t) (poly.map (·.add t)) = wn1 p poly := wn1_translate p t poly

/-- the integer decoding of dyadic rationals at a common exponent is faithful -/
theorem spec_rescaling_invariant (k : Int) (hk : 0 < k) (p : IPt) (poly : List IPt) :
    wn1 (IPt.smul k p) (poly.map (IPt.smul k)) = wn1 p poly := wn1_smul k hk p poly

theorem regionOp_comm (op : Wn.Op) (h : op = .and ∨ op = .or ∨ op = .xor) (a b : Bool) :
    regionOp op a b = regionOp op b a := by
  rcases h with h | h | h <;> subst h <;> cases a <;> cases b <;> rfl

theorem regionOp_self (a : Bool) :
    regionOp .and a a = a ∧ regionOp .or a a = a ∧ regionOp .xor a a = false ∧ regionOp .not a a = false := by
  cases a <;> simp [regionOp]

/-- with `spec_reverse_negates`: a reversed path fills the same points under NonZero -/
theorem nonzero_fill_reverse (w : Int) : Wn.Rule.nonZero.fills (-w) = Wn.Rule.nonZero.fills w :=
  (fills_neg w).1

/-- inclusion–exclusion at a point: the indicator of OR plus that of AND equals the sum of the
operands' indicators (integrating it gives the area law checked on the implementation). -/
theorem inclusion_exclusion (a b : Bool) :
    (if regionOp .or a b then 1 else 0) + (if regionOp .and a b then 1 else 0)
      = (if a then 1 else 0) + (if b then (1 : Int) else 0) := by
  cases a <;> cases b <;> rfl

/-- non-vacuity: a closed segment with different fills on both sides exists and is kept by OR -/
example : SweepPoint.InResult (⟨false, false, 0, 0, 1, 0⟩ : SweepPoint ℚ) opOR NonZero = 1 := by decide

example : C01.foldColumn [⟨false, false, true, false⟩, ⟨true, true, true, false⟩, ⟨false, false, false, false⟩]
    = [(⟨false, false, false, false⟩, ⟨1, 0, -1, 0⟩), (⟨true, true, true, false⟩, ⟨0, 1, 1, 0⟩),
       (⟨false, false, true, false⟩, ⟨0, 0, 1, 0⟩)] := by decide

/-! # The sweep-line data structures of path_intersection.go

Each model below is tied to the real code by line-protocol correspondence through the hooks of
/repo/verif_hooks_c01b*.go and verif_hooks_c01c.go (tags AVLI/AVLR/AVLQ, HEAP, CMP, MRG, ADDX of the C01 driver). -/

section Avl
open Canvas.C01Avl Canvas.C01Avl.Tree

/-- `rotateLeft` keeps the in-order sequence (bottom-to-top order of the status) -/
theorem avl_rotateLeft_inorder (t t' : Tree) (h : rotL t = some t') : t'.toList = t.toList :=
  rotL_toList h

/-- `rotateRight` keeps the in-order sequence -/
theorem avl_rotateRight_inorder (t t' : Tree) (h : rotR t = some t') : t'.toList = t.toList :=
  rotR_toList h

/-- the loop body of `rebalance` (single or double rotation + height updates) keeps the in-order
sequence — on ANY tree, balanced or not -/
theorem avl_rebalance_inorder (t t' : Tree) (h : step t = some t') : t'.toList = t.toList :=
  step_toList h

/-- `InsertAfter(node k-1, x)` on a tree satisfying the invariant does not panic, puts `x`
directly after element `k-1` of the in-order sequence and re-establishes the invariant -/
theorem avl_insertAfter (t : Tree) (k x : Nat) (hk : k ≤ t.size) (i : Inv t) :
    ∃ t', insertAt t k x = some t' ∧ Inv t' ∧
      t'.toList = t.toList.take k ++ x :: t.toList.drop k :=
  insertAt_spec t k x i

/-- `Remove(node k)` does not panic, deletes exactly element `k` and re-establishes the invariant -/
theorem avl_remove (t : Tree) (k : Nat) (hk : k < t.size) (i : Inv t) :
    ∃ t', remove t k = some t' ∧ Inv t' ∧ t'.toList = t.toList.eraseIdx k := by
  obtain ⟨t', e, i', el, _⟩ := rem_spec t k hk i
  exact ⟨t', e, i', el⟩

/-- For EVERY history of InsertAfter/Remove calls starting from the empty status: no call panics
(neither "Tree too far out of shape!" nor a nil dereference), the invariant holds afterwards, and
the in-order sequence is the one obtained by performing the same history on a plain list. -/
theorem avl_no_panic_any_history (ops : List Canvas.C01Avl.Op) :
    ∃ t, run .nil ops = some t ∧ Inv t ∧ t.toList = runSpec [] ops :=
  run_spec ops .nil trivial

/-- the invariant means: every node is AVL balanced w.r.t. TRUE heights (|balance| ≤ 1) … -/
theorem avl_invariant_balanced (t : Tree) (i : Inv t) : Balanced t := by
  induction t with
  | nil => trivial
  | node l x h r ihl ihr =>
    obtain ⟨gl, gr, b1, b2⟩ := i
    refine ⟨ihl gl.toInv, ihr gr.toInv, ?_, ?_⟩ <;>
      rw [← good_ht_real gl, ← good_ht_real gr] <;> assumption

/-- … and every stored height below the root is the true height (the root's own stored height may
be stale, see `avl_root_height_can_be_stale`) -/
theorem avl_stored_heights_correct (l r : Tree) (x h : Nat) (i : Inv (.node l x h r)) :
    Good l ∧ Good r ∧ l.ht = realHt l ∧ r.ht = realHt r :=
  ⟨i.1, i.2.1, good_ht_real i.1, good_ht_real i.2.1⟩

/-- hence `balance()` never leaves [-1,1] before an operation and the loop body of `rebalance` meets
|balance| ≤ 2 only: on a node with good subtrees whose heights differ by at most 2 it succeeds -/
theorem avl_rebalance_total (l r : Tree) (x h : Nat) (gl : Good l) (gr : Good r)
    (h1 : l.ht ≤ r.ht + 2) (h2 : r.ht ≤ l.ht + 2) : ∃ t', step (.node l x h r) = some t' ∧ Good t' := by
  obtain ⟨t', e, g, _⟩ := step_spec l r x h gl gr h1 h2
  exact ⟨t', e, g⟩

/-- re-running the loop body on an already good node changes nothing: Go's overlapping
`for ancestor … { s.rebalance(ancestor) }` passes equal one pass up the spine -/
theorem avl_rebalance_idempotent (l r : Tree) (x h : Nat) (g : Good (.node l x h r)) :
    step (.node l x h r) = some (.node l x h r) := step_noop_on_good l r x h g

/-- a reachable status whose ROOT stores a stale height (hanging a child under a leaf root skips
`n.height++` because of `&& n.parent != nil`); harmless, since the root's height is never read
before it is recomputed — but "all stored heights are correct" is false as stated -/
theorem avl_root_height_can_be_stale :
    ∃ ops t, run .nil ops = some t ∧ ¬ Good t := by
  refine ⟨[.ins 0 1, .ins 1 2], .node .nil 1 1 (leaf 2), by decide, ?_⟩
  simp [Good, leaf, ht]

/-- `First`/`Last` are the ends of the in-order sequence -/
theorem avl_first_last (t : Tree) : first t = t.toList.head? ∧ last t = t.toList.getLast? :=
  ⟨first_spec t, last_spec t⟩

/-- `Next()` is the in-order successor -/
theorem avl_next_is_successor (t : Tree) (k : Nat) (hk : k < t.size) :
    nextIn t k = t.toList[k + 1]? := by
  rw [nextIn_eq_head_drop, List.head?_drop]

/-- `Prev()` is the in-order predecessor (nil for the first element) -/
theorem avl_prev_is_predecessor (t : Tree) (k : Nat) (hk : k < t.size) :
    prevIn t k = if k = 0 then none else t.toList[k - 1]? := by
  rw [prevIn_eq_getLast_take, List.getLast?_take]
  by_cases h0 : k = 0
  · rw [if_pos h0, if_pos h0]
  · rw [if_neg h0, if_neg h0, List.getElem?_eq_getElem (by rw [← size_eq_length]; omega),
      Option.some_or]

/-- non-vacuity: a sorted insertion run that forces a left rotation; a removal with two children -/
example : run .nil [.ins 0 1, .ins 1 2, .ins 2 3] = some (.node (leaf 1) 2 2 (leaf 3)) := by decide
example : run .nil [.ins 0 1, .ins 1 2, .ins 2 3, .del 1] = some (.node (leaf 1) 3 2 .nil) := by decide

end Avl

section Heap
open Canvas.C01Heap
variable {α : Type} {less : α → α → Bool}

/-- `Init` turns ANY array into a heap -/
theorem heap_init_establishes (sw : StrictWeak less) (a : Array α) : IsHeap less (init less a) :=
  heap_init sw a

theorem heap_push_preserves (sw : StrictWeak less) (a : Array α) (x : α) (h : IsHeap less a) :
    IsHeap less (push less a x) := heap_push sw a x h

theorem heap_pop_preserves (sw : StrictWeak less) (a : Array α) (m : α) (b : Array α)
    (h : IsHeap less a) (hp : pop less a = some (m, b)) : IsHeap less b := heap_pop sw a m b h hp

/-- `q[i] = x; q.Fix(i)` restores the heap for an arbitrary new key -/
theorem heap_fix_preserves (sw : StrictWeak less) (a : Array α) (i : Nat) (x : α) (b : Array α)
    (h : IsHeap less a) (hf : setFix less a i x = some b) : IsHeap less b := heap_fix sw a i x b h hf

/-- `Pop` returns a `less`-minimal element of the queue -/
theorem heap_pop_min (sw : StrictWeak less) (a : Array α) (m : α) (b : Array α)
    (h : IsHeap less a) (hp : pop less a = some (m, b)) : m ∈ a ∧ ∀ x ∈ a, less x m = false :=
  Canvas.C01Heap.heap_pop_min sw a m b h hp

theorem heap_top_min (sw : StrictWeak less) (a : Array α) (m : α)
    (h : IsHeap less a) (ht : top a = some m) : m ∈ a ∧ ∀ x ∈ a, less x m = false :=
  Canvas.C01Heap.heap_top_min sw a m h ht

/-- no event is lost or duplicated: the operations permute the multiset of queued events -/
theorem heap_multiset_preserved (a : Array α) (x m : α) (b : Array α) (i : Nat) :
    (push less a x).toList.Perm (x :: a.toList) ∧
    (pop less a = some (m, b) → a.toList.Perm (m :: b.toList)) ∧
    (setFix less a i x = some b → b.toList.Perm (a.toList.set i x)) ∧
    (init less a).toList.Perm a.toList := by
  refine ⟨?_, fun hp => ?_, fun hf => ?_, Array.perm_iff_toList_perm.mp (initLoop_perm a _)⟩
  · unfold push
    have := Array.perm_iff_toList_perm.mp (up_perm (less := less) (a.push x) a.size (by simp))
    rw [Array.toList_push] at this
    exact this.trans (List.perm_append_singleton _ _)
  · obtain ⟨h0, rfl, rfl⟩ := pop_spec hp
    exact (Array.perm_iff_toList_perm.mp ((downLoop_perm _ _ _ _).trans (Array.swap_perm _ _))).symm.trans
      (perm_pop_back (pop_back a h0))
  · unfold setFix at hf
    split at hf
    · have := Array.perm_iff_toList_perm.mp (fix_perm hf)
      rwa [Array.toList_set] at this
    · contradiction

/-- `Pop`/`Top` panic exactly on the empty queue, `Fix` exactly out of range -/
theorem heap_panics_characterised (a : Array α) (i : Nat) (x : α) :
    ((pop less a).isSome ↔ 0 < a.size) ∧ ((setFix less a i x).isSome ↔ i < a.size) :=
  ⟨pop_isSome a, setFix_isSome a i x⟩

/-- After `Init` on any array and ANY history of push/pop/fix: the queue is a heap and every pop
returned a minimal element of the queue it was applied to. -/
theorem heap_any_history (sw : StrictWeak less) (a0 : Array α) (ops : List (Canvas.C01Heap.Op α))
    (c : Array α) (recs : List (PopRec α)) (hr : Canvas.C01Heap.run less (init less a0) ops = some (c, recs)) :
    IsHeap less c ∧
    ∀ r ∈ recs, IsHeap less r.before ∧ r.popped ∈ r.before ∧ ∀ x ∈ r.before, less x r.popped = false :=
  run_heap sw (heap_init sw a0) hr

example : StrictWeak ltInt := strictWeak_ltInt

end Heap

/-! The comparators (model `Canvas.C01Cmp`) are taken over any linearly ordered field, where
`InterpolateY` is exact. -/
section Cmp
open Canvas.C01Cmp
variable {K : Type} [Field K] [LinearOrder K]

omit [Field K] [LinearOrder K] in
theorem compareOverlaps_antisymm (a b : SP K) : compareOverlapsV b a = - compareOverlapsV a b :=
  compareOverlapsV_antisymm a b

omit [Field K] [LinearOrder K] in
/-- `compareOverlapsV` is a total three-way comparison of (clipping, segment): values in {-1,0,1}
and 0 exactly for the same path and segment index -/
theorem compareOverlaps_total (a b : SP K) :
    (compareOverlapsV a b = -1 ∨ compareOverlapsV a b = 0 ∨ compareOverlapsV a b = 1) ∧
    (compareOverlapsV a b = 0 ↔ a.clipping = b.clipping ∧ a.segment = b.segment) :=
  ⟨compareOverlapsV_range a b, compareOverlapsV_eq_zero_iff a b⟩

/-- `compareTangentsV` is antisymmetric for endpoints of the same kind (`WF`: the vertical flag is
set iff x = other.x) -/
theorem compareTangents_antisymm (a b : SP K) (hl : a.left = b.left) (ha : WF a) (hb : WF b) :
    compareTangentsV b a = - compareTangentsV a b := compareTangentsV_antisymm a b hl ha hb

/-- `CompareH b a = −CompareH a b` -/
theorem cmp_antisymm (a b : SP K) (ha : WF a) (hb : WF b) : compareH b a = - compareH a b :=
  compareH_antisymm a b ha hb

/-- `LessH a b ↔ CompareH a b < 0` (the queue order and the sort order agree) -/
theorem lessH_iff_compareH_neg (a b : SP K) : lessH a b = true ↔ compareH a b < 0 :=
  Canvas.C01Cmp.lessH_iff_compareH_neg a b

/-- `LessH` is irreflexive and asymmetric (transitivity is NOT proved, see the evidence) -/
theorem lessH_strict (a b : SP K) (ha : WF a) (hb : WF b) :
    lessH a a = false ∧ (lessH a b = true → lessH b a = false) := by
  refine ⟨(lessH_eq_false_iff a a).2 (compareH_self a).ge, fun h => ?_⟩
  rw [lessH_iff_compareH_neg] at h
  rw [lessH_eq_false_iff, compareH_antisymm a b ha hb]
  omega

/-- `CompareV` is antisymmetric under its documented precondition `CompareVPre` (both left
endpoints, well-formed flags, compared at max(a.x, b.x) inside both x-ranges) -/
theorem compareV_antisymm (a b : SP K) (h : CompareVPre a b) : CompareV b a = - CompareV a b :=
  CompareV_antisymm_statement_holds K a b h

/-- meaning of `CompareV`: the sign of the difference of the exact y-values at max(a.x, b.x);
ties are broken by `compareTangentsV` -/
theorem compareV_orders_by_y (a b : SP K) :
    (yAt a (max a.x b.x) < yAt b (max a.x b.x) → CompareV a b = -1) ∧
    (yAt b (max a.x b.x) < yAt a (max a.x b.x) → CompareV a b = 1) ∧
    (yAt a (max a.x b.x) = yAt b (max a.x b.x) →
      CompareV a b = if a.x < b.x then - compareTangentsV b a else compareTangentsV a b) := by
  rw [CompareV_eq_cmp3_yAt]
  exact ⟨fun h => cmp3_of_lt h _, fun h => cmp3_of_gt h _, fun h => by rw [h, cmp3_self]⟩

end Cmp

section Merge
open Canvas.C01Merge

/-- `mergeOverlapping` leaves the crossing sums of `sweep_windings_are_crossing_sums` unchanged for
every segment above the run (the sums over the receiver and everything below it are the same
before and after), given that coincident segments agree on being vertical -/
theorem merge_preserves_sums (s : Ent) (below : List Ent)
    (hv : ∀ p ∈ below, p.geom = s.geom → p.seg.vertical = s.seg.vertical) :
    C01.sums (pairs ((merge s below).s :: (merge s below).below)) = C01.sums (pairs (s :: below)) := by
  rcases merge_cases s below with ⟨e1, e2, -⟩ | ⟨e1, e2, -⟩
  · rw [e1, e2]
  · rw [e1, e2]
    have := absorb_sums s below hv
    simp only [sums_cons, contrib_merged] at this ⊢
    exact this

/-- the absorbed segments are zeroed and marked `overlapped`; the chain below them is untouched -/
theorem merge_zeroes_absorbed (s : Ent) (below : List Ent) (ht : (merge s below).touched = true) :
    (merge s below).below = (absorb s below).2.1 ++ (absorb s below).2.2 ∧
    (∀ e ∈ (absorb s below).2.1, e.f = zeroF ∧ e.overlapped = true) ∧
    ∃ pre, below = pre ++ (absorb s below).2.2 ∧ pre.length = (absorb s below).2.1.length :=
  ⟨(merge_of_touched ht).2, absorb_zeroed s below, absorb_split s below⟩

/-- the receiver's recomputed windings are the crossing sums of what lies below it, provided the
first segment that was not absorbed is correct and NOT vertical (`mergeOverlapping` does not skip
vertical segments as `computeSweepFields` does; in the sweep the `prev` of a non-vertical segment
is always a status member, hence non-vertical) -/
theorem merge_receiver_windings (s : Ent) (below : List Ent) (ht : (merge s below).touched = true)
    (hp : ∀ p rest', (absorb s below).2.2 = p :: rest' →
      p.seg.vertical = false ∧ (p.f.w, p.f.ow) = C01.expected p.seg (C01.sums (pairs rest'))) :
    ((merge s below).s.f.w, (merge s below).s.f.ow)
      = C01.expected (merge s below).s.seg (C01.sums (pairs (merge s below).below)) := by
  have hz := absorb_zeroed s below
  obtain ⟨e1, e2⟩ := merge_of_touched ht
  rw [e1, e2, sums_zeroed _ _ hz]
  cases hr : (absorb s below).2.2 with
  | nil => simp [mergedFields, C01.expected, pairs, C01.sums]
  | cons p rest' =>
    obtain ⟨pv, pe⟩ := hp p rest' hr
    rw [sums_cons, ← C01.expected_above _ p.seg p.f _ pv pe]
    simp only [mergedFields]
    split <;> rfl

/-- 51f64dd: after `mergeOverlapping` the receiver is open only if it was open and every absorbed
segment was open — an open segment that lies on a closed segment disappears in it, not the other
way round (an equivalence whenever segments were absorbed); clipping / vertical / increasing of the
receiver never change -/
theorem merge_open_on_closed (s : Ent) (below : List Ent) :
    ((merge s below).s.seg.open_ = true → s.seg.open_ = true) ∧
    ((merge s below).touched = true →
      ((merge s below).s.seg.open_ = true ↔
        s.seg.open_ = true ∧ ∀ e ∈ (absorb s below).2.1, e.seg.open_ = true)) ∧
    (merge s below).s.seg.clipping = s.seg.clipping ∧ (merge s below).s.seg.vertical = s.seg.vertical ∧
    (merge s below).s.seg.increasing = s.seg.increasing := by
  rcases merge_cases s below with ⟨e1, -, e3⟩ | ⟨e1, -, -⟩
  · rw [e1, e3]
    exact ⟨id, by simp, rfl, rfl, rfl⟩
  · rw [e1]
    exact ⟨fun h => ((absorb_open_iff s below).1 h).1, fun _ => absorb_open_iff s below,
      absorb_seg_flags s below⟩

/-- non-vacuity: an open receiver on a closed coincident segment comes out closed -/
example : (merge ⟨⟨false, false, true, true⟩, 0, false, ⟨0, 0, 0, 0⟩⟩
    [⟨⟨false, false, true, false⟩, 0, false, ⟨0, 0, 1, 0⟩⟩]).s.seg.open_ = false := by decide

end Merge

namespace Split
open Canvas.C01Split Canvas.Wn

/-- `addIntersections` raises its flag (on which `bentleyOttmann` re-sorts the events of the square)
exactly when `splitAtIntersections` pushed new events onto the queue: whenever EITHER segment was
split -/
theorem resort_flag_iff_events_pushed (aIn bIn : Bool) (zs : List IPt) (a0 a1 b0 b1 : IPt) :
    addRet aIn bIn zs a0 a1 b0 b1 = true ↔ 0 < pushed aIn bIn zs a0 a1 b0 b1 :=
  addRet_iff_pushed aIn bIn zs a0 a1 b0 b1

/-- a one-sided split (T-junction, or the second of two coincident segments cut by a third) is
reported -/
theorem resort_flag_of_one_sided_split (aIn bIn : Bool) (zs : List IPt) (a0 a1 b0 b1 : IPt)
    (h : 0 < splits aIn (keepZ aIn bIn a0 b0 zs).reverse a0 a1 ∨ 0 < splits bIn (keepZ aIn bIn a0 b0 zs).reverse b0 b1) :
    addRet aIn bIn zs a0 a1 b0 b1 = true := by
  rw [addRet_iff_pushed]; unfold pushed; omega

/-- events come in pairs (the two end points created by a split) -/
theorem pushed_events_even (aIn bIn : Bool) (zs : List IPt) (a0 a1 b0 b1 : IPt) :
    pushed aIn bIn zs a0 a1 b0 b1 % 2 = 0 := by
  unfold pushed; omega

/-- a segment that is in the sweep status is never split directly below its left end point
(4e53250: the old "impossible: first segment became vertical and needs reversal" situation) -/
theorem status_segment_not_split_below_left_end (zs : List IPt) (s0 s1 : IPt)
    (h : ∀ z ∈ zs, z.x = s0.x ∧ z.y < s0.y) : splits true zs s0 s1 = 0 := by
  induction zs generalizing s1 with
  | nil => rfl
  | cons z zs ih =>
    have hz := h z (List.mem_cons_self)
    have ih' := ih s1 (fun w hw => h w (List.mem_cons_of_mem _ hw))
    unfold splits
    split
    · exact ih'
    · simp [hz.1, hz.2, ih']

end Split

end C01
