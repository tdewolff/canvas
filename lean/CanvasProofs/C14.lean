import CanvasModel.C14
import CanvasProofs.Lemmas.C14Blend
import CanvasProofs.Lemmas.C14Box
import CanvasProofs.Lemmas.C14Pipe
import CanvasProofs.Lemmas.C14Replay
import CanvasProofs.Lemmas.C14Slice
import CanvasProofs.Lemmas.C14Tables
import CanvasProofs.Lemmas.C14Trunc
import CanvasProofs.Lemmas.Mat
import CanvasProofs.Lemmas.Wn
import Mathlib.Tactic.FieldSimp

/-! # C14 — Rasterization paints exactly the pixels inside (partial)

The third-party scan converter (srwiley/scanx) is not modelled. The theorems are about hand-written
models of what the library does around it (26.6 conversion, image size and y flip, gradient stops as Go
slices, draw order, gradient lookup, pixel pipeline, compositing, colour tables), each tied to the code by
exact ('=') correspondence on every run. Pixel coverage itself is refined against the exact
winding-number specification (`PIX` verdicts). -/
namespace C14
open Canvas Canvas.C14 Canvas.Wn

/-! the generic definitions the driver runs at `Float` against the real code are, at `Rat`, the
definitions the theorems below are about (`gen_gradArgX/Y` stand with the gradient lookup) -/

theorem gen_toI26_6 (x : Rat) : G.toI26_6 x = some (toI26_6 x) := rfl
theorem gen_fromI26_6 (i : Int) : (G.fromI26_6 i : Rat) = fromI26_6 i := rfl
theorem gen_fixedPoint (x : Rat) : G.fixedPoint x = some (fixedPoint x) := rfl
theorem gen_imageDim (w d : Rat) : G.imageDim w d = some (imageDim w d) := rfl
theorem gen_pixelX (d x : Rat) : G.pixelX d x = pixelX d x := rfl
theorem gen_pixelY (hpx : Int) (d y : Rat) : G.pixelY (Scalar.ofInt hpx) d y = pixelY hpx d y := rfl

/-- x ≥ 0: the round trip loses less than one unit of 1/64, downwards -/
theorem fixed_point_nonneg (x : Rat) (hx : 0 ≤ x) :
    0 ≤ x - fromI26_6 (toI26_6 x) ∧ x - fromI26_6 (toI26_6 x) < 1 / 64 := by
  obtain ⟨h1, h2⟩ := truncQ_nonneg_bounds (show (0 : Rat) ≤ x * 64 by positivity)
  unfold fromI26_6 toI26_6
  constructor <;> linarith

/-- the headline bound: |fromI(toI x) − x| ≤ 1/64 for x ≥ 0 -/
theorem fixed_point (x : Rat) (hx : 0 ≤ x) : |fromI26_6 (toI26_6 x) - x| ≤ 1 / 64 := by
  obtain ⟨h1, h2⟩ := fixed_point_nonneg x hx
  rw [abs_le]; constructor <;> linarith

/-- x < 0: truncation is toward zero, so the error has the other sign: exactly the set [0, 1/64) -/
theorem fixed_point_neg (x : Rat) (hx : x < 0) :
    0 ≤ fromI26_6 (toI26_6 x) - x ∧ fromI26_6 (toI26_6 x) - x < 1 / 64 := by
  obtain ⟨h1, h2⟩ := truncQ_neg_bounds (show x * 64 < 0 by linarith)
  unfold fromI26_6 toI26_6
  constructor <;> linarith

/-- every error in [0, 1/64) is attained on the negative side (the error set is exact) -/
theorem fixed_point_neg_attained (e : Rat) (h0 : 0 ≤ e) (h1 : e < 1 / 64) :
    fromI26_6 (toI26_6 (-1 - e)) - (-1 - e) = e := by
  unfold fromI26_6 toI26_6
  rw [truncQ_eq_of_neg (n := -64) (by linarith) (by push_cast; linarith) (by push_cast; linarith)]
  push_cast
  ring

/-- in both cases the result is no farther from zero than x -/
theorem fixed_point_toward_zero (x : Rat) : |fromI26_6 (toI26_6 x)| ≤ |x| := by
  have h := abs_truncQ_le (x * 64)
  rw [abs_mul, abs_of_pos (by norm_num : (0 : Rat) < 64)] at h
  unfold fromI26_6 toI26_6
  rw [abs_div, abs_of_pos (by norm_num : (0 : Rat) < 64)]
  linarith

/-- values on the 1/64 grid survive exactly -/
theorem fixed_point_exact (i : Int) : toI26_6 (fromI26_6 i) = i := by
  unfold toI26_6 fromI26_6
  have : (i : Rat) / 64 * 64 = (i : Rat) := by ring
  rw [this]; exact truncQ_intCast i

/-- the conversion in front of the scan converter rounds to nearest for pixel coordinates ≥ −1/128 -/
theorem scan_rounding (x : Rat) (hx : 0 ≤ x * 64 + 1 / 2) :
    |(fixedPoint x : Rat) / 64 - x| ≤ 1 / 128 := by
  obtain ⟨h1, h2⟩ := truncQ_nonneg_bounds hx
  unfold fixedPoint
  generalize ((truncQ (x * 64 + 1 / 2) : Int) : Rat) = t at h1 h2 ⊢
  rw [abs_le]; constructor <;> linarith

/-- left of / above the image (pixel coordinate < −1/128) the same code rounds upwards by up to 3/128 -/
theorem scan_rounding_neg (x : Rat) (hx : x * 64 + 1 / 2 < 0) :
    1 / 128 ≤ (fixedPoint x : Rat) / 64 - x ∧ (fixedPoint x : Rat) / 64 - x < 3 / 128 := by
  obtain ⟨h1, h2⟩ := truncQ_neg_bounds hx
  unfold fixedPoint
  generalize ((truncQ (x * 64 + 1 / 2) : Int) : Rat) = t at h1 h2 ⊢
  constructor <;> linarith

/-- the image has W·dpmm pixels up to rounding to nearest -/
theorem image_size (w dpmm : Rat) (h : 0 ≤ w * dpmm) : |(imageDim w dpmm : Rat) - w * dpmm| ≤ 1 / 2 := by
  obtain ⟨h1, h2⟩ := truncQ_nonneg_bounds (show (0 : Rat) ≤ w * dpmm + 1 / 2 by linarith)
  unfold imageDim
  generalize w * dpmm = q at h1 h2 ⊢
  generalize ((truncQ (q + 1 / 2) : Int) : Rat) = t at h1 h2 ⊢
  rw [abs_le]; constructor <;> linarith

/-- and exactly W·dpmm when that is a whole number -/
theorem image_size_exact (w dpmm : Rat) (n : Nat) (h : w * dpmm = n) : imageDim w dpmm = n := by
  unfold imageDim
  rw [h]
  exact truncQ_natCast_add_half n

/-- pixel row r shows canvas y = (H_px − r)/dpmm … -/
theorem yflip (hpx : Int) (dpmm r : Rat) (hd : dpmm ≠ 0) : pixelY hpx dpmm (canvasY hpx dpmm r) = r := by
  unfold pixelY canvasY
  field_simp
  ring

/-- … and conversely canvas y is drawn at row H_px − y·dpmm -/
theorem yflip_inv (hpx : Int) (dpmm y : Rat) (hd : dpmm ≠ 0) : canvasY hpx dpmm (pixelY hpx dpmm y) = y := by
  unfold pixelY canvasY
  field_simp
  ring

theorem xscale (dpmm c : Rat) (hd : dpmm ≠ 0) : pixelX dpmm (canvasX dpmm c) = c := by
  unfold pixelX canvasX
  field_simp

/-- the vertical axis points up in canvas space: larger y, smaller row -/
theorem yaxis_up (hpx : Int) (dpmm y1 y2 : Rat) (hd : 0 < dpmm) (h : y1 < y2) :
    pixelY hpx dpmm y2 < pixelY hpx dpmm y1 :=
  sub_lt_sub_left (mul_lt_mul_of_pos_right h hd) _

/-- canvas y = 0 is the bottom edge of the last row, canvas y = H lies within half a pixel of the
top edge of row 0 -/
theorem canvas_rows (H dpmm : Rat) (h : 0 ≤ H * dpmm) :
    pixelY (imageDim H dpmm) dpmm 0 = imageDim H dpmm ∧ |pixelY (imageDim H dpmm) dpmm H| ≤ 1 / 2 := by
  have := image_size H dpmm h
  unfold pixelY
  constructor
  · ring
  · simpa using this

/-- flattening at PixelTolerance/dpmm millimetres deviates by at most PixelTolerance pixels -/
theorem flatten_pixel_tol (tol dpmm dev : Rat) (hd : 0 < dpmm) (h : dev ≤ tol / dpmm) : dev * dpmm ≤ tol :=
  (le_div_iff₀ hd).mp h

/-- "leaves … its gradients unchanged", full strength: whatever the colour space and the conversion,
every slice header anybody holds into the memory before the call (the receiver's `Stops` in
particular) shows the same contents afterwards -/
theorem gradients_unchanged {α} (linear : Bool) (f : α → α) (m : Mem α) (s : Slice) (t : Slice)
    (ht : t.arr < m.length) :
    view (setColorSpace linear f m s).1 t = view m t := by
  unfold view
  rw [setColorSpace_getD linear f s ht]

/-- the receiver's own stops, as the special case the property names -/
theorem gradients_unchanged_receiver {α} (linear : Bool) (f : α → α) (m : Mem α) (s : Slice)
    (ha : s.arr < m.length) : view (setColorSpace linear f m s).1 s = view m s :=
  gradients_unchanged linear f m s s ha

/-- and the returned gradient carries the converted stops (non-linear colour space) … -/
theorem setColorSpace_result {α} (f : α → α) (m : Mem α) (s : Slice)
    (hl : s.off + s.len ≤ (m.getD s.arr []).length) :
    view (setColorSpace false f m s).1 (setColorSpace false f m s).2 = (view m s).map f :=
  setColorSpace_view f m s

/-- … or is the receiver itself (linear colour space: early return) -/
theorem setColorSpace_linear {α} (f : α → α) (m : Mem α) (s : Slice) : setColorSpace true f m s = (m, s) := rfl

example : view (setColorSpace false (· + 1) [[7, 128, 64]] ⟨0, 1, 2, 2⟩).1 ⟨0, 1, 2, 2⟩ = [128, 64]
    ∧ view (setColorSpace false (· + 1) [[7, 128, 64]] ⟨0, 1, 2, 2⟩).1 (setColorSpace false (· + 1) [[7, 128, 64]] ⟨0, 1, 2, 2⟩).2 = [129, 65] := by decide

/-- the VALUE of the gradient returned by `SetColorSpace` is the pure function `scsValue` of the
receiver's value and the colour space — whatever else the memory holds -/
theorem setColorSpace_value {γ α} (linear : Bool) (f : α → α) (m : Mem α) (g : Grad γ)
    (hl : g.stops.off + g.stops.len ≤ (m.getD g.stops.arr []).length) :
    (gradSetColorSpace linear f m g).2.value (gradSetColorSpace linear f m g).1 = scsValue linear f (g.value m) :=
  gradSetColorSpace_value linear f m g

/-- `SetColorSpace` is pure: equal gradient values and equal colour spaces give equal results,
independent of the call history (of the memories the two calls happen in, of earlier calls on the
same object, of which object carries the value) -/
theorem setColorSpace_pure {γ α} (linear : Bool) (f : α → α) (m₁ m₂ : Mem α) (g₁ g₂ : Grad γ)
    (h₁ : g₁.stops.off + g₁.stops.len ≤ (m₁.getD g₁.stops.arr []).length)
    (h₂ : g₂.stops.off + g₂.stops.len ≤ (m₂.getD g₂.stops.arr []).length)
    (hv : g₁.value m₁ = g₂.value m₂) :
    (gradSetColorSpace linear f m₁ g₁).2.value (gradSetColorSpace linear f m₁ g₁).1
      = (gradSetColorSpace linear f m₂ g₂).2.value (gradSetColorSpace linear f m₂ g₂).1 := by
  rw [gradSetColorSpace_value, gradSetColorSpace_value, hv]

/-- in particular a second call on the same object after a first one sees only the receiver's current
value: the first call leaves the receiver's value unchanged and nothing else is consulted -/
theorem setColorSpace_second_call {γ α} (l₁ l₂ : Bool) (f₁ f₂ : α → α) (m : Mem α) (g : Grad γ)
    (ha : g.stops.arr < m.length) (hl : g.stops.off + g.stops.len ≤ (m.getD g.stops.arr []).length) :
    let m' := (gradSetColorSpace l₁ f₁ m g).1
    (gradSetColorSpace l₂ f₂ m' g).2.value (gradSetColorSpace l₂ f₂ m' g).1 = scsValue l₂ f₂ (g.value m) := by
  intro m'
  have hview : view m' g.stops = view m g.stops := gradients_unchanged l₁ f₁ m g.stops g.stops ha
  rw [gradSetColorSpace_value]
  simp only [Grad.value, hview]

/-- Go `append` writes in place when len < cap: a sibling header over the same array sees the write -/
theorem append_aliases :
    let m : Mem Nat := [[1, 2, 3, 4]]
    let a : Slice := ⟨0, 0, 2, 4⟩          -- a := arr[0:2]
    let b : Slice := ⟨0, 0, 3, 4⟩          -- b := arr[0:3]
    view (append m a 9).1 b = [1, 2, 9] ∧ view m b = [1, 2, 3] := by decide

/-- the colour of a pixel after replaying opaque draws is the paint of the LAST draw covering it,
or the initial colour if none does -/
theorem draw_order {Px Col} (ds : List (Draw Px Col)) (img : Px → Col) (p : Px) :
    replay ds img p = (lastCover ds p).getD (img p) := by
  rw [replay_apply, lastCover]
  refine List.foldl_hom (init := none) (·.getD (img p)) fun o d => ?_
  exact (apply_ite (·.getD (img p)) (d.covers p) (some d.paint) o).symm

theorem untouched {Px Col} (ds : List (Draw Px Col)) (img : Px → Col) (p : Px)
    (h : ∀ e ∈ ds, e.covers p = false) : replay ds img p = img p := by
  have hstep : ∀ c, ∀ d ∈ ds, (if d.covers p then d.paint else c) = c :=
    fun c d hd => if_neg (ne_true_of_eq_false (h d hd))
  rw [replay_apply, List.foldl_ext _ (fun c _ => c) _ hstep, List.foldl_fixed]

theorem later_covers_earlier {Px Col} (pre post : List (Draw Px Col)) (d : Draw Px Col) (img : Px → Col) (p : Px)
    (hd : d.covers p = true) (hpost : ∀ e ∈ post, e.covers p = false) :
    replay (pre ++ d :: post) img p = d.paint := by
  rw [replay_append, replay, untouched post _ p hpost]
  simp only [paintOne, hd, if_true]

def numbered : Nat → List IDraw → List (Draw IPt Nat)
  | _, [] => []
  | k, d :: ds => ⟨fun p => filled d.rule d.polys p, k⟩ :: numbered (k + 1) ds

/-- the `owner` the pixel specification expects is the result of replaying the draws (each
painting its 1-based index) over the untouched image 0 -/
theorem owner_replay (ds : List IDraw) (p : IPt) : owner ds p = replay (numbered 1 ds) (fun _ => 0) p := by
  -- both sides step through the draws in the same way: `ownerAux`'s accumulator is the colour at `p`
  rw [replay_apply, owner]
  generalize 1 = k, 0 = acc
  induction ds generalizing k acc with
  | nil => rfl
  | cons d ds ih => exact ih _ _

/-- the bounding-box shortcuts the verdict handler uses (`ownerFast` over boxed contours) compute
exactly the specification's `owner` -/
theorem ownerFast_eq_owner (ds : List IDraw) (p : IPt) : ownerFast (ds.map mkBDraw) p = owner ds p :=
  ownerFastAux_eq p ds 1 0

/-- the "more than d from every edge" test behind the bounding boxes is the exact test of the
specification (`Wn.farFromPoly`, squared distances, no rounding) -/
theorem far_prefilter_exact (pts : List IPt) (p : IPt) (d : Int) (hd : 0 ≤ d) :
    (mkBPoly pts).far p d = farFromPoly p (d * d) pts := by
  unfold BPoly.far
  rw [mkBPoly_pts]
  split_ifs with h
  · exact (farFromPoly_of_forall p _ pts fun a ha b hb =>
      farFromSeg_of_outside hd h (mkBPoly_bounds ha) (mkBPoly_bounds hb)).symm
  · exact farPolyFast_eq p d hd pts

/-- a contour entirely above, below or to the left of a point does not wind around it -/
theorem wn1_outside_box (pts : List IPt) (p : IPt) : (mkBPoly pts).wn1 p = wn1 p pts := BPoly_wn1 pts p

/-- reversing every contour of a draw does not change its EvenOdd/NonZero ownership (from the
winding-number law `wn_reverse`): the specification does not depend on orientation conventions -/
theorem filled_reverse (r : Rule) (hr : r = .nonZero ∨ r = .evenOdd) (polys : List (List IPt)) (p : IPt) :
    filled r (polys.map List.reverse) p = filled r polys p := by
  unfold filled
  rw [wn_reverse]
  rcases hr with rfl | rfl
  · exact (fills_neg _).1
  · exact (fills_neg _).2.1

theorem gen_gradArgX (d : Rat) (c : Int) : G.gradArgX d c = gradX d c := rfl
theorem gen_gradArgY (hpx : Int) (d : Rat) (r : Int) : G.gradArgY (Scalar.ofInt hpx) d r = gradY hpx d r := rfl

/-- pixel (c, r) takes its gradient colour at the canvas point shown at its centre (c + 1/2, r + 1/2) … -/
theorem gradient_lookup_canvas (hpx : Int) (dpmm : Rat) (c r : Int) :
    gradX dpmm c = canvasX dpmm ((c : Rat) + 1 / 2) ∧ gradY hpx dpmm r = canvasY hpx dpmm ((r : Rat) + 1 / 2) := by
  unfold gradX gradY canvasX canvasY
  constructor
  · rfl
  · ring

/-- … that is, at the point whose image under the path map (x·dpmm, H_px − y·dpmm) is that centre
(`xscale`, `yflip`): gradients and paths live in the same frame (millimetres, y up), at every resolution -/
theorem gradient_lookup_centre (hpx : Int) (dpmm : Rat) (c r : Int) (hd : dpmm ≠ 0) :
    pixelX dpmm (gradX dpmm c) = (c : Rat) + 1 / 2 ∧ pixelY hpx dpmm (gradY hpx dpmm r) = (r : Rat) + 1 / 2 := by
  obtain ⟨hx, hy⟩ := gradient_lookup_canvas hpx dpmm c r
  rw [hx, hy]
  exact ⟨xscale dpmm _ hd, yflip hpx dpmm _ hd⟩

section Pipeline
open GenK
variable {K : Type} [Field K] [LinearOrder K] [IsStrictOrderedRing K] [Env K]

/-- RenderViewTo (`view.Mul(l.m)`), Path.Transform (`Dot`) and ToScanxScanner's pixel map compose to
ONE affine map: the matrix pixelAff · view · m -/
theorem pipeline_single_affine (view m : Mat K) (h d : K) (p : Pt K) :
    pipelinePt Matrix.Mul Matrix.Dot pxK pyK view m h d p
      = Matrix.Dot (Matrix.Mul (pixelAff d h) (Matrix.Mul view m)) p := by
  rw [Aff.dot_mul, pixelAff_dot]
  rfl

/-- … which acts as: layer matrix first, then the render view, then the pixel map (x·dpmm, H_px − y·dpmm) -/
theorem pipeline_composes (view m : Mat K) (h d : K) (p : Pt K) :
    pipelinePt Matrix.Mul Matrix.Dot pxK pyK view m h d p
      = ⟨pxK d (Matrix.Dot view (Matrix.Dot m p)).x, pyK h d (Matrix.Dot view (Matrix.Dot m p)).y⟩ := by
  simp only [pipelinePt, Aff.dot_mul]

/-- canvas point ↔ pixel position is a bijection when view and layer matrix are invertible and the
resolution is not zero: the inverse matrix takes the pixel position back -/
theorem pipeline_bijective (view m : Mat K) (h d : K) (p : Pt K)
    (hv : Matrix.Det view ≠ 0) (hm : Matrix.Det m ≠ 0) (hd : d ≠ 0) :
    Matrix.Dot (Matrix.Inv (Matrix.Mul (pixelAff d h) (Matrix.Mul view m)))
      (pipelinePt Matrix.Mul Matrix.Dot pxK pyK view m h d p) = p := by
  rw [pipeline_single_affine]
  apply Aff.inv_dot
  rw [Aff.det_mul, Aff.det_mul, pixelAff_det]
  have : d * d ≠ 0 := mul_ne_zero hd hd
  exact mul_ne_zero (neg_ne_zero.mpr this) (mul_ne_zero hv hm)

theorem pipeline_injective (view m : Mat K) (h d : K) (p q : Pt K)
    (hv : Matrix.Det view ≠ 0) (hm : Matrix.Det m ≠ 0) (hd : d ≠ 0)
    (he : pipelinePt Matrix.Mul Matrix.Dot pxK pyK view m h d p = pipelinePt Matrix.Mul Matrix.Dot pxK pyK view m h d q) :
    p = q := by
  rw [← pipeline_bijective view m h d p hv hm hd, he, pipeline_bijective view m h d q hv hm hd]

/-- Context.CoordSystemView: where each coordinate system puts a point of a W × H canvas -/
theorem coordSystem_dot (W H : K) (p : Pt K) :
    Matrix.Dot (coordSystemView identK Matrix.ReflectXAbout Matrix.ReflectYAbout (W / 2) (H / 2) 0) p = p
    ∧ Matrix.Dot (coordSystemView identK Matrix.ReflectXAbout Matrix.ReflectYAbout (W / 2) (H / 2) 1) p = ⟨W - p.x, p.y⟩
    ∧ Matrix.Dot (coordSystemView identK Matrix.ReflectXAbout Matrix.ReflectYAbout (W / 2) (H / 2) 2) p = ⟨W - p.x, H - p.y⟩
    ∧ Matrix.Dot (coordSystemView identK Matrix.ReflectXAbout Matrix.ReflectYAbout (W / 2) (H / 2) 3) p = ⟨p.x, H - p.y⟩ := by
  have e : ∀ a : K, 2 * (a / 2) = a := fun a => mul_div_cancel₀ a two_ne_zero
  simp only [coordSystemView, identK, Aff.reflectXAbout_dot, Aff.reflectYAbout_dot, Aff.one_dot, e, and_self]

/-- every coordinate system view is an involution of the canvas rectangle -/
theorem coordSystem_involutive (W H : K) (cs : Nat) (p : Pt K) :
    Matrix.Dot (coordSystemView identK Matrix.ReflectXAbout Matrix.ReflectYAbout (W / 2) (H / 2) cs)
      (Matrix.Dot (coordSystemView identK Matrix.ReflectXAbout Matrix.ReflectYAbout (W / 2) (H / 2) cs) p) = p := by
  unfold coordSystemView
  split <;> simp only [identK, Aff.reflectXAbout_dot, Aff.reflectYAbout_dot, Aff.one_dot, sub_sub_cancel]

end Pipeline

theorem image_size_mono_resolution (w d₁ d₂ : Rat) (hw : 0 ≤ w) (hd : 0 ≤ d₁) (h : d₁ ≤ d₂) :
    imageDim w d₁ ≤ imageDim w d₂ :=
  imageDim_mono (mul_le_mul_of_nonneg_left h hw)

theorem image_size_mono_size (w₁ w₂ d : Rat) (hw : 0 ≤ w₁) (hd : 0 ≤ d) (h : w₁ ≤ w₂) :
    imageDim w₁ d ≤ imageDim w₂ d :=
  imageDim_mono (mul_le_mul_of_nonneg_right h hd)

/-- the conversion in front of the scanner is monotone for pixel coordinates ≥ 0 -/
theorem fixedPoint_mono (x y : Rat) (hx : 0 ≤ x) (h : x ≤ y) : fixedPoint x ≤ fixedPoint y :=
  truncQ_mono (by linarith)

/-- a canvas abscissa in [0, W] reaches the scanner inside the image, up to the rounding of the image
size (at most half a pixel) and of the 26.6 grid (1/128) -/
theorem canvas_x_inside_image (W d x : Rat) (hd : 0 ≤ d) (h0 : 0 ≤ x) (h1 : x ≤ W) :
    0 ≤ fixedPoint (pixelX d x) ∧ (fixedPoint (pixelX d x) : Rat) / 64 ≤ (imageDim W d : Rat) + 1 / 2 + 1 / 128 := by
  have hxd : 0 ≤ x * d := mul_nonneg h0 hd
  have hWd : x * d ≤ W * d := mul_le_mul_of_nonneg_right h1 hd
  have hs := (abs_le.mp (scan_rounding (x * d) (by linarith))).2
  have hi := (abs_le.mp (image_size W d (le_trans hxd hWd))).1
  exact ⟨fixedPoint_nonneg hxd, by unfold pixelX; linarith⟩

/-- and exactly inside [0, W_px] (in 1/64 pixels) when W·dpmm is a whole number of pixels -/
theorem canvas_x_inside_image_exact (W d x : Rat) (n : Nat) (hn : W * d = n) (hd : 0 ≤ d) (h0 : 0 ≤ x) (h1 : x ≤ W) :
    0 ≤ fixedPoint (pixelX d x) ∧ fixedPoint (pixelX d x) ≤ 64 * imageDim W d := by
  have hxd : 0 ≤ x * d := mul_nonneg h0 hd
  have hWd : x * d ≤ W * d := mul_le_mul_of_nonneg_right h1 hd
  refine ⟨fixedPoint_nonneg hxd, ?_⟩
  rw [image_size_exact W d n hn]
  have hm := fixedPoint_mono (x * d) (W * d) hxd hWd
  have : fixedPoint (W * d) = (n : Int) * 64 := by
    unfold fixedPoint
    rw [hn]
    exact_mod_cast truncQ_natCast_add_half (n * 64)
  unfold pixelX
  omega

/-- a canvas ordinate in [0, H]: the bottom edge y = 0 is row H_px exactly, the rest lies above it and not
more than the size rounding above row 0 -/
theorem canvas_y_inside_image (H d y : Rat) (hd : 0 ≤ d) (h0 : 0 ≤ y) (h1 : y ≤ H) :
    pixelY (imageDim H d) d y ≤ (imageDim H d : Rat) ∧ -(1 / 2) ≤ pixelY (imageDim H d) d y := by
  have hyd : 0 ≤ y * d := mul_nonneg h0 hd
  have hHd : y * d ≤ H * d := mul_le_mul_of_nonneg_right h1 hd
  have hi := (abs_le.mp (image_size H d (le_trans hyd hHd))).1
  unfold pixelY
  exact ⟨by linarith, by linarith⟩

/-- srwiley/scanx ImgSpanner.SpanFgColor, one channel: an opaque paint at full coverage replaces the
destination exactly -/
theorem spanBlend_opaque_full (c8 d : Nat) (h : c8 < 256) : spanBlend (c8 * 257) m16 m16 d = c8 := by
  unfold spanBlend m16 mp16
  simp only [if_true]
  omega

/-- zero coverage leaves the destination unchanged … -/
theorem spanBlend_zero_coverage (c ca d : Nat) (h : d < 256) : spanBlend c ca 0 d = d :=
  spanBlend_of_zero (Nat.mul_zero ca) (Nat.mul_zero c) h

/-- … and so does a fully transparent paint at any coverage (identity of source-over) -/
theorem spanBlend_transparent (ma d : Nat) (h : d < 256) : spanBlend 0 0 ma d = d :=
  spanBlend_of_zero (Nat.zero_mul ma) (Nat.zero_mul ma) h

/-- the uint32 arithmetic of the blend cannot overflow for premultiplied paints … -/
theorem spanBlend_no_overflow (c ca ma d : Nat) (hc : c ≤ ca) (hca : ca ≤ 65535) (hma : ma ≤ 65535) (hd : d ≤ 255) :
    spanBlendNum c ca ma d < 2 ^ 32 := by
  have := spanBlendNum_lt c ca ma d hc hca hma hd
  omega

/-- … and its result fits the 8-bit channel (the `uint8(…)` conversion never wraps) -/
theorem spanBlend_le_255 (c ca ma d : Nat) (hc : c ≤ ca) (hca : ca ≤ 65535) (hma : ma ≤ 65535) (hd : d ≤ 255) :
    spanBlend c ca ma d ≤ 255 := by
  have := spanBlendNum_lt c ca ma d hc hca hma hd
  rw [spanBlend_eq, mp16]
  omega

/-- replaying fully covering draws: an opaque draw hides everything drawn before it -/
theorem composite_opaque_last (ds : List Px8) (s : Px8) (hr : s.r < 256) (hg : s.g < 256) (hb : s.b < 256) (ha : s.a = 255) :
    composite (ds ++ [s]) = s := by
  unfold composite
  rw [List.foldl_append]
  generalize List.foldl (fun d s => blendPx s m16 d) ⟨0, 0, 0, 0⟩ ds = acc
  simp only [List.foldl_cons, List.foldl_nil, blendPx, ha]
  have e : (255 * 257 : Nat) = m16 := by decide
  rw [e, spanBlend_opaque_full s.r _ hr, spanBlend_opaque_full s.g _ hg, spanBlend_opaque_full s.b _ hb]
  have : spanBlend m16 m16 m16 acc.a = 255 := by
    have := spanBlend_opaque_full 255 acc.a (by decide)
    rw [e] at this; exact this
  rw [this]
  cases s; cases ha; rfl

/-- the ideal operator the integer blend approximates: source-over of premultiplied (colour, alpha)
pairs is associative, has the transparent pixel as identity on both sides, and an opaque source absorbs -/
theorem over_assoc (a b c : Rat × Rat) : over a (over b c) = over (over a b) c := by
  simp only [over, Prod.mk.injEq]
  constructor <;> ring

theorem over_transparent_left (d : Rat × Rat) : over (0, 0) d = d := by
  simp [over]

theorem over_transparent_right (s : Rat × Rat) : over s (0, 0) = s := by
  simp [over]

theorem over_opaque (c : Rat) (d : Rat × Rat) : over (c, 1) d = (c, 1) := by
  simp [over]

/-! ## colour-space conversions of opaque colours (complete 8-bit tables of colors.go)

Each statement is decided over the complete table (256 entries, `decide +kernel`),
and the tables are compared entry by entry with the real `ToLinear`/`FromLinear` on every run (CSP lines).
Trap: pass the table size as the equation from `tables_spec` (`▸`); unifying `256 =?= t.size` makes the
elaborator count the literal and exceed the recursion depth. -/

open Canvas.C14.Tables

def allTables : List (Array Nat) := [srgbToLinear, srgbFromLinear, gamma22ToLinear, gamma22FromLinear]

/-- both directions of both colour spaces are monotone (non-decreasing) on 0..255 -/
theorem colourspace_monotone (t : Array Nat) (ht : t ∈ allTables) (i : Nat) (hi : i < 255) : t[i]! ≤ t[i + 1]! :=
  getElem!_le_of_isChain (tables_spec t ht).2.1 (Nat.le_succ i) ((tables_spec t ht).1 ▸ Nat.succ_lt_succ hi)

/-- black and white are fixed, and every entry is a channel value -/
theorem colourspace_endpoints (t : Array Nat) (ht : t ∈ allTables) : t[0]! = 0 ∧ t[255]! = 255 ∧ ∀ i < 256, t[i]! ≤ 255 := by
  obtain ⟨hs, hc, h0, h255⟩ := tables_spec t ht
  exact ⟨h0, h255, fun i hi => h255 ▸ getElem!_le_of_isChain hc (Nat.le_of_lt_succ hi) (hs ▸ Nat.lt_succ_self 255)⟩

/-- linear light is never brighter than the encoded value -/
theorem colourspace_toLinear_le (i : Nat) (hi : i < 256) : srgbToLinear[i]! ≤ i ∧ gamma22ToLinear[i]! ≤ i :=
  ⟨getElem!_of_zipIdx (toLinear_le srgbToLinear (by simp)) ((tables_spec srgbToLinear (by simp)).1 ▸ hi),
   getElem!_of_zipIdx (toLinear_le gamma22ToLinear (by simp))
     ((tables_spec gamma22ToLinear (by simp)).1 ▸ hi)⟩

/-- round trip colour → linear → colour of an opaque sRGB channel: off by at most 6 (attained in the dark
range), at most 1 from 64 upwards -/
theorem srgb_roundtrip (c : Nat) (hc : c < 256) :
    (srgbFromLinear[srgbToLinear[c]!]! ≤ c + 6 ∧ c ≤ srgbFromLinear[srgbToLinear[c]!]! + 6)
    ∧ (64 ≤ c → srgbFromLinear[srgbToLinear[c]!]! ≤ c + 1 ∧ c ≤ srgbFromLinear[srgbToLinear[c]!]! + 1) := by
  obtain ⟨hs, hf, -⟩ := tables_spec srgbToLinear (by simp)
  generalize hx : srgbFromLinear[srgbToLinear[c]!]! = x
  apply getElem!_of_composeFrom hf (hs ▸ hc) hx
  decide +kernel

/-- the same for gamma 2.2: at most 14, at most 1 from 64 upwards -/
theorem gamma22_roundtrip (c : Nat) (hc : c < 256) :
    (gamma22FromLinear[gamma22ToLinear[c]!]! ≤ c + 14 ∧ c ≤ gamma22FromLinear[gamma22ToLinear[c]!]! + 14)
    ∧ (64 ≤ c → gamma22FromLinear[gamma22ToLinear[c]!]! ≤ c + 1 ∧ c ≤ gamma22FromLinear[gamma22ToLinear[c]!]! + 1) := by
  obtain ⟨hs, hf, -⟩ := tables_spec gamma22ToLinear (by simp)
  generalize hx : gamma22FromLinear[gamma22ToLinear[c]!]! = x
  apply getElem!_of_composeFrom hf (hs ▸ hc) hx
  decide +kernel

/-- the bounds 6 and 14 are attained (the error set is not smaller) -/
theorem roundtrip_bounds_attained :
    (∃ c < 256, c = srgbFromLinear[srgbToLinear[c]!]! + 6 ∨ srgbFromLinear[srgbToLinear[c]!]! = c + 6)
    ∧ (∃ c < 256, c = gamma22FromLinear[gamma22ToLinear[c]!]! + 14 ∨ gamma22FromLinear[gamma22ToLinear[c]!]! = c + 14) :=
  ⟨⟨6, by decide +kernel⟩, ⟨14, by decide +kernel⟩⟩

/-- linear → colour → linear loses at most 1 in both spaces -/
theorem linear_roundtrip (l : Nat) (hl : l < 256) :
    (srgbToLinear[srgbFromLinear[l]!]! ≤ l + 1 ∧ l ≤ srgbToLinear[srgbFromLinear[l]!]! + 1)
    ∧ (gamma22ToLinear[gamma22FromLinear[l]!]! ≤ l + 1 ∧ l ≤ gamma22ToLinear[gamma22FromLinear[l]!]! + 1) := by
  obtain ⟨hs, hf, -⟩ := tables_spec srgbFromLinear (by simp)
  obtain ⟨hs', hf', -⟩ := tables_spec gamma22FromLinear (by simp)
  generalize hx : srgbToLinear[srgbFromLinear[l]!]! = x
  generalize hy : gamma22ToLinear[gamma22FromLinear[l]!]! = y
  constructor
  · apply getElem!_of_composeFrom hf (hs ▸ hl) hx
    decide +kernel
  · apply getElem!_of_composeFrom hf' (hs' ▸ hl) hy
    decide +kernel

/-! ## non-vacuity: concrete, non-trivial instances of the hypotheses used above -/

@[instance_reducible] def envQ14 : Env ℚ := ⟨0, 0, 0, id, id, id, fun _ _ => 0, id, fun _ _ => 0, id, id, fun _ _ => 0, fun _ => false⟩

section NonVacuity
attribute [local instance] envQ14
open GenK

/-- a rotated, scaled layer through a translating view at 4.5 px/mm: all three hypotheses of `pipeline_bijective` hold -/
example : Matrix.Det (⟨1, 0, 3, 0, 1, -2⟩ : Mat ℚ) ≠ 0 ∧ Matrix.Det (⟨0, -2, 5, 2, 0, 1⟩ : Mat ℚ) ≠ 0 ∧ ((9 : ℚ) / 2) ≠ 0 := by
  refine ⟨?_, ?_, ?_⟩ <;> norm_num [Matrix.Det]

/-- and the pipeline really moves points: (1, 1) of that layer lands at pixel position (27, 85.5) on a 90 px high image -/
example : pipelinePt Matrix.Mul Matrix.Dot pxK pyK (⟨1, 0, 3, 0, 1, -2⟩ : Mat ℚ) ⟨0, -2, 5, 2, 0, 1⟩ 90 (9 / 2) ⟨1, 1⟩ = ⟨27, 171 / 2⟩ := by
  simp only [pipelinePt, Matrix.Mul, Matrix.Dot, pxK, pyK]; norm_num
end NonVacuity

/-- `image_size_mono_resolution`, `canvas_x_inside_image`: a 10.3 mm canvas at 2 and 4.5 px/mm, x = 7 -/
example : (0 : Rat) ≤ 103 / 10 ∧ (0 : Rat) ≤ 2 ∧ (2 : Rat) ≤ 9 / 2 ∧ (0 : Rat) ≤ 7 ∧ (7 : Rat) ≤ 103 / 10 := by norm_num
example : imageDim (103 / 10) 2 = 21 ∧ imageDim (103 / 10) (9 / 2) = 46 := by decide +kernel
/-- `canvas_x_inside_image_exact`: 10 mm at 4.5 px/mm is exactly 45 px -/
example : (10 : Rat) * (9 / 2) = (45 : Nat) := by norm_num
/-- `fixed_point_neg_attained`, `scan_rounding_neg`: hypotheses satisfiable -/
example : (0 : Rat) ≤ 1 / 100 ∧ (1 / 100 : Rat) < 1 / 64 ∧ ((-3 / 10 : Rat)) * 64 + 1 / 2 < 0 := by norm_num
/-- `spanBlend_le_255` / `spanBlend_no_overflow`: a half-transparent premultiplied paint at partial coverage over white -/
example : (100 * 257 : Nat) ≤ 128 * 257 ∧ 128 * 257 ≤ 65535 ∧ 40000 ≤ 65535 ∧ (255 : Nat) ≤ 255
    ∧ spanBlend (100 * 257) (128 * 257) 40000 255 = 238 := by decide
/-- `composite_opaque_last` and a genuinely blended case: half-transparent red over opaque blue -/
example : composite [⟨0, 0, 255, 255⟩, ⟨128, 0, 0, 128⟩] = ⟨128, 0, 127, 255⟩ := by decide
/-- `gradients_unchanged`, `setColorSpace_value`: a receiver whose stops sit inside a larger array -/
example : (⟨0, 1, 2, 3⟩ : Slice).arr < ([[7, 128, 64, 9]] : Mem Nat).length
    ∧ (⟨0, 1, 2, 3⟩ : Slice).off + (⟨0, 1, 2, 3⟩ : Slice).len ≤ (([[7, 128, 64, 9]] : Mem Nat).getD 0 []).length := by decide
/-- `later_covers_earlier`: two draws, the second covering the pixel -/
example : replay [⟨fun p : Nat => p < 5, 1⟩, ⟨fun p : Nat => 3 ≤ p, 2⟩] (fun _ => 0) 4 = 2
    ∧ replay [⟨fun p : Nat => p < 5, 1⟩, ⟨fun p : Nat => 3 ≤ p, 2⟩] (fun _ => 0) 1 = 1 := by decide

end C14
