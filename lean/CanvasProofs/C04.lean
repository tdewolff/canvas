import CanvasProofs.Lemmas.C04
import CanvasProofs.Lemmas.C04Proto
import CanvasProofs.Lemmas.C04Spec
/-! # C04 — Stroke and Offset realise exact distance offsets of the path

Kernels and skeleton are the hand-written `Canvas.C04` definitions (tied to /repo/path_stroke.go by
correspondence with the real cappers/joiners and with `offset()` run under recording
`Capper`/`Joiner`s); `offsetNormal` is proved equal to the *generated* `Point.Norm ∘ Rot90CW ∘ Sub`.
Scalars: an arbitrary ordered field for the kernels (`hypot`/`sqrt` enter only through `HypotSpec` /
`SqrtSpec`), any type with a negation for the protocol; the exact verdicts are integer tests, measured
against squared distances over ℚ. -/
set_option linter.unusedSectionVars false
namespace C04
open Canvas Canvas.C04 C04L
variable {K : Type} [Field K] [LinearOrder K] [IsStrictOrderedRing K] [Env K]

def endOf : Cmd K → Pt K
  | .L p => p
  | .A _ _ p => p

/-- the model's normal is the generated translation of `end.Sub(start).Rot90CW().Norm(halfWidth)` -/
theorem normal_is_generated (a b : Pt K) (hw : K) :
    offsetNormal a b hw = GenK.Point.Norm (GenK.Point.Rot90CW (GenK.Point.Sub b a)) hw := by
  rw [offsetNormal, normTo_eq_generated]; rfl

/-- The offset of a segment by `n = Rot90CW(dir)·hw/|dir|` is the segment translated by `n`, with
`|n|² = hw²` and `n ⟂ dir`: parallel, at distance exactly `hw`, pointwise. -/
theorem line_offset_exact (hH : HypotSpec K) (a b : Pt K) (hw : K) (hab : a.x ≠ b.x ∨ a.y ≠ b.y) :
    dot (offsetNormal a b hw) (offsetNormal a b hw) = hw * hw ∧
    dot (offsetNormal a b hw) (psub b a) = 0 ∧
    (∀ t : K, psub (lerp (padd a (offsetNormal a b hw)) (padd b (offsetNormal a b hw)) t) (lerp a b t)
        = offsetNormal a b hw) ∧
    (∀ t : K, dist2 (lerp (padd a (offsetNormal a b hw)) (padd b (offsetNormal a b hw)) t) (lerp a b t)
        = hw * hw) := by
  have hsq := offsetNormal_sq hH a b hw hab
  exact ⟨hsq, offsetNormal_perp hH a b hw hab, fun t => psub_lerp_padd a b _ t,
    fun t => by rw [dist2_eq_dot, psub_lerp_padd, hsq]⟩

/-- positive half width puts `rhs` on the right-hand side of the direction of travel — the outer
side of a counter-clockwise contour (`Offset` takes `rhs` for `w > 0`). -/
theorem offset_side (hH : HypotSpec K) (a b : Pt K) (hw : K) (hab : a.x ≠ b.x ∨ a.y ≠ b.y) (hpos : 0 < hw) :
    (b.x - a.x) * (offsetNormal a b hw).y - (b.y - a.y) * (offsetNormal a b hw).x < 0 := by
  rw [offsetNormal_right hH a b hw hab]
  exact neg_neg_of_pos (mul_pos hpos (hypot_dir_pos hH a b hab))

/-- every capper ends at `pivot − n0` (where the other side of the stroke continues) -/
theorem caps_connect (hw : K) (pivot n0 : Pt K) :
    (buttCap pivot n0).getLast?.map endOf = some (psub pivot n0) ∧
    (roundCap hw pivot n0).getLast?.map endOf = some (psub pivot n0) ∧
    (squareCap pivot n0).getLast?.map endOf = some (psub pivot n0) :=
  ⟨rfl, rfl, rfl⟩

/-- Square cap: the two corners are the cut corners `pivot ± n0` moved by `e = Rot90CCW(n0)`, which is
perpendicular to the cut and as long as `n0` (= hw): they lie exactly `hw` beyond the end. -/
theorem square_cap_corners (pivot n0 : Pt K) :
    ∃ c1 c2, squareCap pivot n0 = [.L c1, .L c2, .L (psub pivot n0)] ∧
      psub c1 (padd pivot n0) = rotCCW n0 ∧ psub c2 (psub pivot n0) = rotCCW n0 ∧
      dot (rotCCW n0) n0 = 0 ∧ dot (rotCCW n0) (rotCCW n0) = dot n0 n0 := by
  refine ⟨_, _, rfl, ?_, ?_, ?_, ?_⟩
  · cases pivot; cases n0; simp only [padd, psub, rotCCW]; congr 1 <;> ring
  · cases pivot; cases n0; simp only [padd, psub, rotCCW]; congr 1 <;> ring
  · simp only [dot, rotCCW]; ring
  · simp only [dot, rotCCW]; ring

/-- with the normal of a segment, the square cap extends along the direction of travel by `hw` -/
theorem square_cap_extends_forward (hH : HypotSpec K) (a b : Pt K) (hw : K) (hab : a.x ≠ b.x ∨ a.y ≠ b.y) :
    rotCCW (offsetNormal a b hw) = smul (hw / Env.hypot (b.y - a.y) (-(b.x - a.x))) (psub b a) := by
  rw [offsetNormal_formula hH a b hw hab]
  simp only [rotCCW, smul, psub]
  congr 1 <;> ring

/-- Butt cap: the single line from `pivot + n0` to `pivot − n0` stays on the cut — no point of it has
any extent along the direction of travel. -/
theorem butt_cap_adds_nothing_beyond (pivot n0 : Pt K) (t : K) :
    buttCap pivot n0 = [.L (psub pivot n0)] ∧
    dot (psub (lerp (padd pivot n0) (psub pivot n0) t) pivot) (rotCCW n0) = 0 := by
  refine ⟨rfl, ?_⟩
  simp only [dot, psub, padd, lerp, rotCCW]; ring

/-- Round cap: an arc of radius `hw` whose end points are both at distance `|n0|` from the pivot -/
theorem round_cap_radius (hw : K) (pivot n0 : Pt K) :
    roundCap hw pivot n0 = [.A hw true (psub pivot n0)] ∧
    dist2 (padd pivot n0) pivot = dot n0 n0 ∧ dist2 (psub pivot n0) pivot = dot n0 n0 :=
  ⟨rfl, dist2_padd pivot n0, dist2_psub pivot n0⟩

/-- every joiner leaves `rhs` at `pivot + n1` and `lhs` at `pivot − n1` -/
theorem joins_connect (gap : Bool) (limit hw : K) (pivot n0 n1 rpos lpos : Pt K) :
    ((bevelJoin pivot n1).1.getLast?.map endOf = some (padd pivot n1) ∧
     (bevelJoin pivot n1).2.getLast?.map endOf = some (psub pivot n1)) ∧
    ((roundJoin hw pivot n0 n1).1.getLast?.map endOf = some (padd pivot n1) ∧
     (roundJoin hw pivot n0 n1).2.getLast?.map endOf = some (psub pivot n1)) ∧
    ((miterJoin gap limit hw pivot n0 n1 rpos lpos).1.getLast?.map endOf = some (padd pivot n1) ∧
     (miterJoin gap limit hw pivot n0 n1 rpos lpos).2.getLast?.map endOf = some (psub pivot n1)) := by
  refine ⟨⟨rfl, rfl⟩, ?_, ?_⟩
  · unfold roundJoin
    split <;> exact ⟨rfl, rfl⟩
  · rcases miterJoin_cases gap limit hw pivot n0 n1 rpos lpos with ⟨_, h⟩ | ⟨_, _, h⟩ | ⟨_, _, _, h⟩ <;> rw [h]
    · exact ⟨rfl, rfl⟩
    · split <;> exact ⟨rfl, rfl⟩
    · split <;> exact ⟨rfl, rfl⟩

/-- Round join: the arc (radius `hw`) is put on the outer side of the bend, the inner side gets a line -/
theorem round_join_side (hw : K) (pivot n0 n1 : Pt K) :
    (cwTurn n0 n1 = true → roundJoin hw pivot n0 n1 = ([.L (padd pivot n1)], [.A hw false (psub pivot n1)])) ∧
    (cwTurn n0 n1 = false → roundJoin hw pivot n0 n1 = ([.A hw true (padd pivot n1)], [.L (psub pivot n1)])) := by
  constructor <;> intro h <;> simp [roundJoin, h]

/-- The miter tip is the intersection of the two outer offset lines: it lies on the line through
`pivot ± n0` perpendicular to `n0` and on the line through `pivot ± n1` perpendicular to `n1`
(`+` for a left bend, `−` for a right bend). -/
theorem miter_is_line_intersection (hw : K) (pivot n0 n1 : Pt K)
    (h0 : dot n0 n0 = hw * hw) (h1 : dot n1 n1 = hw * hw) (hden : miterDen hw n0 n1 ≠ 0) :
    (cwTurn n0 n1 = false →
      dot (psub (miterTip hw pivot n0 n1) (padd pivot n0)) n0 = 0 ∧
      dot (psub (miterTip hw pivot n0 n1) (padd pivot n1)) n1 = 0) ∧
    (cwTurn n0 n1 = true →
      dot (psub (miterTip hw pivot n0 n1) (psub pivot n0)) n0 = 0 ∧
      dot (psub (miterTip hw pivot n0 n1) (psub pivot n1)) n1 = 0) := by
  obtain ⟨e0, e1⟩ := normal_dot_tip hw pivot n0 n1 h0 h1 hden
  simp only [dot, psub, padd] at *
  constructor <;> intro hcw <;> simp only [hcw, if_true, Bool.false_eq_true, if_false] at e0 e1
  · exact ⟨by linear_combination e0 - h0, by linear_combination e1 - h1⟩
  · exact ⟨by linear_combination e0 + h0, by linear_combination e1 + h1⟩

/-- The clip decision is exactly "the tip is farther than `limit·hw` from the vertex". -/
theorem miter_limit_decision (lim hw : K) (pivot n0 n1 : Pt K) (hhw : 0 < hw)
    (h0 : dot n0 n0 = hw * hw) (h1 : dot n1 n1 = hw * hw) (hden : 0 < miterDen hw n0 n1) :
    (miterClipped lim hw n0 n1 = true ↔ (lim * hw) ^ 2 < dist2 (miterTip hw pivot n0 n1) pivot) := by
  rw [miter_tip_dist2 hw pivot n0 n1 h0 h1 hden.ne', lt_div_iff₀ hden,
    show (lim * hw) ^ 2 * miterDen hw n0 n1 = lim * lim * miterDen hw n0 n1 * (hw * hw) by ring,
    mul_lt_mul_iff_of_pos_right (mul_pos hhw hhw)]
  exact decide_eq_true_iff

/-- not clipped ⇒ the tip is at most `limit·hw` from the vertex -/
theorem miter_tip_within_limit (lim hw : K) (pivot n0 n1 : Pt K) (hhw : 0 < hw)
    (h0 : dot n0 n0 = hw * hw) (h1 : dot n1 n1 = hw * hw) (hden : 0 < miterDen hw n0 n1)
    (hnc : miterClipped lim hw n0 n1 = false) :
    dist2 (miterTip hw pivot n0 n1) pivot ≤ (lim * hw) ^ 2 :=
  not_lt.mp fun hc => Bool.false_ne_true <|
    hnc.symm.trans ((miter_limit_decision lim hw pivot n0 n1 hhw h0 h1 hden).mpr hc)

/-- the limit in force is never below 1.001 -/
theorem effLimit_ge (limit : K) : (1001 / 1000 : K) ≤ effLimit limit := min_le_effLimit limit

/-! ### miter-clip: the cut perpendicular to the bisector at `limit·hw` from the vertex

`path_stroke.go` MiterJoiner.Join, clip branch: `mid0 := rhs.Pos().Interpolate(mid, t)` and
`mid1 := rEnd.Interpolate(mid, t)` with `t = (limit·hw·|d| − hw²)/(d² − hw²)`. Along the bisector the
offset corners are at `hw²/|d|` and the tip at `|d|`, so both cut corners are at exactly `limit·hw`
(the SVG 2 `miter-clip` shape). Components along the bisector are written as dot products with
`tip − pivot`, whose length is `|d| = miterAbsD`. -/

/-- both end normals have the component `hw²/|d|` along the bisector: `n·(tip − pivot) = hw²` (left bend) -/
theorem miter_normal_dot_tip (hw : K) (pivot n0 n1 : Pt K)
    (h0 : dot n0 n0 = hw * hw) (h1 : dot n1 n1 = hw * hw) (hden : miterDen hw n0 n1 ≠ 0)
    (hcw : cwTurn n0 n1 = false) :
    dot n0 (psub (miterTip hw pivot n0 n1) pivot) = hw * hw ∧
    dot n1 (psub (miterTip hw pivot n0 n1) pivot) = hw * hw := by
  simpa only [hcw, Bool.false_eq_true, if_false] using normal_dot_tip hw pivot n0 n1 h0 h1 hden

/-- `|tip − pivot|² = dist2 tip pivot` as a dot product -/
theorem tip_dot_self (hw : K) (pivot n0 n1 : Pt K) :
    dot (psub (miterTip hw pivot n0 n1) pivot) (psub (miterTip hw pivot n0 n1) pivot)
      = dist2 (miterTip hw pivot n0 n1) pivot := (dist2_eq_dot _ _).symm

/-- component along the bisector (times `|d|`) of the point at fraction `t` of a miter edge -/
theorem miter_edge_point_bisector (t : K) (pivot n q : Pt K) :
    dot (psub (lerp (padd pivot n) q t) pivot) (psub q pivot)
      = (1 - t) * dot n (psub q pivot) + t * dot (psub q pivot) (psub q pivot) := by
  simp only [dot, psub, padd, lerp]; ring

/-- squared distance from the vertex of a point at fraction `t` of the edge corner → tip (left bend) -/
theorem miter_edge_point_dist2 (hw t : K) (pivot n0 n1 : Pt K)
    (h0 : dot n0 n0 = hw * hw) (h1 : dot n1 n1 = hw * hw) (hden : miterDen hw n0 n1 ≠ 0)
    (hcw : cwTurn n0 n1 = false) :
    dist2 (lerp (padd pivot n0) (miterTip hw pivot n0 n1) t) pivot
      = hw * hw * (1 - t ^ 2) + t ^ 2 * dist2 (miterTip hw pivot n0 n1) pivot :=
  edge_point_dist2 t pivot n0 _ h0 (miter_normal_dot_tip hw pivot n0 n1 h0 h1 hden hcw).1

/-- what `SqrtSpec` gives for `|d|`: non-negative, `|d|² = |tip − pivot|²`, and `|d| ≥ hw` -/
theorem miterAbsD_spec (hS : SqrtSpec K) (hw : K) (pivot n0 n1 : Pt K) (hhw : 0 < hw)
    (h0 : dot n0 n0 = hw * hw) (h1 : dot n1 n1 = hw * hw) (hden : 0 < miterDen hw n0 n1) :
    0 ≤ miterAbsD hw n0 n1 ∧
    miterAbsD hw n0 n1 * miterAbsD hw n0 n1 = dist2 (miterTip hw pivot n0 n1) pivot ∧
    hw ≤ miterAbsD hw n0 n1 := by
  have hd2 := miter_tip_dist2 hw pivot n0 n1 h0 h1 hden.ne'
  obtain ⟨hs0, hs2⟩ : 0 ≤ miterAbsD hw n0 n1 ∧ miterAbsD hw n0 n1 ^ 2 = _ :=
    hS _ (div_nonneg (by positivity) hden.le)
  have hD2 : miterAbsD hw n0 n1 * miterAbsD hw n0 n1 = dist2 (miterTip hw pivot n0 n1) pivot := by
    rw [hd2, ← pow_two]; exact hs2
  refine ⟨hs0, hD2, ?_⟩
  -- den ≤ 2hw² (Cauchy–Schwarz for two vectors of length hw), hence |d|² ≥ hw²
  rw [mul_self_le_mul_self_iff hhw.le hs0, hD2, hd2, le_div_iff₀ hden]
  calc hw * hw * miterDen hw n0 n1 ≤ hw * hw * (2 * (hw * hw)) :=
        mul_le_mul_of_nonneg_left (miterDen_le hw n0 n1 h0 h1) (mul_self_nonneg hw)
    _ = 2 * (hw * hw) * (hw * hw) := by ring

/-- Both corners of a clipped left-bend miter-clip join lie exactly `limit·hw` from the vertex along the
bisector: `(c − pivot)·(tip − pivot) = limit·hw·|d|`. -/
theorem miterclip_cut_at_limit (hS : SqrtSpec K) (limit hw : K) (pivot n0 n1 : Pt K) (hhw : 0 < hw)
    (h0 : dot n0 n0 = hw * hw) (h1 : dot n1 n1 = hw * hw) (hden : 0 < miterDen hw n0 n1)
    (hcw : cwTurn n0 n1 = false) (hne : pointEquals n0 (pneg n1) = false)
    (hclip : miterClipped (effLimit limit) hw n0 n1 = true) :
    ∃ c0 c1, (miterJoin false limit hw pivot n0 n1 (padd pivot n0) (psub pivot n0)).1
        = [.L c0, .L c1, .L (padd pivot n1)] ∧
      dot (psub c0 pivot) (psub (miterTip hw pivot n0 n1) pivot) = effLimit limit * hw * miterAbsD hw n0 n1 ∧
      dot (psub c1 pivot) (psub (miterTip hw pivot n0 n1) pivot) = effLimit limit * hw * miterAbsD hw n0 n1 := by
  obtain ⟨hn0, hn1⟩ := miter_normal_dot_tip hw pivot n0 n1 h0 h1 hden.ne' hcw
  obtain ⟨hD0, hD2, hDhw⟩ := miterAbsD_spec hS hw pivot n0 n1 hhw h0 h1 hden
  have hdec := (miter_limit_decision (effLimit limit) hw pivot n0 n1 hhw h0 h1 hden).mp hclip
  -- |d|² − hw² ≠ 0 : clipped means |d|² > (limit·hw)² ≥ hw²
  have ht : clipT (effLimit limit) hw n0 n1 * (miterAbsD hw n0 n1 * miterAbsD hw n0 n1 - hw * hw)
      = effLimit limit * hw * miterAbsD hw n0 n1 - hw * hw :=
    div_mul_cancel₀ _ (sub_pos.mpr (lt_of_le_of_lt (sq_le_limit_sq hw (one_lt_effLimit limit).le)
      (hD2 ▸ hdec))).ne'
  have key : ∀ n, dot n (psub (miterTip hw pivot n0 n1) pivot) = hw * hw →
      dot (psub (lerp (padd pivot n) (miterTip hw pivot n0 n1) (clipT (effLimit limit) hw n0 n1)) pivot)
        (psub (miterTip hw pivot n0 n1) pivot) = effLimit limit * hw * miterAbsD hw n0 n1 := by
    intro n hn
    rw [miter_edge_point_bisector, hn, tip_dot_self, ← hD2]
    linear_combination ht
  exact ⟨_, _, by simp [miterJoin, hne, hclip, hcw], key n0 hn0, key n1 hn1⟩

/-- Inside the disc: no point emitted by a miter-type joiner is farther than `limit·hw` from the vertex,
except the two cut corners of a clipping joiner (which are at `limit·hw` along the bisector,
`miterclip_cut_at_limit`, and off the bisector by half the length of the cut). -/
theorem miter_within_disc_unless_clipped (gap : Bool) (limit hw : K) (pivot n0 n1 : Pt K) (hhw : 0 < hw)
    (h0 : dot n0 n0 = hw * hw) (h1 : dot n1 n1 = hw * hw) (hden : 0 < miterDen hw n0 n1)
    (hclass : ¬(miterClipped (effLimit limit) hw n0 n1 = true ∧ gap = false)) :
    ∀ c ∈ (miterJoin gap limit hw pivot n0 n1 (padd pivot n0) (psub pivot n0)).1 ++
          (miterJoin gap limit hw pivot n0 n1 (padd pivot n0) (psub pivot n0)).2,
      dist2 (endOf c) pivot ≤ (effLimit limit * hw) ^ 2 := by
  have hbase := sq_le_limit_sq hw (one_lt_effLimit limit).le
  have hrEnd := (dist2_padd pivot n1).trans_le (h1.trans_le hbase)
  have hlEnd := (dist2_psub pivot n1).trans_le (h1.trans_le hbase)
  rcases miterJoin_cases gap limit hw pivot n0 n1 (padd pivot n0) (psub pivot n0) with
    ⟨_, h⟩ | ⟨_, hnc, h⟩ | ⟨_, hcl, hg, _⟩
  · rw [h]
    exact List.forall_mem_cons.mpr ⟨hrEnd, List.forall_mem_singleton.mpr hlEnd⟩
  · have htip := miter_tip_within_limit (effLimit limit) hw pivot n0 n1 hhw h0 h1 hden hnc
    rw [h]
    split
    · exact List.forall_mem_cons.mpr
        ⟨hrEnd, List.forall_mem_cons.mpr ⟨htip, List.forall_mem_singleton.mpr hlEnd⟩⟩
    · exact List.forall_mem_cons.mpr
        ⟨htip, List.forall_mem_cons.mpr ⟨hrEnd, List.forall_mem_singleton.mpr hlEnd⟩⟩
  · exact absurd ⟨hcl, hg⟩ hclass

/-- Along the bisector EVERY point a miter-type joiner puts on the outer side of a left bend — bevel,
tip, cut corners, end point; clipped or not, `MiterJoin` or `MiterClipJoin` — is at most `limit·hw` from
the vertex: `(c − pivot)·(tip − pivot) ≤ limit·hw·|d|`. -/
theorem miter_bisector_within_limit (hS : SqrtSpec K) (gap : Bool) (limit hw : K) (pivot n0 n1 : Pt K)
    (hhw : 0 < hw) (h0 : dot n0 n0 = hw * hw) (h1 : dot n1 n1 = hw * hw) (hden : 0 < miterDen hw n0 n1)
    (hcw : cwTurn n0 n1 = false) :
    ∀ c ∈ (miterJoin gap limit hw pivot n0 n1 (padd pivot n0) (psub pivot n0)).1,
      dot (psub (endOf c) pivot) (psub (miterTip hw pivot n0 n1) pivot)
        ≤ effLimit limit * hw * miterAbsD hw n0 n1 := by
  obtain ⟨hn0, hn1⟩ := miter_normal_dot_tip hw pivot n0 n1 h0 h1 hden.ne' hcw
  obtain ⟨hD0, hD2, hDhw⟩ := miterAbsD_spec hS hw pivot n0 n1 hhw h0 h1 hden
  have hl := (one_lt_effLimit limit).le
  -- the end point pivot + n1 : hw² ≤ hw·|d| ≤ limit·hw·|d|
  have hend : dot (psub (padd pivot n1) pivot) (psub (miterTip hw pivot n0 n1) pivot)
      ≤ effLimit limit * hw * miterAbsD hw n0 n1 := by
    rw [psub_padd_cancel, hn1, mul_assoc]
    exact le_trans (mul_le_mul_of_nonneg_left hDhw hhw.le)
      (le_mul_of_one_le_left (mul_nonneg hhw.le hD0) hl)
  rcases miterJoin_cases gap limit hw pivot n0 n1 (padd pivot n0) (psub pivot n0) with
    ⟨_, h⟩ | ⟨_, hnc, h⟩ | ⟨hne, hcl, rfl, _⟩
  · rw [h]
    exact List.forall_mem_singleton.mpr hend
  · -- the tip: |d|² ≤ limit·hw·|d|  from  |d|² ≤ (limit·hw)²
    have htip := miter_tip_within_limit (effLimit limit) hw pivot n0 n1 hhw h0 h1 hden hnc
    rw [← hD2, ← pow_two] at htip
    rw [h, hcw]
    refine List.forall_mem_cons.mpr ⟨?_, List.forall_mem_singleton.mpr hend⟩
    rw [endOf, tip_dot_self, ← hD2]
    exact mul_le_mul_of_nonneg_right
      (le_of_pow_le_pow_left₀ two_ne_zero (mul_nonneg (le_trans zero_le_one hl) hhw.le) htip) hD0
  · obtain ⟨c0, c1, hlist, hc0, hc1⟩ :=
      miterclip_cut_at_limit hS limit hw pivot n0 n1 hhw h0 h1 hden hcw hne hcl
    rw [hlist]
    exact List.forall_mem_cons.mpr
      ⟨hc0.le, List.forall_mem_cons.mpr ⟨hc1.le, List.forall_mem_singleton.mpr hend⟩⟩

/-- a left right-angle bend with unit half width satisfies the hypotheses of the miter theorems -/
example : ∃ n0 n1 : Pt K, dot n0 n0 = (1 : K) * 1 ∧ dot n1 n1 = (1 : K) * 1 ∧ 0 < miterDen (1 : K) n0 n1 ∧
    cwTurn n0 n1 = false :=
  ⟨⟨0, -1⟩, ⟨1, 0⟩, by simp [dot], by simp [dot], by simp [miterDen, dot], by simp [cwTurn, dot, rotCW]⟩

/-- limit 1.001 clips the right-angle miter (tip at distance √2): the excluded class is inhabited -/
example : miterClipped (effLimit (1 : K)) (1 : K) ⟨0, -1⟩ ⟨1, 0⟩ = true := by
  have : effLimit (1 : K) = 1001 / 1000 := if_pos (show (1 : K) < 1001 / 1000 by norm_num)
  rw [this]
  simp only [miterClipped, miterDen, dot]
  norm_num

/-- a `Close` whose start and end coincide adds no state, any other `Close` adds a line state; `closed`
is set by any `Close` -/
theorem flatStates_close (hw nan : K) (start p : Pt K) :
    flatStates hw nan start [.Z p] =
      (if pointEquals start p then [] else [lineSeg hw nan start p], true) := by
  simp [flatStates]

theorem flatStates_open_lines (hw nan : K) (start p q : Pt K) :
    flatStates hw nan start [.M p, .L q] = ([lineSeg hw nan p q], false) := by
  simp [flatStates]

section protocol
variable {α : Type} [Neg α]

/-- For every non-empty state list `offset()` produces a result whose requests are: one join per
corner among the adjacent pairs (cyclically adjacent when closed), no caps when closed or when only
offsetting, exactly two caps when stroking an open subpath; `rhs` is closed iff the input is closed or
an open subpath is stroked; `lhs` is closed iff the input is closed and is absent (merged into `rhs`)
iff an open subpath is stroked. -/
theorem protocol (eqN : Pt α → Pt α → Bool) (first : Seg α) (rest : List (Seg α)) (closed strokeOpen : Bool) :
    ∃ pr, offsetProto eqN (first :: rest) closed strokeOpen = some pr ∧
      (pr.events.filter Ev.isJoin).length
        = (adjPairs first closed (first :: rest)).countP (isCorner eqN) ∧
      (pr.events.filter Ev.isCap).length = (if closed then 0 else if strokeOpen then 2 else 0) ∧
      pr.rhsClosed = (closed || strokeOpen) ∧
      pr.lhs = (if closed then some true else if strokeOpen then none else some false) := by
  refine ⟨_, offsetProto_cons eqN first rest closed strokeOpen, ?_, ?_, rfl, rfl⟩
  · rw [joinsFrom_eq, List.filter_append, filter_isJoin_map, List.countP_eq_length_filter, ← List.length_map joinEv]
    cases closed <;> cases strokeOpen <;> simp [Ev.isJoin]
  · rw [joinsFrom_eq, List.filter_append, filter_isCap_map]
    cases closed <;> cases strokeOpen <;> rfl

/-- number of candidate pairs: closed ⇒ n, open ⇒ n − 1 -/
theorem protocol_pairs (first : Seg α) (rest : List (Seg α)) (closed : Bool) :
    (adjPairs first closed (first :: rest)).length
      = if closed then rest.length + 1 else rest.length :=
  adjPairs_length first closed first rest

/-- when every junction is a corner: closed ⇒ 0 caps and n joins, open ⇒ 2 caps and n − 1 joins -/
theorem protocol_all_corners (eqN : Pt α → Pt α → Bool) (first : Seg α) (rest : List (Seg α))
    (closed : Bool)
    (hall : ∀ p ∈ adjPairs first closed (first :: rest), isCorner eqN p = true) :
    ∃ pr, offsetProto eqN (first :: rest) closed true = some pr ∧
      (pr.events.filter Ev.isJoin).length = (if closed then rest.length + 1 else rest.length) ∧
      (pr.events.filter Ev.isCap).length = (if closed then 0 else 2) := by
  obtain ⟨pr, hpr, hjn, hcp, _, _⟩ := protocol eqN first rest closed true
  refine ⟨pr, hpr, ?_, ?_⟩
  · rw [hjn, List.countP_eq_length.mpr hall, protocol_pairs]
  · rw [hcp]; cases closed <;> rfl

/-- A closed subpath of `n ≥ 1` segments all of whose junctions are corners gets exactly `n` joins and
no cap — for Stroke and for Offset alike; `n = 1` (a single cubic returning to its start point) included. -/
theorem closed_join_count (eqN : Pt α → Pt α → Bool) (first : Seg α) (rest : List (Seg α))
    (strokeOpen : Bool)
    (hall : ∀ p ∈ adjPairs first true (first :: rest), isCorner eqN p = true) :
    ∃ pr, offsetProto eqN (first :: rest) true strokeOpen = some pr ∧
      (pr.events.filter Ev.isJoin).length = (first :: rest).length ∧
      (pr.events.filter Ev.isCap).length = 0 := by
  obtain ⟨pr, hpr, hjn, hcp, _, _⟩ := protocol eqN first rest true strokeOpen
  exact ⟨pr, hpr, by rw [hjn, List.countP_eq_length.mpr hall, protocol_pairs]; rfl, hcp⟩

/-- The one-segment closed subpath: the segment is joined with itself (`next = states[0]`) at its
single vertex, with end normal → start normal and end radius → start radius; this is the only request. -/
theorem closed_single_segment_join (eqN : Pt α → Pt α → Bool) (s : Seg α) (strokeOpen : Bool)
    (hcorner : eqN s.n1 s.n0 = false) :
    offsetProto eqN [s] true strokeOpen =
      some ⟨[.join s.p1 s.n1 s.n0 s.r1 s.r0], true, some true⟩ := by
  simp [offsetProto, joinsFrom, joinOf, hcorner]

/-- both sides come back closed iff the input subpath is closed -/
theorem both_sides_closed_iff (eqN : Pt α → Pt α → Bool) (first : Seg α) (rest : List (Seg α))
    (closed strokeOpen : Bool) :
    ∀ pr, offsetProto eqN (first :: rest) closed strokeOpen = some pr →
      ((pr.rhsClosed = true ∧ pr.lhs = some true) ↔ closed = true) := by
  intro pr h
  obtain rfl := Option.some.inj ((offsetProto_cons eqN first rest closed strokeOpen).symm.trans h)
  cases closed <;> cases strokeOpen <;> simp

/-- the caps of an open stroke are requested after all joins: first the end (pivot = last end point,
normal = last end normal), then the start (pivot = first start point, normal = −first start normal) -/
theorem caps_after_joins (eqN : Pt α → Pt α → Bool) (first : Seg α) (rest : List (Seg α)) :
    ∃ pr, offsetProto eqN (first :: rest) false true = some pr ∧
      pr.events = joinsFrom eqN first false (first :: rest) ++
        [.cap (lastSeg first (first :: rest)).p1 (lastSeg first (first :: rest)).n1,
         .cap first.p0 (pneg first.n0)] :=
  ⟨_, rfl, rfl⟩

/-- nothing is produced only for an empty state list (`return nil, nil`) -/
theorem proto_none_iff (eqN : Pt α → Pt α → Bool) (segs : List (Seg α)) (closed strokeOpen : Bool) :
    offsetProto eqN segs closed strokeOpen = none ↔ segs = [] := by
  cases segs with
  | nil => exact ⟨fun _ => rfl, fun _ => rfl⟩
  | cons s tl => simp [offsetProto_cons]

end protocol

section wholepath
variable {α : Type} [Neg α]

/-- `Offset` (strokeOpen = false) requests exactly the joins `Stroke` requests, and never a cap: the
offset contour is the `rhs` / `lhs` side of the stroke outline. -/
theorem offset_is_one_side (eqN : Pt α → Pt α → Bool) (first : Seg α) (rest : List (Seg α)) (closed : Bool) :
    ∃ po ps, offsetProto eqN (first :: rest) closed false = some po ∧
      offsetProto eqN (first :: rest) closed true = some ps ∧
      po.events = ps.events.filter Ev.isJoin ∧ po.events.filter Ev.isCap = [] := by
  refine ⟨_, _, offsetProto_cons eqN first rest closed false, offsetProto_cons eqN first rest closed true, ?_, ?_⟩
  · rw [joinsFrom_eq, List.filter_append, filter_isJoin_map]
    cases closed <;> simp [Ev.isJoin]
  · rw [joinsFrom_eq, List.filter_append, filter_isCap_map]
    cases closed <;> rfl

/-- caps requested for one subpath -/
theorem sub_caps (eqN : Pt α → Pt α → Bool) (s : SubPath α) (strokeOpen : Bool) :
    ((subEvents eqN strokeOpen s).filter Ev.isCap).length
      = if s.1.isEmpty || s.2 || !strokeOpen then 0 else 2 := by
  obtain ⟨segs, closed⟩ := s
  cases segs with
  | nil => rfl
  | cons first rest =>
    obtain ⟨pr, hpr, _, hc, _, _⟩ := protocol eqN first rest closed strokeOpen
    simp only [subEvents, hpr, hc]
    cases closed <;> cases strokeOpen <;> rfl

/-- Stroking a path with several subpaths (e.g. the dashes produced by `Dash`): the cappers are called
exactly twice for every open, non-empty subpath and never for a closed one. -/
theorem path_caps (eqN : Pt α → Pt α → Bool) (subs : List (SubPath α)) (strokeOpen : Bool) :
    ((pathEvents eqN subs strokeOpen).filter Ev.isCap).length
      = (subs.map fun s => if s.1.isEmpty || s.2 || !strokeOpen then 0 else 2).sum := by
  rw [pathEvents, List.filter_flatMap, List.length_flatMap]
  exact congrArg List.sum (List.map_congr_left fun s _ => sub_caps eqN s strokeOpen)

/-- dashes → stroke: when every subpath is open and non-empty (what `Dash` produces from an open path)
the stroke has `2·k` caps and `k` contours for `k` dashes. -/
theorem dashed_stroke (eqN : Pt α → Pt α → Bool) (subs : List (SubPath α))
    (hopen : ∀ s ∈ subs, s.1.isEmpty = false ∧ s.2 = false) :
    ((pathEvents eqN subs true).filter Ev.isCap).length = 2 * subs.length ∧
    pathContours subs true = subs.length := by
  constructor
  · rw [path_caps]
    exact sum_map_const 2 fun s hs => by simp [hopen s hs]
  · exact (sum_map_const 1 fun s hs => by simp [hopen s hs]).trans (Nat.one_mul _)

end wholepath

section exactspec
open Canvas.Wn Canvas.C04.Spec C04S

/-- `nearSeg p a b d2` ⇔ some point `a + t(b−a)`, `0 ≤ t ≤ 1`, is at squared distance `< d2` from `p` -/
theorem near_verdict_exact (p a b : IPt) (d2 : Int) :
    nearSeg p a b d2 = true ↔ ∃ t : ℚ, 0 ≤ t ∧ t ≤ 1 ∧ segDist2 p a b t < d2 := nearSeg_iff p a b d2

/-- `farFromSeg p a b d2` ⇔ every point of the segment is at squared distance `> d2` from `p` -/
theorem far_verdict_exact (p a b : IPt) (d2 : Int) :
    farFromSeg p a b d2 = true ↔ ∀ t : ℚ, 0 ≤ t → t ≤ 1 → (d2 : ℚ) < segDist2 p a b t := by
  obtain ⟨s, h0, h1, hmin, hv⟩ := seg_nearest p a b
  rw [(hv d2).2]
  exact ⟨fun h t h0' h1' => lt_of_lt_of_le h (hmin t h0' h1'), fun h => h s h0 h1⟩

/-- the verdict "closer than `w/2 − tol` to the path" is exact for polylines -/
theorem near_path_exact (p : IPt) (d : Int) (chains : List (List IPt)) :
    nearPath p d chains = true ↔
      ∃ c ∈ chains, ∃ s ∈ consec c, ∃ t : ℚ, 0 ≤ t ∧ t ≤ 1 ∧ segDist2 p s.1 s.2 t < d := by
  simp only [nearPath, List.any_eq_true, nearChain_eq, nearSeg_iff]

/-- the verdict "farther than `w/2 + tol` from the path" is exact for polylines -/
theorem far_path_exact (p : IPt) (d : Int) (chains : List (List IPt)) :
    farPath p d chains = true ↔
      ∀ c ∈ chains, ∀ s ∈ consec c, ∀ t : ℚ, 0 ≤ t → t ≤ 1 → (d : ℚ) < segDist2 p s.1 s.2 t := by
  simp only [farPath, List.all_eq_true, farFromChain_eq, far_verdict_exact]

/-- no point is demanded filled (below `lo²`) and demanded empty (above `hi²`) at once when `lo ≤ hi` -/
theorem verdicts_exclusive (p a b : IPt) (lo2 hi2 : Int) (h : lo2 ≤ hi2) :
    ¬(nearSeg p a b lo2 = true ∧ farFromSeg p a b hi2 = true) := by
  obtain ⟨s, -, -, -, hv⟩ := seg_nearest p a b
  rw [(hv lo2).1, (hv hi2).2]
  exact fun hh => absurd (Int.cast_lt.mp (hh.2.trans hh.1)) (not_lt.mpr h)

/-- a larger tolerance band only removes demands: both verdicts are monotone -/
theorem verdicts_monotone (p a b : IPt) (d d' : Int) (h : d ≤ d') :
    (nearSeg p a b d = true → nearSeg p a b d' = true) ∧
    (farFromSeg p a b d' = true → farFromSeg p a b d = true) := by
  obtain ⟨s, -, -, -, hv⟩ := seg_nearest p a b
  have hq : (d : ℚ) ≤ d' := Int.cast_le.mpr h
  rw [(hv d).1, (hv d').1, (hv d).2, (hv d').2]
  exact ⟨fun hm => lt_of_lt_of_le hm hq, lt_of_le_of_lt hq⟩

/-- the verdicts do not depend on where the drawing sits (translation invariance): only differences of
coordinates enter them -/
theorem verdicts_translation_invariant (u p a b : IPt) (d : Int) :
    nearSeg (shift u p) (shift u a) (shift u b) d = nearSeg p a b d ∧
    farFromSeg (shift u p) (shift u a) (shift u b) d = farFromSeg p a b d := by
  simp only [nearSeg, farFromSeg, shift, add_sub_add_right_eq_sub, and_self]

/-- the slab the stroker must fill lies within `lo` of its segment -/
theorem slab_demand_sound (p a b : IPt) (lo band : Int) (h : inSlab p a b lo band = true) :
    nearSeg p a b (lo * lo) = true := by
  simp only [inSlab, Bool.and_eq_true, geRadius_iff, decide_eq_true_eq] at h
  obtain ⟨⟨⟨-, hT0, -⟩, hT1, -⟩, hc⟩ := h
  exact nearSeg_of_foot hT0 (sub_nonneg.mp hT1) hc

/-- the bevel triangle at a join lies in the open disc of radius `lo` around the vertex -/
theorem bevel_triangle_in_disc (qx qy r0x r0y r1x r1y lo : Int)
    (h : bevelCore qx qy r0x r0y r1x r1y lo = true) : qx * qx + qy * qy < lo * lo :=
  bevelCore_disc h

/-- Bevel / Round joins and Round / Square caps: every point the specification demands is within `lo` of
a segment of the path — the exact specification never demands more than the property does. -/
theorem spec_demands_only_near_points (st : Style) (g : Geo) (L : Lens) (p : IPt) (hj : st.join ≤ 1)
    (h : mustFill st g L p = true) :
    (∃ s ∈ g.segs, nearSeg p s.1 s.2 (L.lo * L.lo) = true) ∨
    (∃ t ∈ g.joins, nearSeg p t.1 t.2.1 (L.lo * L.lo) = true) ∨
    (∃ e ∈ g.ends, nearSeg p e.1 e.2 (L.lo * L.lo) = true) := by
  simp only [mustFill, Bool.or_eq_true, List.any_eq_true] at h
  rcases h with (⟨s, hs, h⟩ | ⟨t, ht, h⟩) | ⟨e, he, h⟩
  · exact Or.inl ⟨s, hs, slab_demand_sound p s.1 s.2 L.lo L.band h⟩
  · exact Or.inr (Or.inl ⟨t, ht, joinFilled_near hj h⟩)
  · exact Or.inr (Or.inr ⟨e, he, capFilled_near h⟩)

/-- non-vacuity: concrete points in a slab, a bevel triangle, a round sector and a round cap -/
example : inSlab ⟨5, 2⟩ ⟨0, 0⟩ ⟨10, 0⟩ 3 1 = true := by decide
example : inBevel ⟨11, -1⟩ ⟨0, 0⟩ ⟨10, 0⟩ ⟨10, 10⟩ 4 = true := by decide
example : joinFilled ⟨0, 1, 4, 1⟩ ⟨12, -2⟩ ⟨0, 0⟩ ⟨10, 0⟩ ⟨10, 10⟩ 4 = true := by decide
example : capFilled ⟨1, 1, 4, 1⟩ ⟨12, 1⟩ ⟨0, 0⟩ ⟨10, 0⟩ 4 = true := by decide
example : nearSeg ⟨5, 2⟩ ⟨0, 0⟩ ⟨10, 0⟩ 9 = true ∧ farFromSeg ⟨5, 4⟩ ⟨0, 0⟩ ⟨10, 0⟩ 9 = true := by decide
example : mustFill ⟨0, 1, 4, 1⟩ (geoOf [([⟨0, 0⟩, ⟨10, 0⟩, ⟨10, 10⟩], false)]) ⟨4, 6, 5, 1⟩ ⟨12, -2⟩ = true := by
  decide

end exactspec

end C04
