import CanvasProofs.Lemmas.C08
import CanvasProofs.Lemmas.C08Equiv
import CanvasProofs.Lemmas.C08Cubic
import CanvasProofs.Lemmas.C08Sym
import CanvasProofs.Lemmas.C08Arc
import CanvasProofs.Lemmas.C08Angle
import CanvasProofs.Lemmas.C08Real
import CanvasProofs.Lemmas.C08Verdict
import CanvasProofs.Lemmas.C08Fixed

/-! # C08 — Bounds is the tight bounding box and FastBounds contains it

Model: `Canvas.C08.fastBounds` / `Canvas.C08.bounds` (CanvasModel/C08.lean, hand-written fold over the
command list, compared with the real `Path.FastBounds()/Path.Bounds()` on every run), instantiated
over an arbitrary linearly ordered field `K` with `min`/`max` and the *generated* definitions
`GenK.Equal`, `GenK.IntervalExclusive`, `GenK.quadraticBezierPos`, `GenK.cubicBezierPos`. -/
set_option linter.unusedSectionVars false
namespace C08
open Canvas Canvas.C08 GenK
variable {K : Type} [Field K] [LinearOrder K] [IsStrictOrderedRing K] [Env K] [ArcFns K]

/-- Every point of a quadratic Bézier at `t ∈ [0,1]` lies within min/max of its control points. -/
theorem bernstein_hull_quad (p0 p1 p2 : Pt K) (t : K) (h0 : 0 ≤ t) (h1 : t ≤ 1) :
    InRect ⟨min p0.x (min p1.x p2.x), min p0.y (min p1.y p2.y), max p0.x (max p1.x p2.x), max p0.y (max p1.y p2.y)⟩
      (quadraticBezierPos p0 p1 p2 t) :=
  stIn_rect.1 (fastStep_seg (St.init p0) p0 (.Q p1 p2) _ (stIn_init p0) ⟨t, h0, h1, rfl⟩)

/-- Every point of a cubic Bézier at `t ∈ [0,1]` lies within min/max of its control points. -/
theorem bernstein_hull_cube (p0 p1 p2 p3 : Pt K) (t : K) (h0 : 0 ≤ t) (h1 : t ≤ 1) :
    InRect ⟨min p0.x (min p1.x (min p2.x p3.x)), min p0.y (min p1.y (min p2.y p3.y)),
            max p0.x (max p1.x (max p2.x p3.x)), max p0.y (max p1.y (max p2.y p3.y))⟩
      (cubicBezierPos p0 p1 p2 p3 t) :=
  stIn_rect.1 (fastStep_seg (St.init p0) p0 (.C p1 p2 p3) _ (stIn_init p0) ⟨t, h0, h1, rfl⟩)

/-- The stationary parameter used by `Bounds` for a quadratic, `t* = (p0−p1)/(p0−2p1+p2)`, zeroes the
derivative, and `B(t) − B(t*) = (p0−2p1+p2)·(t−t*)²` (per coordinate): the extreme is exactly `B(t*)`. -/
theorem quad_extremum (p0 p1 p2 : Pt K) (t : K) :
    (p0.x - 2 * p1.x + p2.x ≠ 0 →
      (quadraticBezierDeriv p0 p1 p2 ((p0.x - p1.x) / (p0.x - 2 * p1.x + p2.x))).x = 0 ∧
      (quadraticBezierPos p0 p1 p2 t).x - (quadraticBezierPos p0 p1 p2 ((p0.x - p1.x) / (p0.x - 2 * p1.x + p2.x))).x
        = (p0.x - 2 * p1.x + p2.x) * (t - (p0.x - p1.x) / (p0.x - 2 * p1.x + p2.x)) ^ 2) ∧
    (p0.y - 2 * p1.y + p2.y ≠ 0 →
      (quadraticBezierDeriv p0 p1 p2 ((p0.y - p1.y) / (p0.y - 2 * p1.y + p2.y))).y = 0 ∧
      (quadraticBezierPos p0 p1 p2 t).y - (quadraticBezierPos p0 p1 p2 ((p0.y - p1.y) / (p0.y - 2 * p1.y + p2.y))).y
        = (p0.y - 2 * p1.y + p2.y) * (t - (p0.y - p1.y) / (p0.y - 2 * p1.y + p2.y)) ^ 2) :=
  ⟨qb_extremum p0.x p1.x p2.x t, qb_extremum p0.y p1.y p2.y t⟩

/-- Bounds contains every point of every M/L/Q/C/Z path, exactly (Epsilon = 0, `sqrt` an exact square
root on non-negatives): lines, quadratics AND cubics. For a cubic coordinate `f` with `f' = 3g`,
`solveQuadratic` returns every sign change of `g` inside (0,1) (`solveQuadratic_spec`, all seven
branches of the code), and `f` is monotone between consecutive candidates by Simpson's identity — no
calculus, any ordered field. -/
theorem bounds_contains_curve (hε : (Env.epsilon : K) = 0) (hs : ∀ x : K, 0 ≤ x → Env.sqrt x * Env.sqrt x = x)
    (cs : List (Cmd K)) (q : Pt K) (harc : ∀ c ∈ cs, c.isArc = false) (h : OnPath cs q) :
    InRect (bounds cs) q :=
  bounds_contains hε _ cs q (fun c hc => ⟨harc c hc, fun _ => hs⟩) h

/-- the per-axis core of it: the interval `Bounds` computes for one cubic contains `B(t)`, `t ∈ [0,1]` -/
theorem cubic_axis_contains (hε : (Env.epsilon : K) = 0) (hs : ∀ x : K, 0 ≤ x → Env.sqrt x * Env.sqrt x = x)
    (a0 a1 a2 a3 lo hi t : K) (hlo : lo ≤ a0) (hhi : a0 ≤ hi) (t0 : 0 ≤ t) (t1 : t ≤ 1) :
    (cubeAxis a0 a1 a2 a3 (cb a0 a1 a2 a3) lo hi).1 ≤ cb a0 a1 a2 a3 t ∧
    cb a0 a1 a2 a3 t ≤ (cubeAxis a0 a1 a2 a3 (cb a0 a1 a2 a3) lo hi).2 :=
  cubeAxis_contains hε hs a0 a1 a2 a3 lo hi t hlo hhi t0 t1

/-- `solveQuadraticFormula` is complete for the purpose of `Bounds`: there are two points such that
`a u² + b u + c` keeps one sign on every interval avoiding them, and each of them lying in (0,1) is
returned. -/
theorem solveQuadratic_complete (hε : (Env.epsilon : K) = 0)
    (hs : ∀ x : K, 0 ≤ x → Env.sqrt x * Env.sqrt x = x) (a b c : K) :
    ∃ r1 r2 : K,
      (∀ p q, p ≤ q → (r1 ≤ p ∨ q ≤ r1) → (r2 ≤ p ∨ q ≤ r2) → SC (fun u => a * u * u + b * u + c) p q) ∧
      (∀ r, (r = r1 ∨ r = r2) → 0 < r → r < 1 →
        ((solveQuadratic a b c).1 = some r ∨ (solveQuadratic a b c).2 = some r)) := by
  obtain ⟨r1, r2, h1, h2, _⟩ := solveQuadratic_spec hε hs a b c
  exact ⟨r1, r2, h1, h2⟩

/-- Bounds contains every point of every line and quadratic segment (paths of M/L/Q/Z commands, any
number of subpaths), exactly, at Epsilon = 0. -/
theorem bounds_contains_curve_quadratic (hε : (Env.epsilon : K) = 0) (cs : List (Cmd K)) (q : Pt K)
    (harc : ∀ c ∈ cs, c.isArc = false) (hcube : ∀ c ∈ cs, c.isCube = false) (h : OnPath cs q) :
    InRect (bounds cs) q :=
  bounds_contains hε _ cs q (fun c hc => ⟨harc c hc, fun h => absurd ((hcube c hc).symm.trans h) Bool.false_ne_true⟩) h

/-- Every side of Bounds is the coordinate of an actual point of the path (M/L/Q/C/Z paths, any
Epsilon ≥ 0): the box is never larger than necessary. -/
theorem bounds_sides_attained (hε : 0 ≤ (Env.epsilon : K)) (cs : List (Cmd K)) (hne : cs ≠ [])
    (harc : ∀ c ∈ cs, c.isArc = false) :
    (∃ q, OnPath cs q ∧ q.x = (bounds cs).x0) ∧ (∃ q, OnPath cs q ∧ q.x = (bounds cs).x1) ∧
    (∃ q, OnPath cs q ∧ q.y = (bounds cs).y0) ∧ (∃ q, OnPath cs q ∧ q.y = (bounds cs).y1) :=
  bounds_att hε _ cs hne harc

/-- Bounds is below every box that contains the path: together with containment it is the smallest
axis-aligned box. -/
theorem bounds_smallest (hε : 0 ≤ (Env.epsilon : K)) (cs : List (Cmd K)) (hne : cs ≠ [])
    (harc : ∀ c ∈ cs, c.isArc = false) (r : Rct K) (hr : ∀ q, OnPath cs q → InRect r q) :
    r.x0 ≤ (bounds cs).x0 ∧ (bounds cs).x1 ≤ r.x1 ∧ r.y0 ≤ (bounds cs).y0 ∧ (bounds cs).y1 ≤ r.y1 :=
  att_le (bounds_att hε _ cs hne harc) hr

/-- `solveQuadraticFormula` (model, Epsilon = 0, `sqrt` a square root on non-negatives): every value it
returns is a root of `a t² + b t + c`. These are the parameters at which `Bounds` evaluates a cubic. -/
theorem solveQuadratic_roots (hε : (Env.epsilon : K) = 0)
    (hs : ∀ x : K, 0 ≤ x → Env.sqrt x * Env.sqrt x = x) (a b c t : K)
    (h : (solveQuadratic a b c).1 = some t ∨ (solveQuadratic a b c).2 = some t) :
    a * t * t + b * t + c = 0 := by
  obtain ⟨_, _, _, _, h3⟩ := solveQuadratic_spec hε hs a b c
  exact h3 t h

/-- The coefficients `Bounds` hands to `solveQuadraticFormula` for a cubic are those of its derivative:
`B'(t) = 3 (a t² + b t + c)`. Hence the candidates are exactly stationary points of the coordinate. -/
theorem cubic_derivative_coefficients (p0 p1 p2 p3 : Pt K) (t : K) :
    (cubicBezierDeriv p0 p1 p2 p3 t).x
      = 3 * ((-p0.x + 3 * p1.x - 3 * p2.x + p3.x) * t * t + (2 * p0.x - 4 * p1.x + 2 * p2.x) * t + (-p0.x + p1.x)) ∧
    (cubicBezierDeriv p0 p1 p2 p3 t).y
      = 3 * ((-p0.y + 3 * p1.y - 3 * p2.y + p3.y) * t * t + (2 * p0.y - 4 * p1.y + 2 * p2.y) * t + (-p0.y + p1.y)) := by
  simp only [cubicBezierDeriv, Point.Mul, Point.Add]; constructor <;> ring

/-! ## arcs: the algebra behind the extreme angles and the radius box

An arc point is `(cx + rx·cosθ·cosφ − ry·sinθ·sinφ, cy + rx·cosθ·sinφ + ry·sinθ·cosφ)`. Writing
`(u, v)` for a direction proportional to `(sinθ, cosθ)`, `dx/dθ ∝ −rx·u·cosφ − ry·v·sinφ` and
`dy/dθ ∝ −rx·u·sinφ + ry·v·cosφ`. `Bounds` takes `θ = atan2(u, v)`. -/

/-- `thetaRight = atan2(−ry·sinφ, rx·cosφ)` is a stationary direction of x. -/
theorem arc_x_extreme_direction (rx ry s c : K) : -rx * (-ry * s) * c - ry * (rx * c) * s = 0 := by ring

/-- the corrected `thetaTop = atan2(ry·cosφ, rx·sinφ)` is a stationary direction of y. -/
theorem arc_y_extreme_direction_fixed (rx ry s c : K) : -rx * (ry * c) * s + ry * (rx * s) * c = 0 := by ring

/-- The defect of finding `bounds-arc-thetatop` (fixed in /repo): the pre-fix `thetaTop = atan2(rx·cosφ, ry·sinφ)` is
stationary for y only if `(ry² − rx²)·sinφ·cosφ = 0`, i.e. for circles and unrotated ellipses. -/
theorem arc_y_extreme_direction_defect (rx ry s c : K) :
    -rx * (rx * c) * s + ry * (ry * s) * c = (ry * ry - rx * rx) * s * c := by ring

/-- …and it is not stationary on a concrete rotated ellipse (rx = 2, ry = 1, sinφ = 3/5, cosφ = 4/5). -/
theorem arc_y_extreme_direction_defect_witness :
    -(2 : ℚ) * (2 * (4 / 5)) * (3 / 5) + 1 * (1 * (3 / 5)) * (4 / 5) ≠ 0 := by norm_num

/-- After the fix of `bounds-arc-thetatop`: the angle the model of `Bounds` tests for the top extreme
of an arc is `atan2 (ry·cosφ) (rx·sinφ)`, the stationary direction of y (`arc_y_extreme_direction_fixed`). -/
theorem bounds_arc_top_angle (s : St K) (rx ry phi : K) (l sw : Bool) (p : Pt K) :
    (boundsStep s (.A rx ry phi l sw p)).ymax =
      max (if angleBetween (Ops.atan2 (ry * (Ops.sincos phi).2) (rx * (Ops.sincos phi).1))
              (ellipseToCenter s.start.x s.start.y rx ry phi l sw p.x p.y).2.2.1
              (ellipseToCenter s.start.x s.start.y rx ry phi l sw p.x p.y).2.2.2 = true
           then max s.ymax ((ellipseToCenter s.start.x s.start.y rx ry phi l sw p.x p.y).2.1 +
              Ops.sqrt (rx * rx * (Ops.sincos phi).1 * (Ops.sincos phi).1 + ry * ry * (Ops.sincos phi).2 * (Ops.sincos phi).2))
           else s.ymax) p.y := rfl


/-- the radius box of FastBounds' ArcTo case: a point of the ellipse is within `max rx ry` of the
centre in each coordinate (`c,s` = cos/sin of the parameter, `C,S` = cos/sin of the rotation). -/
theorem ellipse_in_radius_box (rx ry c s C S : K) (hrx : 0 ≤ rx) (hry : 0 ≤ ry)
    (h1 : c * c + s * s = 1) (h2 : C * C + S * S = 1) :
    |rx * c * C - ry * s * S| ≤ max rx ry ∧ |rx * c * S + ry * s * C| ≤ max rx ry := by
  have y := ellipse_coord_le_radius rx ry c s S (-C) hrx hry h1 (by rw [neg_mul_neg, add_comm]; exact h2)
  rw [mul_neg, sub_neg_eq_add] at y
  exact ⟨ellipse_coord_le_radius rx ry c s C S hrx hry h1 h2, y⟩

/-- Bounds of the translated path is the translated Bounds (lines, quadratics and cubics; any Epsilon). -/
theorem bounds_translate (d : Pt K) (cs : List (Cmd K)) (hne : cs ≠ []) (harc : ∀ c ∈ cs, c.isArc = false) :
    bounds (cs.map (Cmd.mapP (trP d))) = trR d (bounds cs) := by
  rw [trP_eq, trR_eq]
  exact run_equiv cs hne harc fun s c hc => boundsStepG_map _ _ _ s c (harc c hc) (.inr ⟨rfl, rfl⟩)

/-- Bounds commutes with both reflections on paths of lines and quadratics (any Epsilon).
(For cubics the two roots may be returned in either slot of `solveQuadraticFormula`, so the step does not
commute syntactically; `bounds_reflect` covers them at Epsilon = 0.) -/
theorem bounds_reflect_quadratic (cs : List (Cmd K)) (hne : cs ≠ [])
    (harc : ∀ c ∈ cs, c.isArc = false) (hcube : ∀ c ∈ cs, c.isCube = false) :
    bounds (cs.map (Cmd.mapP rxP)) = rxR (bounds cs) ∧ bounds (cs.map (Cmd.mapP ryP)) = ryR (bounds cs) := by
  rw [rxP_eq, rxR_eq, ryP_eq, ryR_eq]
  exact ⟨run_equiv cs hne harc fun s c hc => boundsStepG_map _ _ _ s c (harc c hc) (.inl (hcube c hc)),
    run_equiv cs hne harc fun s c hc => boundsStepG_map _ _ _ s c (harc c hc) (.inl (hcube c hc))⟩

/-! ## FastBounds
The model's `fastStep` is `fastStepG mx`, so `fastBounds` and `fastBoundsFixed` are the same function. -/

/-- FastBounds contains every point of every M/L/Q/C/Z path: the box after a step contains the control
points of its segment, hence the segment (Bernstein hull), and later steps only widen it. -/
theorem fastBounds_contains_curve (cs : List (Cmd K)) (q : Pt K)
    (harc : ∀ c ∈ cs, c.isArc = false) (h : OnPath cs q) : InRect (fastBounds cs) q :=
  run_contains (fastStep_start max) fastStep_mono (fun s c q _ hs => fastStep_seg s s.start c q hs) (fun _ h => h) cs q harc h

/-- FastBounds contains Bounds for every M/L/Q/C/Z path (any Epsilon ≥ 0). -/
theorem fast_contains_bounds (hε : 0 ≤ (Env.epsilon : K)) (cs : List (Cmd K))
    (harc : ∀ c ∈ cs, c.isArc = false) :
    (fastBounds cs).x0 ≤ (bounds cs).x0 ∧ (bounds cs).x1 ≤ (fastBounds cs).x1 ∧
    (fastBounds cs).y0 ≤ (bounds cs).y0 ∧ (bounds cs).y1 ≤ (fastBounds cs).y1 := by
  cases cs with
  | nil => exact ⟨le_refl _, le_refl _, le_refl _, le_refl _⟩
  | cons c cs =>
    exact bounds_smallest hε _ (List.cons_ne_nil _ _) harc _ fun q hq => fastBounds_contains_curve _ q harc hq

/-- FastBounds of the translated path is the translated FastBounds. -/
theorem fastBounds_translate (d : Pt K) (cs : List (Cmd K)) (hne : cs ≠ []) (harc : ∀ c ∈ cs, c.isArc = false) :
    fastBounds (cs.map (Cmd.mapP (trP d))) = trR d (fastBounds cs) := by
  rw [trP_eq, trR_eq]
  exact run_equiv cs hne harc fun s c hc => fastStep_map _ _ s c (harc c hc)

/-- FastBounds commutes with the reflections x ↦ −x and y ↦ −y. -/
theorem fastBounds_reflect (cs : List (Cmd K)) (hne : cs ≠ []) (harc : ∀ c ∈ cs, c.isArc = false) :
    fastBounds (cs.map (Cmd.mapP rxP)) = rxR (fastBounds cs) ∧ fastBounds (cs.map (Cmd.mapP ryP)) = ryR (fastBounds cs) := by
  rw [rxP_eq, rxR_eq, ryP_eq, ryR_eq]
  exact ⟨run_equiv cs hne harc fun s c hc => fastStep_map _ _ s c (harc c hc),
    run_equiv cs hne harc fun s c hc => fastStep_map _ _ s c (harc c hc)⟩

@[instance_reducible] def envQ : Env ℚ := ⟨0, 0, 0, id, id, id, fun _ _ => 0, id, fun _ _ => 0, id, id, fun _ _ => 0, fun _ => false⟩
@[instance_reducible] def arcQ : ArcFns ℚ := ⟨fun _ _ => 0⟩
attribute [local instance] envQ arcQ
/-- the witness of finding `fastbounds-cubic-minmax`, `M0 0 C0 1 10 0 0 2`, has the control hull (0,0)-(10,2) -/
example : fastBounds ([.M ⟨0, 0⟩, .C ⟨0, 1⟩ ⟨10, 0⟩ ⟨0, 2⟩] : List (Cmd ℚ)) = (⟨0, 0, 10, 2⟩ : Rct ℚ) := by
  simp [fastBounds, run, fastStep, fastStepG, St.init, St.rect, Cmd.firstPt]


/-- non-vacuity of the `_quadratic` theorems: a path with a quadratic and two subpaths satisfies their
hypotheses -/
example : (∀ c ∈ ([.M ⟨0, 0⟩, .Q ⟨10, 10⟩ ⟨20, 0⟩, .Z ⟨0, 0⟩, .M ⟨1, 1⟩, .L ⟨2, 3⟩] : List (Cmd ℚ)), c.isArc = false ∧ c.isCube = false) := by
  decide

/-- Bounds is the tight bounding box of an M/L/Q/C/Z path: it contains every point and each of its
four sides is attained. (Tight boxes are unique: `tight_unique`.) -/
theorem bounds_tight (hε : (Env.epsilon : K) = 0) (hs : ∀ x : K, 0 ≤ x → Env.sqrt x * Env.sqrt x = x)
    (cs : List (Cmd K)) (hne : cs ≠ []) (harc : ∀ c ∈ cs, c.isArc = false) :
    TightBox (OnPath cs) (bounds cs) :=
  .intro (fun q hq => bounds_contains_curve hε hs cs q harc hq) (bounds_att (le_of_eq hε.symm) _ cs hne harc)

/-- FastBounds is exactly the bounding box of the control polygon's vertices (MoveTo points included). -/
theorem fastBounds_is_control_hull (cs : List (Cmd K)) (hne : cs ≠ []) (harc : ∀ c ∈ cs, c.isArc = false) :
    TightBox (CtrlPts cs) (fastBounds cs) := by
  refine .intro (fast_contains_ctrl cs) ?_
  cases cs with
  | nil => exact absurd rfl hne
  | cons c cs =>
    exact fast_fold_att _ cs _ (List.forall_mem_cons.1 harc).2 (att_init _ _ (Or.inl rfl))
      fun c' hc' q hq => Or.inr ⟨c', hc', hq⟩

/-- Bounds of the image under an axis-aligned affine map `m` (translation, axis reflections and
scalings, x↔y swap, rotations by multiples of 90°, even degenerate ones) is the generated
`Rect.Transform` of Bounds — lines, quadratics and cubics. -/
theorem bounds_affine (hε : (Env.epsilon : K) = 0) (hs : ∀ x : K, 0 ≤ x → Env.sqrt x * Env.sqrt x = x)
    (m : Mat K) (hm : AxisAligned m) (cs : List (Cmd K)) (hne : cs ≠ []) (harc : ∀ c ∈ cs, c.isArc = false) :
    bounds (cs.map (Cmd.mapP (Matrix.Dot m))) = Rect.Transform (bounds cs) m :=
  tight_unique (bounds_tight hε hs _ (by simpa using hne) (noArc_map _ cs harc))
    (tight_congr (onPath_map m cs harc) (tight_image m hm (bounds_tight hε hs cs hne harc)))

theorem fastBounds_affine (m : Mat K) (hm : AxisAligned m) (cs : List (Cmd K)) (hne : cs ≠ [])
    (harc : ∀ c ∈ cs, c.isArc = false) :
    fastBounds (cs.map (Cmd.mapP (Matrix.Dot m))) = Rect.Transform (fastBounds cs) m :=
  tight_unique (fastBounds_is_control_hull _ (by simpa using hne) (noArc_map _ cs harc))
    (tight_congr (ctrlPts_map _ cs harc) (tight_image m hm (fastBounds_is_control_hull cs hne harc)))

/-- rotation by 90° (x,y) ↦ (−y,x): the box rotates with the path -/
def rot90 : Mat K := ⟨0, -1, 0, 1, 0, 0⟩

theorem rot90_box (r : Rct K) (h1 : r.x0 ≤ r.x1) (h2 : r.y0 ≤ r.y1) :
    Rect.Transform r (rot90 : Mat K) = ⟨-r.y1, r.x0, -r.y0, r.x1⟩ := by
  rw [rectTransform_anti r rot90 rfl rfl]
  simp only [rot90, add_zero, neg_mul, one_mul, min_eq_right (neg_le_neg h2), max_eq_left (neg_le_neg h2),
    min_eq_left h1, max_eq_right h1]

theorem bounds_rot90 (hε : (Env.epsilon : K) = 0) (hs : ∀ x : K, 0 ≤ x → Env.sqrt x * Env.sqrt x = x)
    (cs : List (Cmd K)) (hne : cs ≠ []) (harc : ∀ c ∈ cs, c.isArc = false) :
    bounds (cs.map (Cmd.mapP (Matrix.Dot rot90))) = Rect.Transform (bounds cs) rot90 ∧
    fastBounds (cs.map (Cmd.mapP (Matrix.Dot rot90))) = Rect.Transform (fastBounds cs) rot90 :=
  ⟨bounds_affine hε hs rot90 (Or.inr ⟨rfl, rfl⟩) cs hne harc, fastBounds_affine rot90 (Or.inr ⟨rfl, rfl⟩) cs hne harc⟩

/-- reflections with cubics included (complements `bounds_reflect_quadratic`, which needs no
hypothesis on Epsilon) -/
theorem bounds_reflect (hε : (Env.epsilon : K) = 0) (hs : ∀ x : K, 0 ≤ x → Env.sqrt x * Env.sqrt x = x)
    (cs : List (Cmd K)) (hne : cs ≠ []) (harc : ∀ c ∈ cs, c.isArc = false) :
    bounds (cs.map (Cmd.mapP (Matrix.Dot ⟨-1, 0, 0, 0, 1, 0⟩))) = Rect.Transform (bounds cs) ⟨-1, 0, 0, 0, 1, 0⟩ ∧
    bounds (cs.map (Cmd.mapP (Matrix.Dot ⟨1, 0, 0, 0, -1, 0⟩))) = Rect.Transform (bounds cs) ⟨1, 0, 0, 0, -1, 0⟩ :=
  ⟨bounds_affine hε hs _ (Or.inl ⟨rfl, rfl⟩) cs hne harc, bounds_affine hε hs _ (Or.inl ⟨rfl, rfl⟩) cs hne harc⟩

/-- Cauchy–Schwarz: the four values `cx ± dx`, `cy ± dy` that `Bounds` applies for an arc
(`dx = √(rx²cos²φ + ry²sin²φ)`, `dy = √(rx²sin²φ + ry²cos²φ)`) bound every point of the ellipse. -/
theorem arc_within_extremes (rx ry c s C S Dx Dy : K) (h1 : c * c + s * s = 1)
    (hDx : Dx * Dx = rx * rx * C * C + ry * ry * S * S) (hDx0 : 0 ≤ Dx)
    (hDy : Dy * Dy = rx * rx * S * S + ry * ry * C * C) (hDy0 : 0 ≤ Dy) :
    |rx * c * C - ry * s * S| ≤ Dx ∧ |rx * c * S + ry * s * C| ≤ Dy := by
  have y := ellipse_coord_le rx ry c s S (-C) Dy h1 (by rw [hDy]; ring) hDy0
  rw [mul_neg, sub_neg_eq_add] at y
  exact ⟨ellipse_coord_le rx ry c s C S Dx h1 hDx hDx0, y⟩

/-- …with equality at the directions `Bounds` tests: `(sinθ,cosθ) ∝ (−ry·sinφ, rx·cosφ)`
(`thetaRight`) gives `x = cx + dx`, `(ry·cosφ, rx·sinφ)` (`thetaTop`) gives `y = cy + dy`. -/
theorem arc_extremes_attained (rx ry C S Dx Dy : K)
    (hDx : Dx * Dx = rx * rx * C * C + ry * ry * S * S) (hDx0 : Dx ≠ 0)
    (hDy : Dy * Dy = rx * rx * S * S + ry * ry * C * C) (hDy0 : Dy ≠ 0) :
    ((rx * C / Dx) * (rx * C / Dx) + (-ry * S / Dx) * (-ry * S / Dx) = 1 ∧
      rx * (rx * C / Dx) * C - ry * (-ry * S / Dx) * S = Dx) ∧
    ((rx * S / Dy) * (rx * S / Dy) + (ry * C / Dy) * (ry * C / Dy) = 1 ∧
      rx * (rx * S / Dy) * S + ry * (ry * C / Dy) * C = Dy) := by
  have y := extreme_attained rx ry S (-C) Dy (by rw [hDy]; ring) hDy0
  simp only [neg_mul, mul_neg, neg_neg, sub_neg_eq_add] at y
  exact ⟨extreme_attained rx ry C S Dx hDx hDx0, y⟩

/-- `angleNorm θ` lies in `[0, 2π)` and differs from `θ` by a whole number of turns
(for any `math.Mod` satisfying `FmodSpec`). -/
theorem angleNorm_range (hf : FmodSpec K) (hpi : 0 < (Env.pi : K)) (θ : K) :
    0 ≤ angleNorm θ ∧ angleNorm θ < 2 * Env.pi ∧ ∃ k : ℤ, θ = angleNorm θ + k * (2 * Env.pi) :=
  angleNorm_spec hf hpi θ

/-- The angle-range test of `Bounds` (ends in either order, range + slack shorter than a full turn):
`angleBetween θ a b` iff a whole-turn translate of `θ` lies in `[min a b − ε, max a b + ε]`. -/
theorem angleBetween_membership (hf : FmodSpec K) (hpi : 0 < (Env.pi : K)) (θ a b : K)
    (hε : 0 ≤ (Env.epsilon : K)) (hw : max a b - min a b + 2 * Env.epsilon < 2 * Env.pi) :
    angleBetween θ a b = true ↔
      ∃ k : ℤ, min a b - Env.epsilon ≤ θ + k * (2 * Env.pi) ∧ θ + k * (2 * Env.pi) ≤ max a b + Env.epsilon := by
  rcases le_total a b with h | h
  · rw [min_eq_left h, max_eq_right h] at hw ⊢
    exact angleBetween_iff_le hf hpi θ a b h hε hw
  · rw [min_eq_right h, max_eq_left h] at hw ⊢
    rw [angleBetween_symm]
    exact angleBetween_iff_le hf hpi θ b a h hε hw

theorem angleBetween_ends_swap (θ a b : K) : angleBetween θ a b = angleBetween θ b a := angleBetween_symm θ a b

theorem angleBetween_whole_turns (hf : FmodSpec K) (hpi : 0 < (Env.pi : K)) (θ a b : K) (j : ℤ)
    (hε : 0 ≤ (Env.epsilon : K)) (hw : max a b - min a b + 2 * Env.epsilon < 2 * Env.pi) :
    angleBetween (θ + j * (2 * Env.pi)) a b = angleBetween θ a b := by
  rw [Bool.eq_iff_iff, angleBetween_membership hf hpi _ a b hε hw, angleBetween_membership hf hpi θ a b hε hw]
  have e : ∀ k : ℤ, θ + j * (2 * Env.pi) + k * (2 * Env.pi) = θ + ((k + j : ℤ) : K) * (2 * Env.pi) :=
    fun k => by push_cast; ring
  constructor
  · rintro ⟨k, h⟩; exact ⟨k + j, e k ▸ h⟩
  · rintro ⟨k, h⟩; exact ⟨k - j, by rwa [e, sub_add_cancel]⟩

/-- One command, any kind (line, quadratic, cubic, ARC): if the FastBounds state encloses the Bounds
state before the command it does so after it. For an arc: radii ≥ 0, `sincos` on the unit circle,
exact `sqrt`, end point within `max rx ry` of the computed centre (`SegOk`). -/
theorem fast_contains_bounds_step (hε : 0 ≤ (Env.epsilon : K)) (sf sb : St K) (c : Cmd K)
    (hc : SegOk sb.start c) (h : Sim sf sb) : Sim (fastStep sf c) (boundsStep sb c) :=
  step_sim hε _ sf sb c hc h

/-- FastBounds ⊇ Bounds for EVERY path — lines, quadratics, cubics and arcs, any number of subpaths,
any Epsilon ≥ 0. -/
theorem fast_contains_bounds_all (hε : 0 ≤ (Env.epsilon : K)) (cs : List (Cmd K))
    (hok : ∀ c cs', cs = c :: cs' → PathOk c.firstPt cs') :
    (fastBounds cs).x0 ≤ (bounds cs).x0 ∧ (bounds cs).x1 ≤ (fastBounds cs).x1 ∧
    (fastBounds cs).y0 ≤ (bounds cs).y0 ∧ (bounds cs).y1 ≤ (fastBounds cs).y1 := by
  cases cs with
  | nil => exact ⟨le_refl _, le_refl _, le_refl _, le_refl _⟩
  | cons c cs => exact (fold_sim hε true cs _ _ (hok c cs rfl) (.init c.firstPt)).sides

/-- Appending never shrinks FastBounds: whatever is appended to a non-empty path (arcs included),
every point of the old rectangle is in the new one — `FastBounds` of a prefix is a valid reject test
for the whole path. -/
theorem fastBounds_append_grows (cs ds : List (Cmd K)) (hne : cs ≠ []) (q : Pt K)
    (h : InRect (fastBounds cs) q) : InRect (fastBounds (cs ++ ds)) q :=
  run_append_grows fastStep_mono cs ds hne q h

/-- the same for `Bounds` (every Epsilon, arcs included): each step only widens the running box -/
theorem bounds_append_grows (cs ds : List (Cmd K)) (hne : cs ≠ []) (q : Pt K)
    (h : InRect (bounds cs) q) : InRect (bounds (cs ++ ds)) q :=
  run_append_grows (boundsStep_mono true) cs ds hne q h

/-- non-vacuity of `fastBounds_append_grows`: a point inside the box of a two-command path -/
example : InRect (fastBounds ([.M ⟨0, 0⟩, .L ⟨1, 2⟩] : List (Cmd ℚ))) ⟨1, 1⟩ := by
  simp [fastBounds, run, fastStep, fastStepG, St.init, St.rect, Cmd.firstPt, InRect]

/-- Soundness of the verdict: `ok` means every point of the sampled box is within `tolC` of Bounds,
each side of Bounds within `tolT` of the sampled extreme, Bounds within `tolC` inside FastBounds. -/
theorem verdict_ok_sound (tolC tolT : K) (s b f : Rct K) (h : verdict tolC tolT s b f = Verdict.ok) :
    (∀ q, InRect s q → b.x0 - tolC ≤ q.x ∧ q.x ≤ b.x1 + tolC ∧ b.y0 - tolC ≤ q.y ∧ q.y ≤ b.y1 + tolC) ∧
    (|b.x0 - s.x0| ≤ tolT ∧ |b.x1 - s.x1| ≤ tolT ∧ |b.y0 - s.y0| ≤ tolT ∧ |b.y1 - s.y1| ≤ tolT) ∧
    (f.x0 - tolC ≤ b.x0 ∧ b.x1 ≤ f.x1 + tolC ∧ f.y0 - tolC ≤ b.y0 ∧ b.y1 ≤ f.y1 + tolC) :=
  verdict_sound tolC tolT s b f h

theorem verdict_monotone (tolC tolT tolC' tolT' : K) (hC : tolC ≤ tolC') (hT : tolT ≤ tolT') (s b f : Rct K)
    (h : verdict tolC tolT s b f = Verdict.ok) : verdict tolC' tolT' s b f = Verdict.ok :=
  verdict_mono tolC tolT tolC' tolT' hC hT s b f h

theorem verdict_translation_invariant (tolC tolT : K) (d : Pt K) (s b f : Rct K) :
    verdict tolC tolT (trR d s) (trR d b) (trR d f) = Verdict.ok ↔ verdict tolC tolT s b f = Verdict.ok := by
  rw [verdict_ok_iff, verdict_ok_iff]
  exact and_congr (axisOk_translate ..) (axisOk_translate ..)

/-- at zero tolerance the verdict accepts exactly "Bounds = the observed box, inside FastBounds" -/
theorem verdict_zero_tolerance (s b f : Rct K) (hx : s.x0 ≤ s.x1) (hy : s.y0 ≤ s.y1) :
    verdict 0 0 s b f = Verdict.ok ↔ (b = s ∧ f.x0 ≤ b.x0 ∧ b.x1 ≤ f.x1 ∧ f.y0 ≤ b.y0 ∧ b.y1 ≤ f.y1) := by
  rw [verdict_ok_iff, axisOk_zero, axisOk_zero]
  cases b; cases s
  simp only [Rct.mk.injEq]
  constructor
  · rintro ⟨⟨⟨e1, e2⟩, p1, p2⟩, ⟨e3, e4⟩, p3, p4⟩; exact ⟨⟨e1, e3, e2, e4⟩, p1, p2, p3, p4⟩
  · rintro ⟨⟨e1, e3, e2, e4⟩, p1, p2, p3, p4⟩; exact ⟨⟨⟨e1, e2⟩, p1, p2⟩, ⟨e3, e4⟩, p3, p4⟩

/-- The model passes its own specification: if the observed box is the true tight box of an
M/L/Q/C/Z path then the verdict on the model's `bounds`/`fastBounds` is `ok` at tolerance zero. -/
theorem verdict_accepts_model (hε : (Env.epsilon : K) = 0) (hs : ∀ x : K, 0 ≤ x → Env.sqrt x * Env.sqrt x = x)
    (cs : List (Cmd K)) (hne : cs ≠ []) (harc : ∀ c ∈ cs, c.isArc = false)
    (obs : Rct K) (hobs : TightBox (OnPath cs) obs) :
    verdict 0 0 obs (bounds cs) (fastBounds cs) = Verdict.ok := by
  obtain rfl : bounds cs = obs := tight_unique (bounds_tight hε hs cs hne harc) hobs
  have fc := fast_contains_bounds (le_of_eq hε.symm) cs harc
  rw [verdict_ok_iff, axisOk_zero, axisOk_zero]
  exact ⟨⟨⟨rfl, rfl⟩, fc.1, fc.2.1⟩, ⟨rfl, rfl⟩, fc.2.2⟩

section nonvacuity
attribute [local instance] envR arcR

noncomputable def samplePath : List (Cmd ℝ) :=
  [.M ⟨0, 0⟩, .Q ⟨10, 10⟩ ⟨20, 0⟩, .C ⟨0, 1⟩ ⟨10, 0⟩ ⟨0, 2⟩, .Z ⟨0, 0⟩, .M ⟨1, 1⟩, .L ⟨2, 3⟩]

example : TightBox (OnPath samplePath) (bounds samplePath) :=
  bounds_tight envR_eps envR_sqrt samplePath (List.cons_ne_nil _ _) (by decide)

example (q : Pt ℝ) (h : OnPath samplePath q) : InRect (bounds samplePath) q :=
  bounds_contains_curve envR_eps envR_sqrt samplePath q (by decide) h

example : bounds (samplePath.map (Cmd.mapP (Matrix.Dot rot90))) = Rect.Transform (bounds samplePath) rot90 :=
  (bounds_rot90 envR_eps envR_sqrt samplePath (List.cons_ne_nil _ _) (by decide)).1

example (θ : ℝ) : 0 ≤ angleNorm θ ∧ angleNorm θ < 2 * Env.pi ∧ ∃ k : ℤ, θ = angleNorm θ + k * (2 * Env.pi) :=
  angleNorm_range fmodSpecR envR_pi θ

example (θ : ℝ) : angleBetween θ 1 2 = true ↔ ∃ k : ℤ, (1 : ℝ) ≤ θ + k * (2 * 3) ∧ θ + k * (2 * 3) ≤ 2 := by
  have := angleBetween_membership fmodSpecR envR_pi θ 1 2 (le_of_eq envR_eps.symm)
    (by rw [envR_eps]; show max (1:ℝ) 2 - min 1 2 + 2 * 0 < 2 * 3; norm_num)
  rw [envR_eps] at this
  simpa [show (Env.pi : ℝ) = 3 from rfl] using this

/-- the shortcut branch of `ellipseToCenter` puts the centre of the half circle `M1 0 A1 1 0 0 1 -1 0` at the
origin -/
theorem halfCircle_center : ellipseToCenter (1 : ℝ) 0 1 1 0 false true (-1) 0 = (0, 0, 0, 0 + Env.pi) := by
  have e : (Env.epsilon : ℝ) = 0 := rfl
  have h2 : |(-1 : ℝ) - 1| = 2 := by norm_num [abs_of_neg]
  simp [ellipseToCenter, GenK.Equal, e, h2]
  norm_num

/-- `SegOk`/`PathOk` are satisfiable (by that half circle), so `fast_contains_bounds_all` applies to it -/
example : PathOk (⟨1, 0⟩ : Pt ℝ) [.A 1 1 0 false true ⟨-1, 0⟩] := by
  refine ⟨⟨zero_le_one, zero_le_one, ?_, envR_sqrt', ?_, ?_⟩, trivial⟩
  · show (1 : ℝ) * 1 + 0 * 0 = 1
    norm_num
  · rw [halfCircle_center]; norm_num
  · rw [halfCircle_center]; norm_num
end nonvacuity

end C08
